/-
  Redress.Lemmas.SimXc — the retry loop never looks at (or touches) the policy's `ExecutionContext`:
  `runCall` / `runExecute` commute with replacing `World.xc` (C12, T2).  Replacing it is a `recast` that is
  `Blind`, so this is an instance of the `*_comm` lemmas of `EqvProcs.lean`.
-/
import Redress.Lemmas.EqvProcs

namespace Redress
open Twin Retry

/-- replace the `ExecutionContext` -/
def θ (c : XCtx) (w : World) : World := { w with xc := c }

/-- `x` commutes with replacing the `ExecutionContext` (`World.xc`, hence the name) -/
structure Xq (c : XCtx) (x : M α) : Prop where
  eq : ∀ w, x (θ c w) = mapRes (θ c) (x w)

section
variable {xc0 : XCtx}

theorem Xq.askHook (r : Req) : Xq xc0 (askHook r) := by
  refine ⟨fun w => ?_⟩
  cases hw : w.answers with
  | nil => rw [askHook_nil r w hw, askHook_nil r (θ xc0 w) hw]; rfl
  | cons a rest =>
    rw [askHook_cons r w a rest hw, askHook_cons r (θ xc0 w) a rest hw]
    unfold askHookStep
    simp only [show (θ xc0 w).silent = w.silent from rfl]
    generalize (if w.silent = true then a.silenced else a) = a'
    cases a' <;> rfl

theorem θ_blind : Blind id id (fun _ => xc0) where
  cons _ _ _ _ := rfl
  site r _ := Commutes.tryC (Commutes.bind ⟨(Xq.askHook r).eq⟩ (fun _ => Commutes.pure _)) swallow_comm

theorem Xq.of_comm {x : M α} (h : Commutes (recast id id (fun _ => xc0)) x) : Xq xc0 x := ⟨h.eq⟩

theorem getNow_xq : Xq xc0 getNow := Xq.of_comm getNow_comm

theorem askAbortIf_xq : Xq xc0 (ask .abortIf) := Xq.of_comm (Commutes.ask θ_blind _ rfl)

theorem runCall_xq (cfg : Cfg) : Xq xc0 (runCall cfg) := Xq.of_comm (runCall_comm θ_blind cfg)

theorem runExecute_xq (cfg : Cfg) : Xq xc0 (runExecute cfg) := Xq.of_comm (runExecute_comm θ_blind cfg)

end

end Redress
