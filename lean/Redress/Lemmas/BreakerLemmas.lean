/-
  Redress.Lemmas.BreakerLemmas — helper lemmas for C06 / C07 (breaker level).

  * what each operation does in each state (`allow_closed`, `recordFailure_closed`, …);
  * `prune` (the pop-left loop of `_prune`) as a filter on a sorted list (`Lemmas/Window`); `kept`;
  * the refinement invariant `Inv` between a model state and the history-determined state,
    its preservation by every operation (`step_refines`) and along histories (`run_refines`);
  * the monitor `historyOk` accepts the model's own records (`checkFrom_model`).
-/
import Redress.Spec.Breaker
import Redress.Lemmas.Window
namespace Redress.Breaker
open List

/-! ### The operations, state by state -/

theorem allow_closed (c : Cfg) {s : St} (h : s.state = .closed) (now : Nat) :
    allow c s now = ((true, .closed, none), s) := by
  simp [allow, h]

/-- `allow()` while OPEN, `opened_at` being set (as it is in every reachable OPEN state). -/
theorem allow_opened (c : Cfg) {s : St} {t0 : Nat} (h : s.state = .opened)
    (hat : s.openedAt = some t0) (now : Nat) :
    allow c s now =
      if t0 + c.recovery ≤ now then
        ((true, .halfOpen, some .circuitHalfOpen), { s with state := .halfOpen, probe := true })
      else ((false, .opened, some .circuitRejected), s) := by
  cases s
  simp only at h hat
  subst h hat
  simp [allow]

theorem allow_halfOpen (c : Cfg) {s : St} (h : s.state = .halfOpen) (now : Nat) :
    allow c s now =
      if s.probe then ((false, .halfOpen, some .circuitRejected), s)
      else ((true, .halfOpen, none), { s with probe := true }) := by
  simp only [allow, h]

theorem recordSuccess_halfOpen {s : St} (h : s.state = .halfOpen) :
    recordSuccess s = (some .circuitClosed, St.init) := by
  simp [recordSuccess, h, clear, St.init]

theorem recordSuccess_of_ne {s : St} (h : s.state ≠ .halfOpen) : recordSuccess s = (none, s) := by
  cases hs : s.state <;> simp_all [recordSuccess]

theorem recordCancel_halfOpen {s : St} (h : s.state = .halfOpen) :
    recordCancel s = { s with probe := false } := by
  simp [recordCancel, h]

theorem recordCancel_of_ne {s : St} (h : s.state ≠ .halfOpen) : recordCancel s = s := by
  cases hs : s.state <;> simp_all [recordCancel]

theorem recordFailure_halfOpen (c : Cfg) {s : St} (h : s.state = .halfOpen) (k : EClass)
    (now : Nat) : recordFailure c s k now = (some .circuitOpened, St.openedAtTime now) := by
  simp [recordFailure, h, clear, St.openedAtTime]

theorem recordFailure_opened (c : Cfg) {s : St} (h : s.state = .opened) (k : EClass) (now : Nat) :
    recordFailure c s k now = (none, s) := by
  simp [recordFailure, h]

/-- `_note_failure`: the verdict is the disjunction of the two threshold tests (the code tests the
class bucket first and returns early); only the deque and the bucket of `k` change. -/
theorem noteFailure_eq (c : Cfg) (s : St) (k : EClass) (now : Nat) :
    noteFailure c s k now =
      (decide (c.failureThreshold ≤ (prune c.window now s.failures ++ [now]).length) ||
        (match c.classThreshold k with
        | some th => decide (th ≤ (prune c.window now (s.classFailures k) ++ [now]).length)
        | none => false),
       { s with
         failures := prune c.window now s.failures ++ [now]
         classFailures := fun k' =>
           if k' = k ∧ (c.classThreshold k).isSome then
             prune c.window now (s.classFailures k) ++ [now]
           else s.classFailures k' }) := by
  unfold noteFailure
  cases c.classThreshold k with
  | none => simp
  | some th =>
    simp only [ge_iff_le, Option.isSome_some, and_true]
    split <;> rename_i h <;> simp only [h, decide_true, decide_false, Bool.or_true, Bool.or_false]

theorem noteFailure_state (c : Cfg) (s : St) (k : EClass) (now : Nat) :
    (noteFailure c s k now).2.state = s.state := by
  rw [noteFailure_eq]

/-- `record_failure` on a CLOSED breaker, in the shape of the specification's `step`. -/
theorem recordFailure_closed (c : Cfg) {s : St} (h : s.state = .closed) (k : EClass) (now : Nat) :
    recordFailure c s k now =
      if (c.tripOn k && (noteFailure c s k now).1) = true then
        (some .circuitOpened, { St.openedAtTime now with probe := s.probe })
      else if c.tripOn k = true then (none, (noteFailure c s k now).2)
      else (none, s) := by
  have hp : (noteFailure c s k now).2.probe = s.probe := by rw [noteFailure_eq]
  cases htr : c.tripOn k <;> cases hn : (noteFailure c s k now).1 <;>
    simp [recordFailure, h, htr, hn, clear, St.openedAtTime, hp]

/-- `record_failure` either opens the circuit at `now` or reports nothing and keeps the state kind. -/
theorem recordFailure_cases (c : Cfg) (s : St) (k : EClass) (now : Nat) :
    ((recordFailure c s k now).1 = some .circuitOpened ∧
      (recordFailure c s k now).2.state = .opened ∧
      (recordFailure c s k now).2.openedAt = some now) ∨
    ((recordFailure c s k now).1 = none ∧ (recordFailure c s k now).2.state = s.state) := by
  cases hs : s.state with
  | halfOpen => rw [recordFailure_halfOpen c hs]; exact .inl ⟨rfl, rfl, rfl⟩
  | opened => rw [recordFailure_opened c hs]; exact .inr ⟨rfl, hs⟩
  | closed =>
    rw [recordFailure_closed c hs]
    split
    · exact .inl ⟨rfl, rfl, rfl⟩
    · split
      · exact .inr ⟨rfl, (noteFailure_state c s k now).trans hs⟩
      · exact .inr ⟨rfl, hs⟩

/-- No `record_*` leaves the breaker HALF_OPEN with the probe flag set. -/
theorem record_not_probing (c : Cfg) (s : St) (op : Op) (hop : ∀ now, op ≠ .allow now) :
    ¬ ((mstep c s op).2.state = .halfOpen ∧ (mstep c s op).2.probe = true) := by
  by_cases hs : s.state = .halfOpen
  · cases op with
    | allow now => exact absurd rfl (hop now)
    | success => simp [mstep, recordSuccess_halfOpen hs, St.init]
    | cancel => simp [mstep, recordCancel_halfOpen hs]
    | failure k now => simp [mstep, recordFailure_halfOpen c hs, St.openedAtTime]
  · cases op with
    | allow now => exact absurd rfl (hop now)
    | success => simp [mstep, recordSuccess_of_ne hs, hs]
    | cancel => simp [mstep, recordCancel_of_ne hs, hs]
    | failure k now =>
      rcases recordFailure_cases c s k now with ⟨-, h, -⟩ | ⟨-, h⟩ <;> simp [mstep, h, hs]

/-! ### The two branching steps of the specification -/

theorem step_closed_failure (c : Cfg) (log : List (EClass × Nat)) (k : EClass) (now : Nat) :
    step c (.closed log) (.failure k now) =
      if opensLog c log k now then (.event (some .circuitOpened), .opened now)
      else if c.tripOn k then (.event none, .closed (log ++ [(k, now)]))
      else (.event none, .closed log) := rfl

theorem step_opened_allow (c : Cfg) (t0 now : Nat) :
    step c (.opened t0) (.allow now) =
      if now < t0 + c.recovery then (.decision false .opened (some .circuitRejected), .opened t0)
      else (.decision true .halfOpen (some .circuitHalfOpen), .halfOpen true) := rfl

theorem prune_eq_dropWhile (w now : Nat) (l : List Nat) :
    prune w now l = l.dropWhile (fun x => decide (x + w ≤ now)) :=
  Window.eq_dropWhile (prune w now) rfl (fun _ _ => rfl) l

theorem prune_eq_filter (w now : Nat) (l : List Nat) (h : l.Pairwise (· ≤ ·)) :
    prune w now l = l.filter (fun x => decide (now < x + w)) := by
  rw [prune_eq_dropWhile, Window.dropWhile_eq_filter w now h]

theorem getLastD_le (T : List Nat) (clk : Nat) (h : ∀ x ∈ T, x ≤ clk) : T.getLastD 0 ≤ clk := by
  rcases List.eq_nil_or_concat T with rfl | ⟨L, b, rfl⟩
  · simp
  · simp only [List.concat_eq_append] at *
    rw [List.getLastD_concat]; exact h b (by simp)

theorem kept_nil (w : Nat) : kept w [] = [] := rfl

theorem kept_sublist (w : Nat) (T : List Nat) : kept w T <+ T := List.filter_sublist

theorem kept_pairwise (w : Nat) (T : List Nat) (hs : T.Pairwise (· ≤ ·)) :
    (kept w T).Pairwise (· ≤ ·) := hs.filter _

/-- `kept w T` is what the pop-left loop leaves of `T` at its last instant. -/
theorem kept_suffix (w : Nat) (T : List Nat) (hs : T.Pairwise (· ≤ ·)) : kept w T <:+ T := by
  rw [kept, ← Window.dropWhile_eq_filter w _ hs]
  exact List.dropWhile_suffix _

theorem prune_kept (w now : Nat) (T : List Nat) (hs : T.Pairwise (· ≤ ·))
    (hle : ∀ x ∈ T, x ≤ now) :
    prune w now (kept w T) = T.filter (fun x => decide (now < x + w)) := by
  rw [prune_eq_dropWhile, kept, Window.dropWhile_filter w (getLastD_le T now hle) hs]

theorem kept_concat (w now : Nat) (T : List Nat) (hw : 0 < w) :
    kept w (T ++ [now]) = T.filter (fun x => decide (now < x + w)) ++ [now] := by
  simp [kept, List.filter_append, hw]

theorem length_filter_window (w now : Nat) (T : List Nat) :
    (T.filter (fun x => decide (now < x + w))).length = inWindow w now T := by
  simp [inWindow, List.countP_eq_length_filter]

/-- What `_note_failure` does to a deque (or bucket) that holds `kept w T`: the new deque holds
`kept` of the extended list, and its length is the number of entries of `T` inside the window at
`now`, plus one. -/
theorem prune_kept_concat (w now : Nat) (T : List Nat) (hw : 0 < w) (hs : T.Pairwise (· ≤ ·))
    (hle : ∀ x ∈ T, x ≤ now) :
    prune w now (kept w T) ++ [now] = kept w (T ++ [now]) ∧
    (prune w now (kept w T) ++ [now]).length = inWindow w now T + 1 := by
  rw [prune_kept w now T hs hle, kept_concat w now T hw, List.length_append, length_filter_window]
  exact ⟨rfl, rfl⟩

@[simp] theorem times_nil : times [] = [] := rfl
@[simp] theorem timesOf_nil (k : EClass) : timesOf k [] = [] := rfl

@[simp] theorem times_concat (log : List (EClass × Nat)) (k : EClass) (now : Nat) :
    times (log ++ [(k, now)]) = times log ++ [now] := by simp [times]

@[simp] theorem timesOf_concat_self (log : List (EClass × Nat)) (k : EClass) (now : Nat) :
    timesOf k (log ++ [(k, now)]) = timesOf k log ++ [now] := by simp [timesOf, List.filter_append]

theorem timesOf_concat_ne (log : List (EClass × Nat)) (k k' : EClass) (now : Nat) (h : k' ≠ k) :
    timesOf k' (log ++ [(k, now)]) = timesOf k' log := by
  simp [timesOf, List.filter_append, h.symm]

theorem timesOf_sublist (k : EClass) (log : List (EClass × Nat)) : timesOf k log <+ times log :=
  List.Sublist.map _ List.filter_sublist

theorem timesOf_pairwise (k : EClass) (log : List (EClass × Nat))
    (h : (times log).Pairwise (· ≤ ·)) : (timesOf k log).Pairwise (· ≤ ·) :=
  h.sublist (timesOf_sublist k log)

theorem timesOf_le (k : EClass) (log : List (EClass × Nat)) (clk : Nat)
    (h : ∀ x ∈ times log, x ≤ clk) : ∀ x ∈ timesOf k log, x ≤ clk :=
  fun x hx => h x ((timesOf_sublist k log).subset hx)

/-! ### The refinement invariant -/

/-- `Inv c clk s a`: model state `s` and history-determined state `a` describe the same breaker,
all clock values read so far being `≤ clk`. -/
def Inv (c : Cfg) (clk : Nat) (s : St) : Abs → Prop
  | .closed log =>
    s.state = .closed ∧ s.openedAt = none ∧ s.probe = false ∧
    (times log).Pairwise (· ≤ ·) ∧ (∀ x ∈ times log, x ≤ clk) ∧
    s.failures = kept c.window (times log) ∧
    ∀ k, s.classFailures k =
      if (c.classThreshold k).isSome then kept c.window (timesOf k log) else []
  | .opened t0 =>
    s.state = .opened ∧ s.openedAt = some t0 ∧ s.probe = false ∧
    s.failures = [] ∧ (∀ k, s.classFailures k = []) ∧ t0 ≤ clk
  | .halfOpen p =>
    s.state = .halfOpen ∧ s.probe = p ∧ s.failures = [] ∧ (∀ k, s.classFailures k = []) ∧
    ∃ t0, s.openedAt = some t0 ∧ t0 ≤ clk

theorem Inv.mono {c : Cfg} {clk clk' : Nat} {s : St} {a : Abs} (h : Inv c clk s a)
    (hle : clk ≤ clk') : Inv c clk' s a := by
  cases a with
  | closed log =>
    obtain ⟨h1, h2, h3, h4, h5, h6, h7⟩ := h
    exact ⟨h1, h2, h3, h4, fun x hx => Nat.le_trans (h5 x hx) hle, h6, h7⟩
  | opened t0 =>
    obtain ⟨h1, h2, h3, h4, h5, h6⟩ := h
    exact ⟨h1, h2, h3, h4, h5, Nat.le_trans h6 hle⟩
  | halfOpen p =>
    obtain ⟨h1, h2, h3, h4, t0, h5, h6⟩ := h
    exact ⟨h1, h2, h3, h4, t0, h5, Nat.le_trans h6 hle⟩

theorem Inv.state {c : Cfg} {clk : Nat} {s : St} {a : Abs} (h : Inv c clk s a) :
    s.state = a.mode := by
  cases a <;> exact h.1

theorem inv_init (c : Cfg) : Inv c 0 St.init Abs.init := by
  simp [Inv, St.init, Abs.init, kept]

theorem inv_opened (c : Cfg) (now : Nat) : Inv c now (St.openedAtTime now) (.opened now) :=
  ⟨rfl, rfl, rfl, rfl, fun _ => rfl, Nat.le_refl _⟩

theorem St.ext_of_fields (s : St) (st : CState) (oa : Option Nat) (p : Bool)
    (h1 : s.state = st) (h2 : s.openedAt = oa) (h3 : s.probe = p) (h4 : s.failures = [])
    (h5 : ∀ k, s.classFailures k = []) :
    s = { state := st, openedAt := oa, probe := p, failures := [], classFailures := fun _ => [] } := by
  have : s.classFailures = fun _ => [] := funext h5
  cases s; simp_all

/-- OPEN determines the whole state. -/
theorem Inv.eq_opened {c : Cfg} {clk t0 : Nat} {s : St} (h : Inv c clk s (.opened t0)) :
    s = St.openedAtTime t0 :=
  St.ext_of_fields _ _ _ _ h.1 h.2.1 h.2.2.1 h.2.2.2.1 h.2.2.2.2.1

/-- Outside a CLOSED stretch with recorded failures nothing is remembered. -/
theorem Inv.cleared {c : Cfg} {clk : Nat} {s : St} {a : Abs} (h : Inv c clk s a)
    (ha : ∀ log, a = .closed log → log = []) : s.failures = [] ∧ ∀ k, s.classFailures k = [] := by
  cases a with
  | closed log =>
    obtain rfl := ha log rfl
    exact ⟨h.2.2.2.2.2.1, fun k => by simpa [kept] using h.2.2.2.2.2.2 k⟩
  | opened t0 => exact ⟨h.2.2.2.1, h.2.2.2.2.1⟩
  | halfOpen p => exact ⟨h.2.2.1, h.2.2.2.1⟩

/-- the opening rule on an un-pruned list, as a plain Bool -/
def ruleB (c : Cfg) (log : List (EClass × Nat)) (k : EClass) (now : Nat) : Bool :=
  decide (c.failureThreshold ≤ inWindow c.window now (times log) + 1) ||
    match c.classThreshold k with
    | some th => decide (th ≤ inWindow c.window now (timesOf k log) + 1)
    | none => false

theorem opensLog_eq (c : Cfg) (log : List (EClass × Nat)) (k : EClass) (now : Nat) :
    opensLog c log k now = (c.tripOn k && ruleB c log k now) := rfl

/-- `_note_failure` on a state that refines `closed log`: its verdict is the filter-based rule
and the new state refines the extended log. -/
theorem noteFailure_refines (c : Cfg) (hw : 0 < c.window) (s : St) (log : List (EClass × Nat))
    (clk now : Nat) (k : EClass) (hinv : Inv c clk s (.closed log)) (hnow : clk ≤ now) :
    (noteFailure c s k now).1 = ruleB c log k now ∧
    Inv c now (noteFailure c s k now).2 (.closed (log ++ [(k, now)])) := by
  obtain ⟨hst, hoa, hp, hsorted, hbound, hf, hcf⟩ := hinv
  have hbound' : ∀ x ∈ times log, x ≤ now := fun x hx => Nat.le_trans (hbound x hx) hnow
  obtain ⟨hfs, hfl⟩ := prune_kept_concat c.window now _ hw hsorted hbound'
  obtain ⟨hbs, hbl⟩ := prune_kept_concat c.window now _ hw (timesOf_pairwise k log hsorted)
    (timesOf_le k log now hbound')
  obtain ⟨hs', hb'⟩ := Window.pairwise_append_replicate 1 hsorted hbound'
  have hck := hcf k
  rw [noteFailure_eq, hf, hfl]
  refine ⟨?_, hst, hoa, hp, (times_concat log k now).symm ▸ hs', (times_concat log k now).symm ▸ hb',
    hfs.trans (by rw [times_concat]), fun k' => ?_⟩
  · cases hth : c.classThreshold k with
    | none => simp only [ruleB, hth]
    | some th => rw [hth] at hck; simp only [ruleB, hth, hck, Option.isSome_some, if_true, hbl]
  · by_cases hk : k' = k
    · subst hk
      cases hth : c.classThreshold k' with
      | none => simpa [hth] using hck
      | some th => rw [hth] at hck; simp [hck, hbs]
    · simp [hk, hcf, timesOf_concat_ne _ _ _ _ hk]

theorem step_refines (c : Cfg) (hw : 0 < c.window) (s : St) (a : Abs) (clk : Nat) (op : Op)
    (hinv : Inv c clk s a) (ht : ∀ t, op.time = some t → clk ≤ t) :
    (mstep c s op).1 = (step c a op).1 ∧
    Inv c (op.time.getD clk) (mstep c s op).2 (step c a op).2 := by
  -- where neither side moves, only the clock bound does
  have same : Inv c (op.time.getD clk) s a := hinv.mono (by
    cases hop : op.time with
    | none => exact Nat.le_refl _
    | some t => exact ht t hop)
  cases a with
  | closed log =>
    have hst := hinv.1
    have hne : s.state ≠ .halfOpen := by simp [hst]
    cases op with
    | failure k now =>
      obtain ⟨h1, h2⟩ := noteFailure_refines c hw s log clk now k hinv (ht now rfl)
      simp only [mstep, step, recordFailure_closed c hst, opensLog_eq, h1]
      rcases Bool.eq_false_or_eq_true (c.tripOn k) with htr | htr <;>
        rcases Bool.eq_false_or_eq_true (ruleB c log k now) with ho | ho <;>
        simp only [htr, ho, Bool.and_true, Bool.and_false, Bool.false_eq_true, ↓reduceIte]
      · exact ⟨trivial, rfl, rfl, hinv.2.2.1, rfl, fun _ => rfl, Nat.le_refl _⟩
      · exact ⟨trivial, h2⟩
      · exact ⟨trivial, same⟩
      · exact ⟨trivial, same⟩
    | _ =>
      simp only [mstep, step, allow_closed c hst, recordSuccess_of_ne hne, recordCancel_of_ne hne]
      exact ⟨trivial, same⟩
  | opened t0 =>
    obtain ⟨hst, hoa, hp, hf, hcf, ht0⟩ := hinv
    have hne : s.state ≠ .halfOpen := by simp [hst]
    cases op with
    | allow now =>
      have hnow : clk ≤ now := ht now rfl
      simp only [mstep, step, allow_opened c hst hoa]
      by_cases h : t0 + c.recovery ≤ now
      · rw [if_pos h, if_neg (Nat.not_lt.mpr h)]
        exact ⟨rfl, rfl, rfl, hf, hcf, t0, hoa, Nat.le_trans ht0 hnow⟩
      · rw [if_neg h, if_pos (Nat.lt_of_not_le h)]
        exact ⟨rfl, same⟩
    | _ =>
      simp only [mstep, step, recordSuccess_of_ne hne, recordCancel_of_ne hne,
        recordFailure_opened c hst]
      exact ⟨trivial, same⟩
  | halfOpen p =>
    obtain ⟨hst, hp, hf, hcf, t0, hoa, ht0⟩ := hinv
    cases op with
    | allow now =>
      simp only [mstep, allow_halfOpen c hst, hp]
      cases p with
      | true => exact ⟨rfl, same⟩
      | false => exact ⟨rfl, hst, rfl, hf, hcf, t0, hoa, Nat.le_trans ht0 (ht now rfl)⟩
    | success =>
      simp only [mstep, step, recordSuccess_halfOpen hst]
      cases p <;> exact ⟨trivial, (inv_init c).mono (Nat.zero_le _)⟩
    | cancel =>
      simp only [mstep, recordCancel_halfOpen hst]
      cases p <;> exact ⟨rfl, hst, rfl, hf, hcf, t0, hoa, ht0⟩
    | failure k now =>
      simp only [mstep, step, recordFailure_halfOpen c hst]
      cases p <;> exact ⟨trivial, inv_opened c now⟩

theorem mrun_append (c : Cfg) (s : St) (H1 H2 : List Op) :
    mrun c s (H1 ++ H2) =
      ((mrun c s H1).1 ++ (mrun c (mrun c s H1).2 H2).1, (mrun c (mrun c s H1).2 H2).2) := by
  induction H1 generalizing s with
  | nil => simp [mrun]
  | cons op r ih => simp [mrun, ih]

theorem srun_append (c : Cfg) (a : Abs) (H1 H2 : List Op) :
    srun c a (H1 ++ H2) =
      ((srun c a H1).1 ++ (srun c (srun c a H1).2 H2).1, (srun c (srun c a H1).2 H2).2) := by
  induction H1 generalizing a with
  | nil => simp [srun]
  | cons op r ih => simp [srun, ih]

theorem mrun_concat (c : Cfg) (s : St) (H : List Op) (op : Op) :
    (mrun c s (H ++ [op])).2 = (mstep c (mrun c s H).2 op).2 := by
  simp [mrun_append, mrun]

theorem mrun_length (c : Cfg) (s : St) (H : List Op) : (mrun c s H).1.length = H.length := by
  induction H generalizing s with
  | nil => simp [mrun]
  | cons op r ih => simp [mrun, ih]

theorem monoFrom_cons (clk : Nat) (op : Op) (r : List Op) :
    MonoFrom clk (op :: r) ↔ (∀ t, op.time = some t → clk ≤ t) ∧ MonoFrom (op.time.getD clk) r := by
  rw [MonoFrom]
  cases op.time <;> simp

theorem monoFromB_iff (clk : Nat) (H : List Op) : monoFromB clk H = true ↔ MonoFrom clk H := by
  induction H generalizing clk with
  | nil => simp [monoFromB, MonoFrom]
  | cons op r ih =>
    unfold monoFromB MonoFrom
    cases op.time with
    | none => exact ih clk
    | some t => simp [ih t]

instance (clk : Nat) (H : List Op) : Decidable (MonoFrom clk H) :=
  decidable_of_iff _ (monoFromB_iff clk H)

instance (H : List Op) : Decidable (Mono H) := inferInstanceAs (Decidable (MonoFrom 0 H))

theorem monoFrom_append (clk : Nat) (H1 H2 : List Op) :
    MonoFrom clk (H1 ++ H2) ↔ MonoFrom clk H1 ∧ MonoFrom (lastTime clk H1) H2 := by
  induction H1 generalizing clk with
  | nil => simp [MonoFrom, lastTime]
  | cons op r ih => simp only [List.cons_append, monoFrom_cons, lastTime, ih, and_assoc]

/-- what `Mono (H ++ [op])` says: `H` is monotone and `op` does not read an earlier clock value -/
theorem mono_concat {H : List Op} {op : Op} (h : Mono (H ++ [op])) :
    Mono H ∧ ∀ t, op.time = some t → lastTime 0 H ≤ t :=
  ((monoFrom_append 0 H [op]).mp h).imp_right fun h => ((monoFrom_cons _ op []).mp h).1

theorem le_lastTime (clk : Nat) (H : List Op) (h : MonoFrom clk H) : clk ≤ lastTime clk H := by
  induction H generalizing clk with
  | nil => simp [lastTime]
  | cons op r ih =>
    unfold MonoFrom at h
    unfold lastTime
    cases hop : op.time with
    | none => rw [hop] at h; simpa using ih clk h
    | some t => rw [hop] at h; simpa using Nat.le_trans h.1 (ih t h.2)

theorem lastTime_append (clk : Nat) (H1 H2 : List Op) :
    lastTime clk (H1 ++ H2) = lastTime (lastTime clk H1) H2 := by
  induction H1 generalizing clk with
  | nil => simp [lastTime]
  | cons op r ih => simp [lastTime, ih]

/-- **Refinement over a whole history** (from any pair of related states). -/
theorem run_refines (c : Cfg) (hw : 0 < c.window) (H : List Op) (s : St) (a : Abs) (clk : Nat)
    (hinv : Inv c clk s a) (hm : MonoFrom clk H) :
    (mrun c s H).1 = (srun c a H).1 ∧ Inv c (lastTime clk H) (mrun c s H).2 (srun c a H).2 := by
  induction H generalizing s a clk with
  | nil => exact ⟨rfl, hinv⟩
  | cons op r ih =>
    obtain ⟨ht, hm'⟩ := (monoFrom_cons clk op r).mp hm
    obtain ⟨h1, h2⟩ := step_refines c hw s a clk op hinv ht
    obtain ⟨g1, g2⟩ := ih _ _ _ h2 hm'
    exact ⟨by simp only [mrun, srun, h1, g1], g2⟩

/-! ### The observation of a model state satisfies the monitor's state predicate -/

theorem find_bucket (f : EClass → List Nat) (p : EClass → Bool) (k : EClass) (l : List EClass) :
    ((l.filter p).map (fun k => (k, f k))).find? (fun e => decide (e.1 = k)) =
      if k ∈ l ∧ p k = true then some (k, f k) else none := by
  induction l with
  | nil => simp
  | cons x xs ih =>
    by_cases hx : x = k
    · subst hx; by_cases hp : p x = true <;> simp [hp, ih]
    · have hx' : ¬ k = x := fun e => hx e.symm
      by_cases hp : p x = true <;> simp [hp, hx, hx', ih]

theorem EClass.mem_all (k : EClass) : k ∈ EClass.all := by cases k <;> decide

theorem St.obs_bucket (s : St) (k : EClass) : s.obs.bucket k = s.classFailures k := by
  unfold Obs.bucket St.obs
  simp only [find_bucket, EClass.mem_all, true_and]
  cases h : s.classFailures k <;> simp

theorem retainedOk_kept (w : Nat) (T : List Nat) (hs : T.Pairwise (· ≤ ·)) :
    retainedOk w T (kept w T) = true := by
  simp [retainedOk, List.isSuffixOf_iff_suffix, kept_suffix w T hs]

theorem obsBad_of_inv (c : Cfg) (clk : Nat) (s : St) (a : Abs) (h : Inv c clk s a) :
    obsBad c a s.obs = none := by
  have hstate : s.obs.state = a.mode := h.state
  cases a with
  | closed log =>
    obtain ⟨hst, hoa, hp, hsorted, hbound, hf, hcf⟩ := h
    have hfind : EClass.all.find? (fun k =>
        if (c.classThreshold k).isSome then
          !retainedOk c.window (timesOf k log) (s.obs.bucket k)
        else !(s.obs.bucket k).isEmpty) = none := by
      rw [List.find?_eq_none]
      intro k _
      rw [St.obs_bucket, hcf k]
      cases hth : c.classThreshold k with
      | none => simp
      | some th => simp [retainedOk_kept _ _ (timesOf_pairwise k log hsorted)]
    have hp' : s.obs.probe = false := hp
    have hf' : s.obs.failures = kept c.window (times log) := hf
    simp [obsBad, hstate, hp', hf', retainedOk_kept _ _ hsorted, hfind]
  | opened t0 =>
    obtain ⟨hst, hoa, hp, hf, hcf, -⟩ := h
    simp [obsBad, St.obs, hst, Abs.mode, hoa, hp, hf, hcf]
  | halfOpen p =>
    obtain ⟨hst, hp, hf, hcf, -⟩ := h
    simp [obsBad, St.obs, hst, Abs.mode, hp, hf, hcf]

/-- The monitor accepts the model's own records (from any pair of related states). -/
theorem checkFrom_model (c : Cfg) (hw : 0 < c.window) (H : List Op) (s : St) (a : Abs)
    (clk i : Nat) (hinv : Inv c clk s a) (hm : MonoFrom clk H) :
    checkFrom c a i (mrecs c s H) = .ok := by
  induction H generalizing s a clk i with
  | nil => rfl
  | cons op r ih =>
    obtain ⟨ht, hm'⟩ := (monoFrom_cons clk op r).mp hm
    obtain ⟨h1, h2⟩ := step_refines c hw s a clk op hinv ht
    simp only [mrecs, checkFrom]
    rw [if_neg (by simp [h1]), obsBad_of_inv c _ _ _ h2]
    exact ih _ _ _ _ h2 hm'

end Redress.Breaker
