/-
  Redress.Lemmas.MonitorFacts — the monitors' log predicates do not depend on the order of the log:
  the model keeps its log newest first, the monitors read it oldest first.
-/
import Redress.Monitors

namespace Redress.Mon

theorem raisedBy_reverse (p : Req → Bool) (t : List (Req × Ans)) (e : Exn) :
    raisedBy p t.reverse e = raisedBy p t e := by
  simp [raisedBy]

theorem rejected_reverse (t : List (Req × Ans)) : rejected t.reverse = rejected t := by
  simp [rejected]

theorem attemptHookFault_reverse (t : List (Req × Ans)) : attemptHookFault t.reverse = attemptHookFault t := by
  simp [attemptHookFault]

end Redress.Mon
