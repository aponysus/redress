/- Helper lemmas for C18: the uniform draw, the early-exit product, the deque pruning. -/
import Redress.Model.Strategies
import Mathlib.Tactic.Linarith
import Mathlib.Tactic.Ring

namespace Redress.Strategies

/-- A draw between ordered end points lies between them. -/
theorem uniform_mem_of_le (a b u : Rat) (hab : a ≤ b) (hu0 : 0 ≤ u) (hu1 : u ≤ 1) :
    a ≤ uniform a b u ∧ uniform a b u ≤ b := by
  have hd := sub_nonneg.mpr hab
  have := mul_le_of_le_one_right hd hu1
  exact ⟨le_add_of_nonneg_right (mul_nonneg hd hu0), by unfold uniform; linarith⟩

/-- A convex combination lies between its end points (either order): drawing `u` from `a` to `b`
is drawing `1 - u` from `b` to `a`. -/
theorem uniform_between (a b u : Rat) (hu0 : 0 ≤ u) (hu1 : u ≤ 1) :
    min a b ≤ uniform a b u ∧ uniform a b u ≤ max a b := by
  rcases le_total a b with h | h
  · rw [min_eq_left h, max_eq_right h]
    exact uniform_mem_of_le a b u h hu0 hu1
  · rw [min_eq_right h, max_eq_left h, show uniform a b u = uniform b a (1 - u) by unfold uniform; ring]
    exact uniform_mem_of_le b a (1 - u) h (by linarith) (by linarith)

theorem prevOr_nonneg (base : Rat) (prev : Option Rat) (hb : 0 ≤ base)
    (hp : ∀ p, prev = some p → 0 ≤ p) : 0 ≤ prevOr base prev := by
  unfold prevOr
  cases prev with
  | none => exact hb
  | some p =>
    simp only
    split
    · exact hb
    · exact hp p rfl

/-- The early-exit product is the plain product as far as `min mx ·` can tell. -/
theorem min_growCapped (mx g : Rat) (hg : 1 ≤ g) :
    ∀ (n : Nat) (acc : Rat), 0 ≤ acc → min mx (growCapped mx g n acc) = min mx (acc * g ^ n) := by
  intro n
  induction n with
  | zero => intro acc _; simp [growCapped]
  | succ n ih =>
    intro acc hacc
    unfold growCapped
    split
    · next h =>
      rcases h with h | h
      · rw [min_eq_left h, min_eq_left (h.trans (le_mul_of_one_le_right hacc (one_le_pow₀ hg)))]
      · subst h; simp
    · rw [ih (acc * g) (mul_nonneg hacc (by linarith)), pow_succ']
      congr 1
      ring

theorem prune_sublist (cutoff : Rat) : ∀ ev : Events, (prune cutoff ev).Sublist ev := by
  intro ev
  induction ev with
  | nil => simp [prune]
  | cons e rest ih =>
    unfold prune
    split
    · exact ih.trans (List.sublist_cons_self _ _)
    · exact List.Sublist.refl _

end Redress.Strategies
