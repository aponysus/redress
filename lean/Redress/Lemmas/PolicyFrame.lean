/-
  Redress.Lemmas.PolicyFrame — the policy shell's control flow as proof rules.

  `Policy.call` / `Policy.execute` wrap an inner computation (the retry loop, or one invocation of the operation)
  in breaker admission, the `except` ladders, the breaker records and `ensure_settled`.  The `*_rule` theorems
  are that control flow over arbitrary assertions — which leaf runs in which state, and where each of its exits
  leads: `settled_rule` (fresh context, `finally`) around `callAdmitted_retry_rule` / `callAdmitted_nr_rule`, or
  around `executeAdmitted_rule` (admission) around `executeAdmitted2_retry_rule` / `executeAdmitted2_nr_rule`,
  with `callLadder_rule`, `executeLadder_rule`, `noRetryLadder_rule` for the `except` arms.  They assume that a
  `record_*` keeps the assertion it is entered with; a property whose assertions do so supplies what they make of
  the leaves and does not unfold the shell (C03–C05, C11, C13, C14, C16 and their retry-less companions).
  The `*_frame` theorems are the instance for a predicate on worlds that no leaf of the shell can disturb
  (`Foot shellK`): what the inner computation establishes holds after the whole call, however it ends.
  Lemmas/PolicyCall.lean, for the properties about the records themselves, takes the three ladder rules from here
  and composes the rest on its own.
  Names: `x_rule` is the rule for the procedure `x`; `ensureSettled_idle` and `policyOutcome_keeps` are the two
  special cases of `ensureSettled_rule` / `policyOutcome_rule` that the breaker properties ask for by name.
-/
import Redress.Lemmas.Footprint

open Std.Do

namespace Redress
open Retry Policy

namespace Policy

/-- `ensure_settled` is a `record_cancel` or nothing -/
theorem ensureSettled_rule {cfg : Cfg} {I : World → Prop} {E : Exn → World → Prop}
    (h : ⦃fun w => ⌜I w⌝⦄ recordCancel cfg ⦃exits (fun _ => I) E⦄) :
    ⦃fun w => ⌜I w⌝⦄ ensureSettled cfg ⦃exits (fun _ => I) E⦄ := by
  mvcgen [ensureSettled, h]

theorem ensureSettled_idle (cfg : Cfg) {I : World → Prop}
    (h : ∀ w, I w → ¬ (w.xc.admitted && !w.xc.settled) = true) :
    ⦃fun w => ⌜I w⌝⦄ ensureSettled cfg ⦃post⟨fun _ w => ⌜I w⌝, fun _ _ => ⌜False⌝⟩⦄ := by
  mvcgen [ensureSettled]
  exact absurd (by assumption) (h _ (by assumption))

def outcomeAt (w : World) (ok : Bool) (value : Option Nat) (stop : Option StopReason) (attempts : Nat)
    (lastClass : Option EClass) (lastExc : Option String) (cause : Option Cause) : Outcome :=
  { ok, value := if ok then value else none, stop, attempts, lastClass, lastExc, lastResult := none, cause,
    elapsed := w.now - w.xc.start, nextSleep := none }

theorem policyOutcome_rule {I : World → Prop} {A : Outcome → World → Prop} {E : Exn → World → Prop}
    {ok : Bool} {value : Option Nat} {stop : Option StopReason} {attempts : Nat} {lc : Option EClass}
    {le : Option String} {cause : Option Cause}
    (h : ∀ w, I w → A (outcomeAt w ok value stop attempts lc le cause) w) :
    ⦃fun w => ⌜I w⌝⦄ policyOutcome ok value stop attempts lc le cause ⦃exits A E⦄ := by
  mvcgen [policyOutcome, xElapsed]
  exact h _ ‹_›

theorem policyOutcome_keeps (I : World → Prop) (ok : Bool) (value : Option Nat) (stop : Option StopReason)
    (attempts : Nat) (lc : Option EClass) (le : Option String) (cause : Option Cause) :
    ⦃fun w => ⌜I w⌝⦄ policyOutcome ok value stop attempts lc le cause
    ⦃post⟨fun o w => ⌜I w ∧ o.ok = ok ∧ o.stop = stop ∧ o.attempts = attempts ∧ o.lastClass = lc ∧ o.lastExc = le⌝,
          fun _ _ => ⌜False⌝⟩⦄ :=
  policyOutcome_rule fun _ h => ⟨h, rfl, rfl, rfl, rfl, rfl⟩

/-- `_emit_breaker_event` asks each sink inside `try … except Exception: pass` (`E e`: what the sink leaves when it
    raises `e`; `hback`: where the caller goes on after swallowing it), so what gets out is a BaseException-only kind -/
theorem emitBreakerEvent_rule {I : World → Prop} {E : Exn → World → Prop}
    (h : ∀ r, r.kind = .metric ∨ r.kind = .log → ⦃fun w => ⌜I w⌝⦄ askHook r ⦃exits (fun _ => I) E⦄)
    (hback : ∀ e w, e.isException = true → E e w → I w)
    (cfg : Cfg) (ev : Option Event) (st : CState) (k : Option EClass) :
    ⦃fun w => ⌜I w⌝⦄ emitBreakerEvent cfg ev st k
    ⦃exits (fun _ => I) fun e w => E e w ∧ e.isException = false⦄ := by
  have hm := fun ev a s t => h (.metric ev a s t) (.inl rfl)
  have hl := fun ev a s t ra => h (.log ev a s t ra) (.inr rfl)
  have hs : ∀ e, ⦃fun w => ⌜E e w⌝⦄ swallowException e
      ⦃exits (fun _ => I) fun e w => E e w ∧ e.isException = false⦄ := by
    intro e
    mvcgen [swallowException]
    · exact hback _ _ ‹_› ‹_›
    · exact ⟨‹_›, eq_false_of_ne_true ‹_›⟩
  mvcgen [emitBreakerEvent, askMetric, askLog, hm, hl, hs]

end Policy

/-! ### the shell's control flow as proof rules

`E e` is what holds while `e` propagates.  An `except` arm entered with `e` runs its handler and re-raises `e`;
a hook of the handler may raise `e'` instead (`armPost`). -/

abbrev armPost (E : Exn → World → Prop) (e : Exn) : PostCond Unit (.except Exn (.arg World .pure)) :=
  exits (fun _ => E e) E

section rules
variable {cfg : Cfg} {E : Exn → World → Prop}

/-- the `except` ladder of `Policy.call` / `AsyncPolicy.call`, entered with `e` in a state `S`: one handler spec
    per arm, each under what the arm knows about `e` -/
theorem callLadder_rule {S : World → Prop} {A : Nat → World → Prop} (e : Exn)
    (hc : e = .cancelled ∨ e.isKiSe = true → ⦃fun w => ⌜S w⌝⦄ recordCancel cfg ⦃armPost E e⦄)
    (ha : e.isAbort = true → ⦃fun w => ⌜S w⌝⦄ handleAbortCall cfg e ⦃armPost E e⦄)
    (hx : e.isExhausted = true → ⦃fun w => ⌜S w⌝⦄ handleExhaustedCall cfg e ⦃armPost E e⦄)
    (hex : e.isException = true → e.isAbort = false → e.isExhausted = false →
      ⦃fun w => ⌜S w⌝⦄ handleExceptionCall cfg e true ⦃armPost E e⦄)
    (ho : ¬ e.isException = true → ∀ w, S w → E e w) :
    ⦃fun w => ⌜S w⌝⦄ callLadder cfg e ⦃exits A E⦄ :=
  ite_rule (fun h => then_throw (hc (.inl (of_decide_eq_true (Bool.and_eq_true_iff.mp h).2)))) fun _ =>
  ite_rule (fun h => then_throw (hc (.inr h))) fun _ =>
  ite_rule (fun h => then_throw (ha h)) fun ha' =>
  ite_rule (fun h => then_throw (hx h)) fun hx' =>
  ite_rule (fun h => then_throw (hex h (eq_false_of_ne_true ha') (eq_false_of_ne_true hx'))) fun h =>
  triple_mono throw_rule (ho h) (fun _ _ h => h) (fun _ _ h => h)

/-- the `except` ladder around `retry.execute(...)` -/
theorem executeLadder_rule {S : World → Prop} {A : Outcome → World → Prop} (e : Exn)
    (hx : e.isExhausted = true → ⦃fun w => ⌜S w⌝⦄ handleExhaustedCall cfg e ⦃armPost E e⦄)
    (ha : e.isAbort = true → ⦃fun w => ⌜S w⌝⦄ recordCancel cfg ⦃armPost E e⦄)
    (hex : e.isException = true → e.isAbort = false → e.isExhausted = false →
      ⦃fun w => ⌜S w⌝⦄ handleExceptionCall cfg e false ⦃armPost E e⦄)
    (ho : ¬ e.isException = true → ∀ w, S w → E e w) :
    ⦃fun w => ⌜S w⌝⦄ executeLadder cfg e ⦃exits A E⦄ :=
  ite_rule (fun h => then_throw (hx h)) fun hx' =>
  ite_rule (fun h => then_throw (ha h)) fun ha' =>
  ite_rule (fun h => then_throw (hex h (eq_false_of_ne_true ha') (eq_false_of_ne_true hx'))) fun h =>
  triple_mono throw_rule (ho h) (fun _ _ h => h) (fun _ _ h => h)

/-- the `except` ladder of `_execute_without_retry`: after an abort (`C`: the cancel recorded) or an `Exception`
    (`F`: the failure recorded) it reports to the end hook and returns an outcome; otherwise it re-raises -/
theorem noRetryLadder_rule {S C F : World → Prop} {A : Outcome → World → Prop} (b : Bool) (e : Exn)
    (hab : e.isAbort = true →
      ⦃fun w => ⌜S w⌝⦄ recordCancel cfg ⦃exits (fun _ => C) E⦄)
    (hendC : ⦃fun w => ⌜C w⌝⦄ noRetryEndHook cfg (some e) none .aborted (some .aborted) none
      ⦃exits (fun _ => C) E⦄)
    (hoC : e.isAbort = true → ∀ w, C w →
      A (outcomeAt w false none (some .aborted) (if b then 1 else 0) none none none) w)
    (hc : e = .cancelled ∨ e.isKiSe = true → ⦃fun w => ⌜S w⌝⦄ recordCancel cfg ⦃armPost E e⦄)
    (hf : e.isException = true → e.isAbort = false →
      ⦃fun w => ⌜S w⌝⦄ recordFailure cfg (defaultClass e) ⦃exits (fun _ => F) E⦄)
    (hendF : ⦃fun w => ⌜F w⌝⦄ noRetryEndHook cfg (some e) none .raise none (some .exception)
      ⦃exits (fun _ => F) E⦄)
    (hoF : e.isException = true → e.isAbort = false → ∀ w, F w →
      A (outcomeAt w false none none 1 (some (defaultClass e)) (some e.ref) (some .exception)) w)
    (ho : ¬ e.isException = true → ∀ w, S w → E e w) :
    ⦃fun w => ⌜S w⌝⦄ noRetryLadder cfg b e ⦃exits A E⦄ :=
  ite_rule (fun h => by
      have h1 := hab h
      have h3 := policyOutcome_rule (E := E) (hoC h)
      mvcgen [h1, hendC, h3]) fun ha' =>
  ite_rule (fun h => then_throw (hc (.inl (of_decide_eq_true (Bool.and_eq_true_iff.mp h).2)))) fun _ =>
  ite_rule (fun h => then_throw (hc (.inr h))) fun _ =>
  ite_rule (fun h => by
      have h1 := hf h (eq_false_of_ne_true ha')
      have h3 := policyOutcome_rule (E := E) (hoF h (eq_false_of_ne_true ha'))
      mvcgen [h1, hendF, h3]) fun h =>
  triple_mono throw_rule (ho h) (fun _ _ h => h) (fun _ _ h => h)

variable {P0 P : World → Prop}

/-- `Policy.call` and `Policy.execute` around the admitted call `x`: a fresh execution context before it,
    `ensure_settled` in the `finally` -/
theorem settled_rule {α : Type} {x : M α} {A : α → World → Prop}
    (h0 : ∀ w, P0 w → P { w with xc := { start := w.now } })
    (hx : ⦃fun w => ⌜P w⌝⦄ x ⦃exits A E⦄)
    (hca : ∀ a, ⦃fun w => ⌜A a w⌝⦄ recordCancel cfg ⦃exits (fun _ => A a) E⦄)
    (hce : ∀ e, ⦃fun w => ⌜E e w⌝⦄ recordCancel cfg ⦃armPost E e⦄) :
    ⦃fun w => ⌜P0 w⌝⦄ (do initCtx; withFinally x (ensureSettled cfg))
    ⦃exits A E⦄ := by
  have hf : ⦃fun w => ⌜P w⌝⦄ withFinally x (ensureSettled cfg) ⦃exits A E⦄ :=
    finally_rule hx (fun e => ensureSettled_rule (hce e)) (fun a => ensureSettled_rule (hca a))
  mvcgen [initCtx, hf]
  exact h0 _ ‹_›

/-- `call()` once the execution context is set up, with a retry component.  `P`: through admission;
    `A v`: the loop has returned `v`; `S e`: the body of the `try` has raised `e`. -/
theorem callAdmitted_retry_rule (hret : cfg.hasRetry = true) {A : Nat → World → Prop} {S : Exn → World → Prop}
    (hcb : ⦃fun w => ⌜P w⌝⦄ checkBreaker cfg ⦃exits (fun _ => P) E⦄)
    (hrun : ⦃fun w => ⌜P w⌝⦄ runCall cfg ⦃exits A S⦄)
    (hs : ∀ v, ⦃fun w => ⌜A v w⌝⦄ recordSuccess cfg ⦃exits (fun _ => A v) S⦄)
    (hl : ∀ e, ⦃fun w => ⌜S e w⌝⦄ callLadder cfg e ⦃exits A E⦄) :
    ⦃fun w => ⌜P w⌝⦄ callAdmitted cfg ⦃exits A E⦄ := by
  unfold callAdmitted
  simp only [hret, if_true]
  mvcgen [hcb, hrun, hs, hl]

/-- …without one.  `P1`: the abort predicate has answered False. -/
theorem callAdmitted_nr_rule (hret : cfg.hasRetry = false) {P1 : World → Prop} {A : Nat → World → Prop}
    {S : Exn → World → Prop}
    (hcb : ⦃fun w => ⌜P w⌝⦄ checkBreaker cfg ⦃exits (fun _ => P) E⦄)
    (hpoll : ⦃fun w => ⌜P w⌝⦄ checkAbortNoRetry cfg
      ⦃exits (fun b w => if b then E .libAbort w else P1 w) E⦄)
    (hstart : ⦃fun w => ⌜P1 w⌝⦄ noRetryStartHook cfg ⦃exits (fun _ => P1) S⦄)
    (hop : ⦃fun w => ⌜P1 w⌝⦄ invokeOp 1 ⦃exits A S⦄)
    (hend : ∀ v, ⦃fun w => ⌜A v w⌝⦄ noRetryEndHook cfg none (some v) .success none none
      ⦃exits (fun _ => A v) S⦄)
    (hs : ∀ v, ⦃fun w => ⌜A v w⌝⦄ recordSuccess cfg ⦃exits (fun _ => A v) S⦄)
    (hl : ∀ e, ⦃fun w => ⌜S e w⌝⦄ callLadder cfg e ⦃exits A E⦄) :
    ⦃fun w => ⌜P w⌝⦄ callAdmitted cfg ⦃exits A E⦄ := by
  unfold callAdmitted
  simp only [hret, Bool.false_eq_true, if_false]
  mvcgen [callWithoutRetry, hcb, hpoll, hstart, hop, hend, hs, hl]
  · rename_i hb _ h; exact (if_pos hb).mp h
  · rename_i hb _ h; exact (if_neg hb).mp h

/-- `execute()` asks the breaker (`Pa d`: it has answered `d`; `Pd d`: and the event has been reported): admitted,
    the call goes on from `P`; rejected, it returns an outcome of its own -/
theorem executeAdmitted_rule {A : Outcome → World → Prop} {Pa Pd : Bool × CState × Option Event → World → Prop}
    (hba : ∀ bc, ⦃fun w => ⌜P w⌝⦄ breakerAllow bc ⦃exits Pa E⦄)
    (hev : ∀ d, ⦃fun w => ⌜Pa d w⌝⦄ emitBreakerEvent cfg d.2.2 d.2.1
      ⦃exits (fun _ => Pd d) E⦄)
    (hadm : ∀ d w, d.1 = true → Pd d w → P w)
    (hrej : ∀ d w, ¬ d.1 = true → Pd d w →
      A (outcomeAt w false none none 0 none (some (Exn.libCircuitOpen d.2.1).ref) none) w)
    (h2 : ⦃fun w => ⌜P w⌝⦄ executeAdmitted2 cfg ⦃exits A E⦄) :
    ⦃fun w => ⌜P w⌝⦄ executeAdmitted cfg ⦃exits A E⦄ := by
  have hr := fun d hd => policyOutcome_rule (E := E) (fun w => hrej d w hd)
  mvcgen [executeAdmitted, hba, hev, hr, h2]
  · exact hadm _ _ ‹_› ‹_›
  · exact fun _ _ => ‹_›

/-- `_execute_with_retry`.  `A o`: `retry.execute(...)` has returned `o`; `S e`: it has raised `e`. -/
theorem executeAdmitted2_retry_rule (hret : cfg.hasRetry = true) {A : Outcome → World → Prop}
    {S : Exn → World → Prop}
    (hrun : ⦃fun w => ⌜P w⌝⦄ runExecute cfg ⦃exits A S⦄)
    (hl : ∀ e, ⦃fun w => ⌜S e w⌝⦄ executeLadder cfg e ⦃exits A E⦄)
    (hs : ∀ o, ⦃fun w => ⌜A o w⌝⦄ recordSuccess cfg ⦃exits (fun _ => A o) E⦄)
    (hf : ∀ o k, ⦃fun w => ⌜A o w⌝⦄ recordFailure cfg k ⦃exits (fun _ => A o) E⦄)
    (hca : ∀ o, ⦃fun w => ⌜A o w⌝⦄ recordCancel cfg ⦃exits (fun _ => A o) E⦄) :
    ⦃fun w => ⌜P w⌝⦄ executeAdmitted2 cfg ⦃exits A E⦄ := by
  unfold executeAdmitted2
  simp only [hret, if_true]
  mvcgen [executeWithRetry, hrun, hl, hs, hf, hca]

/-- the pre-flight abort poll and `_execute_without_retry`.  `P1`: the abort predicate has answered False;
    `C`: it has answered True and the cancel is recorded; `B v`: the operation has returned `v`; `S b e`: the
    start hook (`b = false`) or the operation (`b = true`, the ladder's `invoked`) has raised `e`. -/
theorem executeAdmitted2_nr_rule (hret : cfg.hasRetry = false) {P1 C : World → Prop} {B : Nat → World → Prop}
    {A : Outcome → World → Prop} {S : Bool → Exn → World → Prop}
    (hpoll : ⦃fun w => ⌜P w⌝⦄ checkAbortNoRetry cfg
      ⦃exits (fun b w => if b then C w else P1 w) E⦄)
    (habo : ∀ w, C w → A (outcomeAt w false none (some .aborted) 0 none none none) w)
    (hstart : ⦃fun w => ⌜P1 w⌝⦄ noRetryStartHook cfg ⦃exits (fun _ => P1) (S false)⦄)
    (hop : ⦃fun w => ⌜P1 w⌝⦄ invokeOp 1 ⦃exits B (S true)⦄)
    (hl : ∀ b e, ⦃fun w => ⌜S b e w⌝⦄ noRetryLadder cfg b e ⦃exits A E⦄)
    (hs : ∀ v, ⦃fun w => ⌜B v w⌝⦄ recordSuccess cfg ⦃exits (fun _ => B v) E⦄)
    (hend : ∀ v, ⦃fun w => ⌜B v w⌝⦄ noRetryEndHook cfg none (some v) .success none none
      ⦃exits (fun _ => B v) E⦄)
    (hok : ∀ v w, B v w → A (outcomeAt w true (some v) none 1 none none none) w) :
    ⦃fun w => ⌜P w⌝⦄ executeAdmitted2 cfg ⦃exits A E⦄ := by
  have ha := policyOutcome_rule (E := E) habo
  have ho := fun v => policyOutcome_rule (E := E) (hok v)
  unfold executeAdmitted2
  simp only [hret, Bool.false_eq_true, if_false]
  mvcgen [executeWithoutRetry, hpoll, ha, hstart, hop, hl, hs, hend, ho]
  · rename_i hb _ h; exact (if_pos hb).mp h
  · rename_i hb _ h; exact (if_neg hb).mp h

end rules
/-- the request kinds the policy shell can make -/
def shellK : Kind → Bool
  | .metric | .log | .breakerAllow | .breakerSuccess | .breakerFailure | .breakerCancel
  | .classify | .abortIf | .attemptStart | .attemptEnd => true
  | _ => false

/-- those it can make before the retry loop starts: admission and the report of its event -/
def allowK : Kind → Bool
  | .metric | .log | .breakerAllow => true
  | _ => false

/-- …and before the operation is invoked when there is no retry loop: also the pre-flight abort poll (with the
    cancel it may record) and the start hook -/
def admitK : Kind → Bool
  | .metric | .log | .breakerAllow | .breakerCancel | .abortIf | .attemptStart => true
  | _ => false

theorem admitK_of_allowK : ∀ k, allowK k = true → admitK k = true := by
  intro k; cases k <;> simp [allowK, admitK]

theorem leaf_of_foot {α : Type} {x : M α} {K : Kind → Bool} {I E : World → Prop}
    (hx : ∀ w0, ⦃fun w => ⌜Foot K w0 w⌝⦄ x ⦃footPost K w0⦄) (hI : ∀ w w', Foot K w w' → I w → I w')
    (hIE : ∀ w, I w → E w) :
    ⦃fun w => ⌜I w⌝⦄ x ⦃exits (fun _ => I) fun _ => E⦄ :=
  triple_mono (inv_of_foot I hx hI) (fun _ h => h) (fun _ _ h => h) (fun _ w h => hIE w h)

section frames
variable (cfg : Cfg) {P E : World → Prop} (hE : ∀ w w', Foot shellK w w' → E w → E w')

section ladders
include hE

theorem callLadder_frame {A : Nat → World → Prop} (e : Exn) :
    ⦃fun w => ⌜E w⌝⦄ callLadder cfg e ⦃exits A fun _ => E⦄ :=
  callLadder_rule (E := fun _ => E) e
    (fun _ => leaf_of_foot (fun w0 => recordCancel_foot shellK w0 rfl cfg) hE fun _ h => h)
    (fun _ => leaf_of_foot (fun w0 => handleAbortCall_foot shellK w0 rfl rfl cfg e) hE fun _ h => h)
    (fun _ => leaf_of_foot (fun w0 => handleExhaustedCall_foot shellK w0 rfl rfl rfl cfg e) hE fun _ h => h)
    (fun _ _ _ => leaf_of_foot (fun w0 => handleExceptionCall_foot shellK w0 rfl rfl rfl rfl rfl cfg e true) hE
      fun _ h => h)
    (fun _ _ h => h)

theorem executeLadder_frame {A : Outcome → World → Prop} (e : Exn) :
    ⦃fun w => ⌜E w⌝⦄ executeLadder cfg e ⦃exits A fun _ => E⦄ :=
  executeLadder_rule (E := fun _ => E) e
    (fun _ => leaf_of_foot (fun w0 => handleExhaustedCall_foot shellK w0 rfl rfl rfl cfg e) hE fun _ h => h)
    (fun _ => leaf_of_foot (fun w0 => recordCancel_foot shellK w0 rfl cfg) hE fun _ h => h)
    (fun _ _ _ => leaf_of_foot (fun w0 => handleExceptionCall_foot shellK w0 rfl rfl rfl rfl rfl cfg e false) hE
      fun _ h => h)
    (fun _ _ h => h)

theorem noRetryLadder_frame (b : Bool) (e : Exn) :
    ⦃fun w => ⌜E w⌝⦄ noRetryLadder cfg b e ⦃keeps E⦄ :=
  noRetryLadder_rule (E := fun _ => E) (C := E) (F := E) b e
    (fun _ => leaf_of_foot (fun w0 => recordCancel_foot shellK w0 rfl cfg) hE fun _ h => h)
    (leaf_of_foot (fun w0 => noRetryEndHook_foot shellK w0 rfl cfg _ _ _ _ _) hE fun _ h => h)
    (fun _ _ h => h)
    (fun _ => leaf_of_foot (fun w0 => recordCancel_foot shellK w0 rfl cfg) hE fun _ h => h)
    (fun _ _ => leaf_of_foot (fun w0 => recordFailure_foot shellK w0 rfl rfl rfl cfg _) hE fun _ h => h)
    (leaf_of_foot (fun w0 => noRetryEndHook_foot shellK w0 rfl cfg _ _ _ _ _) hE fun _ h => h)
    (fun _ _ _ h => h) (fun _ _ h => h)

/-- `Policy.execute` with a retry component.  `A o` (`retry.execute(...)` has returned `o`) and `E` (an exception
    propagates) survive the shell's footprints; `P` survives admission, where no hook but the metric and log
    sinks is asked; `hPE`: a hook failing before the loop starts; `hrej`: the outcome of a rejected call. -/
theorem execute_retry_outcome_frame {A : Outcome → World → Prop} (hA : ∀ o w w', Foot shellK w w' → A o w → A o w')
    (hAE : ∀ o w, A o w → E w) (hP : ∀ w w', Foot allowK w w' → P w → P w') (hPE : ∀ w, P w → E w)
    (hrej : ∀ st w, P w → A (outcomeAt w false none none 0 none (some (Exn.libCircuitOpen st).ref) none) w)
    (hret : cfg.hasRetry = true)
    (hrun : ⦃fun w => ⌜P w⌝⦄ runExecute cfg ⦃exits A fun _ => E⦄) :
    ⦃fun w => ⌜P w⌝⦄ Policy.execute cfg ⦃exits A fun _ => E⦄ :=
  have hca := fun o => leaf_of_foot (E := E) (fun w0 => recordCancel_foot shellK w0 rfl cfg) (hA o) (hAE o)
  settled_rule (E := fun _ => E)
    (fun w => hP _ _ (Foot.frame w w.rs.lastStop w.as w.timeline w.tlStart w.budget w.breaker _ rfl))
    (executeAdmitted_rule (Pd := fun _ => P)
      (fun bc => leaf_of_foot (fun w0 => breakerAllow_foot allowK w0 rfl bc) hP hPE)
      (fun d => leaf_of_foot (fun w0 => emitBreakerEvent_foot allowK w0 rfl rfl cfg d.2.2 d.2.1 none) hP hPE)
      (fun _ _ _ h => h) (fun d w _ => hrej d.2.1 w)
      (executeAdmitted2_retry_rule hret hrun (executeLadder_frame cfg hE)
        (fun o => leaf_of_foot (fun w0 => recordSuccess_foot shellK w0 rfl rfl rfl cfg) (hA o) (hAE o))
        (fun o k => leaf_of_foot (fun w0 => recordFailure_foot shellK w0 rfl rfl rfl cfg k) (hA o) (hAE o)) hca))
    hca (fun _ => leaf_of_foot (fun w0 => recordCancel_foot shellK w0 rfl cfg) hE fun _ h => h)

end ladders

variable {I : World → Prop}

/-- `Policy.call` with a retry component: what the retry loop establishes from `P` holds after the call. -/
theorem call_retry_frame (hP : ∀ w w', Foot allowK w w' → P w → P w')
    (hI : ∀ w w', Foot shellK w w' → I w → I w') (hPI : ∀ w, P w → I w) (hret : cfg.hasRetry = true)
    (hrun : ⦃fun w => ⌜P w⌝⦄ runCall cfg ⦃keeps I⦄) :
    ⦃fun w => ⌜P w⌝⦄ Policy.call cfg ⦃keeps I⦄ :=
  settled_rule (E := fun _ => I) (A := fun _ => I)
    (fun w => hP _ _ (Foot.frame w w.rs.lastStop w.as w.timeline w.tlStart w.budget w.breaker _ rfl))
    (callAdmitted_retry_rule hret (leaf_of_foot (fun w0 => checkBreaker_foot allowK w0 rfl rfl rfl cfg) hP hPI) hrun
      (fun _ => leaf_of_foot (fun w0 => recordSuccess_foot shellK w0 rfl rfl rfl cfg) hI fun _ h => h)
      (callLadder_frame cfg hI))
    (fun _ => leaf_of_foot (fun w0 => recordCancel_foot shellK w0 rfl cfg) hI fun _ h => h)
    (fun _ => leaf_of_foot (fun w0 => recordCancel_foot shellK w0 rfl cfg) hI fun _ h => h)

theorem execute_retry_frame (hP : ∀ w w', Foot allowK w w' → P w → P w')
    (hI : ∀ w w', Foot shellK w w' → I w → I w') (hPI : ∀ w, P w → I w) (hret : cfg.hasRetry = true)
    (hrun : ⦃fun w => ⌜P w⌝⦄ runExecute cfg ⦃keeps I⦄) :
    ⦃fun w => ⌜P w⌝⦄ Policy.execute cfg ⦃keeps I⦄ :=
  execute_retry_outcome_frame cfg hI (fun _ => hI) (fun _ _ h => h) hP hPI (fun _ w => hPI w) hret hrun

theorem checkAbortNoRetry_frame (hP : ∀ w w', Foot admitK w w' → P w → P w') (hPI : ∀ w, P w → I w) :
    ⦃fun w => ⌜P w⌝⦄ checkAbortNoRetry cfg ⦃post⟨fun b w => ⌜if b then I w else P w⌝, fun _ w => ⌜I w⌝⟩⦄ :=
  triple_mono (leaf_of_foot (fun w0 => checkAbortNoRetry_foot admitK w0 rfl rfl cfg) hP hPI) (fun _ h => h)
    (fun b w h => by
      cases b
      · exact h
      · exact hPI w h)
    (fun _ _ h => h)

/-- `Policy.call` without a retry component: the inner computation is one invocation of the operation. -/
theorem call_nr_frame (hP : ∀ w w', Foot admitK w w' → P w → P w')
    (hI : ∀ w w', Foot shellK w w' → I w → I w') (hPI : ∀ w, P w → I w) (hret : cfg.hasRetry = false)
    (hop : ⦃fun w => ⌜P w⌝⦄ invokeOp 1 ⦃keeps I⦄) :
    ⦃fun w => ⌜P w⌝⦄ Policy.call cfg ⦃keeps I⦄ :=
  settled_rule (E := fun _ => I) (A := fun _ => I)
    (fun w => hP _ _ (Foot.frame w w.rs.lastStop w.as w.timeline w.tlStart w.budget w.breaker _ rfl))
    (callAdmitted_nr_rule hret (leaf_of_foot (fun w0 => checkBreaker_foot admitK w0 rfl rfl rfl cfg) hP hPI)
      (checkAbortNoRetry_frame cfg hP hPI) (leaf_of_foot (fun w0 => noRetryStartHook_foot admitK w0 rfl cfg) hP hPI)
      hop (fun _ => leaf_of_foot (fun w0 => noRetryEndHook_foot shellK w0 rfl cfg _ _ _ _ _) hI fun _ h => h)
      (fun _ => leaf_of_foot (fun w0 => recordSuccess_foot shellK w0 rfl rfl rfl cfg) hI fun _ h => h)
      (callLadder_frame cfg hI))
    (fun _ => leaf_of_foot (fun w0 => recordCancel_foot shellK w0 rfl cfg) hI fun _ h => h)
    (fun _ => leaf_of_foot (fun w0 => recordCancel_foot shellK w0 rfl cfg) hI fun _ h => h)

theorem execute_nr_frame (hP : ∀ w w', Foot admitK w w' → P w → P w')
    (hI : ∀ w w', Foot shellK w w' → I w → I w') (hPI : ∀ w, P w → I w) (hret : cfg.hasRetry = false)
    (hop : ⦃fun w => ⌜P w⌝⦄ invokeOp 1 ⦃keeps I⦄) :
    ⦃fun w => ⌜P w⌝⦄ Policy.execute cfg ⦃keeps I⦄ :=
  settled_rule (E := fun _ => I) (A := fun _ => I)
    (fun w => hP _ _ (Foot.frame w w.rs.lastStop w.as w.timeline w.tlStart w.budget w.breaker _ rfl))
    (executeAdmitted_rule (Pd := fun _ => P)
      (fun bc => leaf_of_foot (fun w0 => breakerAllow_foot admitK w0 rfl bc) hP hPI)
      (fun d => leaf_of_foot (fun w0 => emitBreakerEvent_foot admitK w0 rfl rfl cfg d.2.2 d.2.1 none) hP hPI)
      (fun _ _ _ h => h) (fun _ w _ => hPI w)
      (executeAdmitted2_nr_rule (C := I) (B := fun _ => I) (S := fun _ _ => I) hret
        (checkAbortNoRetry_frame cfg hP hPI) (fun _ h => h)
        (leaf_of_foot (fun w0 => noRetryStartHook_foot admitK w0 rfl cfg) hP hPI)
        hop (noRetryLadder_frame cfg hI)
        (fun _ => leaf_of_foot (fun w0 => recordSuccess_foot shellK w0 rfl rfl rfl cfg) hI fun _ h => h)
        (fun _ => leaf_of_foot (fun w0 => noRetryEndHook_foot shellK w0 rfl cfg _ _ _ _ _) hI fun _ h => h)
        (fun _ _ h => h)))
    (fun _ => leaf_of_foot (fun w0 => recordCancel_foot shellK w0 rfl cfg) hI fun _ h => h)
    (fun _ => leaf_of_foot (fun w0 => recordCancel_foot shellK w0 rfl cfg) hI fun _ h => h)

end frames

end Redress
