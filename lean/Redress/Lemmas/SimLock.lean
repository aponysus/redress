/-
  Redress.Lemmas.SimLock — call() and execute() in lock step (C12, T1): the environment assumption `Env`, the
  relation between the results of one attempt and the delivery step; then one attempt (the failed-attempt
  tail, the result path, the exception path, the `except` ladders), the loop by induction on its fuel, and
  `runCall` vs `runExecute` (`run_rel`).  ("Lock" as in lock step; nothing to do with the mutexes of C17.)
-/
import Redress.Lemmas.SimFacts
import Redress.Lemmas.Footprint

namespace Redress
open Twin Retry

/-! ### the environment C12 speaks about, as a predicate on the call() log -/

/-- What C12 assumes about one exchange of the call() log:
    * the operation does not raise the *library's own* `RuntimeError("Retry attempts exhausted …")` /
      `CircuitOpenError(state)` objects (environment-made exceptions of those types are `ordinary` /
      `circuitOpen id`);
    * a raising abort predicate raises something both modes re-raise (a BaseException-only kind or a
      `RetryExhaustedError`) — an `Exception` raised by `abort_if` before the operation runs is a failed
      attempt for execute() only (DESIGN §6.2), an `AbortRetryError` raised by it ends execute() with an
      `aborted` event that call() does not emit;
    * no other callback raises `AbortRetryError` itself (execute() turns that into an aborted outcome with
      an `aborted` event once the operation has returned; call() re-raises it without the event). -/
def okX : Req × Ans → Prop
  | (.op _, .raise e _) => e ≠ .libRuntimeError ∧ ∀ st, e ≠ .libCircuitOpen st
  | (.abortIf, .raise e _) => e.isException = false ∨ e.isExhausted = true
  | (_, .raise e _) => e.isAbort = false
  | _ => True

def Env (t : List (Req × Ans)) : Prop := ∀ x ∈ t, okX x

theorem Env.mono {t t' : List (Req × Ans)} (h : Env t') (hs : ∀ x ∈ t, x ∈ t') : Env t :=
  fun x hx => h x (hs x hx)

theorem okX_nonop {r : Req} {e : Exn} {d : Nat} (hr : isOp r = false) (h : okX (r, .raise e d)) :
    e.isAbort = false := by
  cases r <;> simp only [okX, isOp] at h hr <;> (try exact h)
  all_goals (cases e <;> simp_all [Exn.isException, Exn.isExhausted, Exn.isAbort])

theorem okX_abortIf {e : Exn} {d : Nat} (h : okX (.abortIf, .raise e d)) :
    e.isException = false ∨ e.isExhausted = true := h

theorem okX_op {n : Nat} {e : Exn} {d : Nat} (h : okX (.op n, .raise e d)) :
    e ≠ .libRuntimeError ∧ ∀ st, e ≠ .libCircuitOpen st := h

/-- under `Env`, an abort leaving a shared procedure is the library's own, after a poll -/
theorem AbOK.resolve {e : Exn} {w : World} (h : AbOK e w) (henv : Env w.trace) (he : e.isAbort = true) :
    e = .libAbort ∧ w.rs.lastStop = some .aborted := by
  rcases h he with ⟨r, d, hm, hr⟩ | h
  · have := okX_nonop hr (henv _ hm)
    rw [this] at he; cases he
  · exact h

/-! ### result delivery: `deliverRelated`, clause by clause -/

/-- exceptions for which `deliverRelated` uses its general clause "the operation's last exception" -/
def Plain : Exn → Prop
  | .libExhausted _ | .libAbort | .abort _ | .libCircuitOpen _ | .libRuntimeError => False
  | _ => True

theorem plain_of {e : Exn} (h1 : e.isAbort = false) (h2 : ∀ f, e ≠ .libExhausted f)
    (h3 : e ≠ .libRuntimeError) (h4 : ∀ st, e ≠ .libCircuitOpen st) : Plain e := by
  cases e <;> simp_all [Plain, Exn.isAbort]

theorem dr_plain {e : Exn} (hp : Plain e) (o : Outcome) (t : List TimelineEv) :
    deliverRelated (.raised e) (.outcome o t)
      = (!o.ok && o.cause == some .exception && o.lastExc == some e.ref) := by
  cases e <;> first | rfl | exact hp.elim

theorem dr_abort {e : Exn} (h : e.isAbort = true) (o : Outcome) (t : List TimelineEv) :
    deliverRelated (.raised e) (.outcome o t) = (!o.ok && o.stop == some .aborted) := by
  cases e <;> first | rfl | cases h

/-- what the operation raised, when it is re-raised by call() as "the last exception" -/
def OpExn (e : Exn) : Prop :=
  Plain e ∧ e.isException = true ∧ e.isAbort = false ∧ e.isExhausted = false

/-- how call() ended when execute() returned a failed outcome `o` (`w` = call()'s final world; `m` = the
    configured `max_attempts`, for the "nothing was ever attempted" case) -/
def ErrKind (m : Nat) (e : Exn) (o : Outcome) (w : World) : Prop :=
  o.ok = false ∧ o.lastClass = w.rs.lastClass ∧
  ((e.isAbort = true ∧ o.stop = some .aborted) ∨
   ((∃ f, e = .libExhausted f ∧ f.lastClass = w.rs.lastClass) ∧ o.stop ≠ some .aborted) ∨
   (OpExn e ∧ w.rs.lastExc = some e ∧ o.stop ≠ some .aborted) ∨
   (e = .libRuntimeError ∧ m = 0))

theorem ErrKind.mono {m : Nat} {e : Exn} {o : Outcome} {w : World} (h : ErrKind 1 e o w) : ErrKind m e o w := by
  obtain ⟨h1, h2, h3⟩ := h
  refine ⟨h1, h2, ?_⟩
  rcases h3 with h | h | h | ⟨_, h⟩
  · exact Or.inl h
  · exact Or.inr (Or.inl h)
  · exact Or.inr (Or.inr (Or.inl h))
  · cases h

theorem ErrKind.congr {m : Nat} {e : Exn} {o : Outcome} {w w' : World} (hr : w'.rs = w.rs)
    (h : ErrKind m e o w) : ErrKind m e o w' := by
  unfold ErrKind at *
  rw [hr]; exact h

theorem dr_tl (rc : Res) (o : Outcome) (t : List TimelineEv) :
    deliverRelated rc (.outcome o t) = deliverRelated rc (.outcome o []) := by
  cases rc with
  | raised e => cases e <;> rfl
  | _ => rfl

theorem dr_raised (e e' : Exn) : deliverRelated (.raised e) (.raised e') = (e == e') := by
  cases e <;> rfl

/-! ### the relation between the results of one attempt -/

/-- what a continuing attempt leaves behind for `raise_exhausted_call` / `build_exhausted_outcome` -/
def Carry (w : World) : Prop :=
  w.rs.lastCause = some .result ∨ (w.rs.lastCause = some .exception ∧ ∃ e, w.rs.lastExc = some e ∧ OpExn e)

/-- call-mode result of an attempt vs execute-mode result of the same attempt (`a` = attempt number) -/
def AttemptRel (a : Nat) (rc : EStateM.Result Exn World (Option Nat))
    (re : EStateM.Result Exn World (Option Outcome)) : Prop :=
  match rc, re with
  | .ok none wc, .ok none we => π we = π wc ∧ we.attempts = a ∧ Carry wc
  | .ok (some v) wc, .ok (some o) we => π we = π wc ∧ deliverRelated (.ret v) (.outcome o []) = true
  | .error e wc, .ok (some o) we =>
    π we = π wc ∧ deliverRelated (.raised e) (.outcome o []) = true ∧ ErrKind 1 e o wc
  | .error e wc, .error e' we => π we = π wc ∧ e' = e ∧ AbOK e wc
  | _, _ => False

/-- …provided the call-mode log satisfies the environment assumption -/
def ARel (a : Nat) (rc : EStateM.Result Exn World (Option Nat))
    (re : EStateM.Result Exn World (Option Outcome)) : Prop :=
  Env (finalWorld rc).trace → AttemptRel a rc re

/-- one shared step, then the rest -/
theorem Sim.bindA {x x' : M α} (hs : Sim x x') {kc : α → M (Option Nat)} {ke : α → M (Option Outcome)}
    {a : Nat} {we wc : World} (hπ : π we = π wc)
    (hok : ∀ v we1 wc1, x we = .ok v we1 → x' wc = .ok v wc1 → π we1 = π wc1 →
      we1.attempts = we.attempts → ARel a (kc v wc1) (ke v we1)) :
    ARel a ((x' >>= kc) wc) ((x >>= ke) we) := by
  rw [bind_run, bind_run]
  rcases hs.step hπ with ⟨v, we1, wc1, k1, k2, k3, k4⟩ | ⟨e, we1, wc1, k1, k2, k3, k4, k5⟩
  · rw [k1, k2]
    exact hok v we1 wc1 k1 k2 k3 k4
  · rw [k1, k2]
    intro _
    exact ⟨k3, rfl, k5⟩

/-! ### procedures that do nothing observable without attempt hooks -/

theorem callAttemptStart_none {cfg : Cfg} (hs : cfg.attemptStart = none) (a : Nat) :
    callAttemptStart cfg a = pure () := by
  unfold callAttemptStart
  rw [hs]

theorem callAttemptEnd_none {cfg : Cfg} (he : cfg.attemptEnd = none) (a : Nat) (cls : Option Classification)
    (e : Option Exn) (r : Option Nat) (d : AttemptDecision) (st : Option StopReason) (c : Option Cause)
    (sl : Option Nat) : callAttemptEnd cfg a cls e r d st c sl = pure () := by
  unfold callAttemptEnd
  rw [he]

theorem callAttemptEndFromOutcome_none {cfg : Cfg} (he : cfg.attemptEnd = none) (a : Nat) (o : AOutcome) :
    callAttemptEndFromOutcome cfg a o = pure () := by
  unfold callAttemptEndFromOutcome
  exact callAttemptEnd_none he ..

theorem handleAbortAttemptEnd_run {cfg : Cfg} (he : cfg.attemptEnd = none) (a : Nat) (e : Exn) (w : World) :
    ∃ w', handleAbortAttemptEnd cfg a e w = .ok ⟨⟩ w' ∧ π w' = π w ∧ w'.attempts = w.attempts := by
  unfold handleAbortAttemptEnd
  rw [bind_run, getAS_run]
  simp only
  split
  · rw [callAttemptEnd_none he, bind_run, pure_run]
    exact ⟨_, rfl, rfl, rfl⟩
  · exact ⟨_, rfl, rfl, rfl⟩

/-- the abort exit of execute() when the abort is already recorded: no event, an aborted outcome -/
theorem execAbortExit_noop {cfg : Cfg} (he : cfg.attemptEnd = none) (tl : Bool) (a : Nat) (e : Exn)
    (w : World) (hls : w.rs.lastStop = some .aborted) :
    ∃ o w', execAbortExit cfg tl a e w = .ok (some o) w' ∧ π w' = π w ∧
      o.ok = false ∧ o.stop = some .aborted ∧ o.lastClass = w.rs.lastClass := by
  obtain ⟨w1, h1, h2, h3⟩ := handleAbortAttemptEnd_run he a e w
  have hls1 : w1.rs.lastStop = some .aborted := by rw [π_rs h2]; exact hls
  unfold execAbortExit
  rw [bind_run, h1]
  simp only
  rw [bind_run, get_run]
  simp only
  unfold abortOutcome
  rw [bind_run, bind_run, emitAbortedOnce_noop _ _ _ _ hls1]
  simp only [buildOutcome_run, pure_run]
  exact ⟨_, _, rfl, h2, rfl, by simp [hls1], by simp [π_rs h2]⟩

/-- call() raised an abort that execute()'s handler catches: under `Env` it is the library's own abort after a
    poll, already recorded, so execute() ends as aborted without a further event -/
theorem abortCaught_rel {cfg : Cfg} (he : cfg.attemptEnd = none) (tl : Bool) (a : Nat) (e' : Exn) {e : Exn}
    {we wc : World} (hπ : π we = π wc) (hab : AbOK e wc) (henv : Env wc.trace) (h : e.isAbort = true) :
    AttemptRel a (.error e wc) (execAbortExit cfg tl a e' we) := by
  obtain ⟨rfl, hls⟩ := hab.resolve henv h
  obtain ⟨o, w', q1, q2, q3, q4, q5⟩ := execAbortExit_noop he tl a e' we (by rw [π_rs hπ]; exact hls)
  rw [q1]
  exact ⟨q2.trans hπ, by simp [deliverRelated, q3, q4], q3, by rw [q5, π_rs hπ], Or.inl ⟨rfl, q4⟩⟩

/-! ### delivery: `deliverCall` vs `deliverExecute` -/

theorem deliver_rel {cfg : Cfg} (tl : Bool) {a : Nat} {o : AOutcome} {r re : RState} {fr : Bool}
    {orig : Option Exn} {fb : ExhaustedFields} {we wc : World}
    (hπ : π we = π wc) (hatt : we.attempts = a) (hr : wc.rs = r) (hrr : re = r) (hf : DecFacts o r)
    (hcr : fr = true → r.lastCause = some .result)
    (hce : fr = false → r.lastCause = some .exception ∧ ∃ e, orig = some e ∧ r.lastExc = some e ∧ OpExn e) :
    AttemptRel a (deliverCall (determineAction o r a fr) orig fb wc)
      (deliverExecute cfg tl (determineAction o re a fr) o we) := by
  subst hrr
  have hre : we.rs = re := (π_rs hπ).trans hr
  unfold deliverExecute
  rw [bind_run, get_run]
  simp only
  cases hdec : o.decision with
  | retry =>
    simp only [determineAction, hdec, deliverCall]
    refine ⟨hπ, hatt, ?_⟩
    cases fr with
    | true => exact Or.inl (by rw [hr]; exact hcr rfl)
    | false =>
      obtain ⟨h1, e, _, h3, h4⟩ := hce rfl
      exact Or.inr ⟨by rw [hr]; exact h1, e, by rw [hr]; exact h3, h4⟩
  | aborted =>
    simp only [determineAction, hdec, deliverCall]
    have hls : we.rs.lastStop = some .aborted := by rw [hre]; exact hf.aborted hdec
    unfold abortOutcome
    rw [bind_run, bind_run, emitAbortedOnce_noop _ _ _ _ hls]
    simp only [buildOutcome_run, pure_run, throw_run]
    exact ⟨hπ, by simp [deliverRelated, hls],
      rfl, by simp [hre, hr], Or.inl ⟨rfl, by simp [hls]⟩⟩
  | scheduled =>
    simp only [determineAction, hdec, deliverCall]
    obtain ⟨hs1, hs2⟩ := hf.scheduled hdec
    simp only [bind_run, buildOutcome_run, pure_run, throw_run]
    refine ⟨hπ, ?_, rfl, by simp [hre, hr],
      Or.inr (Or.inl ⟨⟨_, rfl, by simp [hr]⟩, by simp [hre, hs2]⟩)⟩
    cases fr with
    | true =>
      have := hcr rfl
      simp [deliverRelated, hre, hs1, hs2, hatt, this]
    | false =>
      obtain ⟨h1, e, _, h3, _⟩ := hce rfl
      simp [deliverRelated, hre, hs1, hs2, hatt, h1, h3, determineAction.refOf]
  | raise =>
    obtain ⟨hs1, hs2⟩ := hf.raise hdec
    cases fr with
    | true =>
      simp only [determineAction, hdec, deliverCall, if_true]
      simp only [bind_run, buildOutcome_run, pure_run, throw_run]
      obtain ⟨s, hs, hsa⟩ := hs2
      refine ⟨hπ, ?_, rfl, by simp [hre, hr],
        Or.inr (Or.inl ⟨⟨_, rfl, by simp [hr]⟩, by simp [hre, hs, hsa]⟩)⟩
      have := hcr rfl
      simp [deliverRelated, hre, hs1, hs, hatt, this]
    | false =>
      obtain ⟨h1, e, he1, h3, h4⟩ := hce rfl
      simp only [determineAction, hdec, deliverCall, Bool.false_eq_true, if_false, he1]
      simp only [bind_run, buildOutcome_run, pure_run, throw_run]
      obtain ⟨s, hs, hsa⟩ := hs2
      refine ⟨hπ, ?_, rfl, by simp [hre, hr],
        Or.inr (Or.inr (Or.inl ⟨h4, by rw [hr]; exact h3, by simp [hre, hs, hsa]⟩))⟩
      rw [dr_plain h4.1]
      simp [hre, h1, h3]
  | success => exact absurd hdec hf.notSuccess

/-! ## the regions of one attempt -/

/-! ### where exceptions of `check_abort` come from -/

theorem ask_err {r : Req} {w : World} {e : Exn} {w' : World} (h : ask r w = .error e w') :
    e = .stuck ∨ ∃ d, (r, Ans.raise e d) ∈ w'.trace := by
  cases hw : w.answers with
  | nil =>
    rw [ask_nil r w hw] at h
    injection h with he _
    exact Or.inl he.symm
  | cons a rest =>
    rw [ask_cons r w a rest hw] at h
    cases a with
    | raise e' d =>
      simp only [askStep] at h
      injection h with he hw'
      subst he hw'
      exact Or.inr ⟨d, List.mem_cons_self⟩
    | _ => simp only [askStep] at h; cases h

theorem swallow_err {x : M Unit} {w : World} {e : Exn} {w' : World}
    (h : (tryCatch x swallowException : M Unit) w = .error e w') : e.isException = false := by
  rw [tryCatch_run] at h
  cases hx : x w with
  | ok a w1 => rw [hx] at h; cases h
  | error e1 w1 =>
    rw [hx] at h
    simp only at h
    unfold swallowException at h
    by_cases he : e1.isException = true
    · rw [if_pos he] at h; cases h
    · rw [if_neg he] at h
      injection h with h1 _
      subst h1
      simpa using he

/-- only BaseException-only kinds get out of `emit` -/
theorem emit_err {cfg : Cfg} {tl : Bool} {ev : Event} {a s : Nat} {k : Option EClass} {e : Option Exn}
    {st : Option StopReason} {c : Option Cause} {cl : Option Classification} {w : World} {x : Exn}
    {w' : World} (h : emit cfg tl ev a s k e st c cl w = .error x w') : x.isException = false := by
  simp only [emit] at h
  rcases bind_err h with h1 | ⟨_, w1, _, h2⟩
  · exact swallow_err h1
  · by_cases hl : cfg.log = true
    · rw [if_pos hl] at h2; exact swallow_err h2
    · rw [if_neg hl] at h2; cases h2

/-- `check_abort` raises: its own `AbortRetryError` after a poll that said "abort" (the stop reason is
    recorded), or what the predicate raised, or a BaseException-only kind of an observability hook -/
theorem checkAbort_err {cfg : Cfg} {tl : Bool} {a : Nat} {w : World} {e : Exn} {w' : World}
    (h : checkAbort cfg tl a w = .error e w') :
    (e = .libAbort ∧ w'.rs.lastStop = some .aborted) ∨
      (∃ d, (Req.abortIf, Ans.raise e d) ∈ w'.trace) ∨ e.isException = false := by
  unfold checkAbort at h
  by_cases hc : cfg.abortIf = true
  · rw [if_pos hc] at h
    rcases bind_err h with h1 | ⟨ans, w1, h1, h2⟩
    · rcases ask_err h1 with rfl | hd
      · exact Or.inr (Or.inr rfl)
      · exact Or.inr (Or.inl hd)
    · cases ans with
      | bool b d =>
        cases b with
        | false => simp only at h2; cases h2
        | true =>
          simp only at h2
          rcases bind_err h2 with k1 | ⟨_, w2, k1, k2⟩
          · rw [setStop_run] at k1; cases k1
          · rcases bind_err k2 with m1 | ⟨_, w3, m1, m2⟩
            · exact Or.inr (Or.inr (emit_err m1))
            · injection m2 with he hw
              subst he hw
              rw [setStop_run] at k1
              injection k1 with _ hw2
              subst hw2
              have := (emit_rs ..).ok m1
              exact Or.inl ⟨rfl, by show (gRS w3).lastStop = _; rw [this]; rfl⟩
      | _ =>
        simp only at h2
        injection h2 with he _
        subst he
        exact Or.inr (Or.inr rfl)
  · rw [if_neg hc] at h; cases h

theorem abortTail_sim (cfg : Cfg) (tl : Bool) (a : Nat) :
    Sim (do setStop .aborted; emit cfg tl .aborted a 0 (stop := some .aborted); throw .libAbort : M Unit)
        (do setStop .aborted; emit cfg false .aborted a 0 (stop := some .aborted); throw .libAbort : M Unit) := by
  refine ⟨fun we wc h => ?_⟩
  have h1 := ((setStop_sim .aborted).run we wc h).2.1
  rw [bind_run, bind_run, setStop_run, setStop_run]
  simp only
  rw [bind_run, bind_run]
  rcases (emit_sim cfg tl .aborted a 0 none none (some .aborted) none none).step h1 with
    ⟨u, we2, wc2, k1, k2, k3, k4⟩ | ⟨e, we2, wc2, k1, k2, k3, k4, k5⟩
  · rw [k1, k2]
    have := (emit_rs ..).ok k2
    refine ⟨rfl, k3, k4, fun _ => Or.inr ⟨rfl, ?_⟩⟩
    show (gRS wc2).lastStop = _
    rw [this]; rfl
  · rw [k1, k2]
    exact ⟨rfl, k3, k4, k5⟩

theorem checkAbort_sim (cfg : Cfg) (tl : Bool) (a : Nat) :
    Sim (checkAbort cfg tl a) (checkAbort cfg false a) := by
  unfold checkAbort
  sim [abortTail_sim]

/-! ### the operation itself -/

theorem invokeOp_step {a : Nat} {we wc : World} (h : π we = π wc) :
    (∃ v we1 wc1, invokeOp a we = .ok v we1 ∧ invokeOp a wc = .ok v wc1 ∧ π we1 = π wc1 ∧
        we1.attempts = we.attempts) ∨
    (∃ e we1 wc1, invokeOp a we = .error e we1 ∧ invokeOp a wc = .error e wc1 ∧ π we1 = π wc1 ∧
        we1.attempts = we.attempts ∧ (e = .stuck ∨ ∃ n d, (Req.op n, Ans.raise e d) ∈ wc1.trace)) := by
  unfold invokeOp
  simp only [bind_run, modify_run, get_run]
  obtain ⟨h1, h2, h3, h4, h5, h6, h7, h8, h9⟩ := (π_iff _ _).mp h
  have h0 : π { we with opCalls := wc.opCalls + 1 } = π { wc with opCalls := wc.opCalls + 1 } :=
    (π_iff _ _).mpr ⟨h1, h2, h3, h4, rfl, h6, h7, h8, h9⟩
  rw [h5]
  generalize hwe : ({ we with opCalls := wc.opCalls + 1 } : World) = we0
  generalize hwc : ({ wc with opCalls := wc.opCalls + 1 } : World) = wc0
  have h0' : π we0 = π wc0 := by rw [← hwe, ← hwc]; exact h0
  have hatt : we0.attempts = we.attempts := by rw [← hwe]
  have ha : we0.answers = wc0.answers := π_answers h0'
  cases hw : wc0.answers with
  | nil =>
    rw [ask_nil _ wc0 hw, ask_nil _ we0 (ha.trans hw)]
    exact Or.inr ⟨_, _, _, rfl, rfl, π_logged h0' _, hatt, Or.inl rfl⟩
  | cons x rest =>
    rw [ask_cons _ wc0 x rest hw, ask_cons _ we0 x rest (ha.trans hw)]
    have hx := π_exchange h0' rest x.dur (Req.op (wc.opCalls + 1), x)
    cases x with
    | value v d => exact Or.inl ⟨_, _, _, rfl, rfl, hx, hatt⟩
    | raise e d =>
      exact Or.inr ⟨_, _, _, rfl, rfl, hx, hatt, Or.inr ⟨_, d, List.mem_cons_self⟩⟩
    | _ => exact Or.inr ⟨_, _, _, rfl, rfl, hx, hatt, Or.inl rfl⟩

/-! ### the common tail of a failed attempt -/

/-- the last third of `callResultFailure` / `callExceptionPath` (call mode): `_sync_failure_outcome`, attempt-end
    hook, `determine_action_from_outcome`, deliver -/
def callTail (cfg : Cfg) (a : Nat) (d : Decision) (cls : Option Classification) (exc : Option Exn)
    (res : Option Nat) (cause : Option Cause) (fr : Bool) (orig : Option Exn)
    (fbf : RState → ExhaustedFields) : M (Option Nat) := do
  let o ← failureOutcome cfg false a d cls exc res cause
  callAttemptEndFromOutcome cfg a o
  modifyAS fun a => { a with endCalled := true }
  let r ← getRS
  deliverCall (determineAction o r a fr) orig (fbf r)

/-- the same slice of `execResultFailure` / `execExceptionPath3`, ending in `deliverExecute` -/
def execTail (cfg : Cfg) (tl : Bool) (a : Nat) (d : Decision) (cls : Option Classification)
    (exc : Option Exn) (res : Option Nat) (cause : Option Cause) (fr : Bool) : M (Option Outcome) := do
  let o ← failureOutcome cfg tl a d cls exc res cause
  callAttemptEndFromOutcome cfg a o
  modifyAS fun a => { a with endCalled := true }
  let r ← getRS
  deliverExecute cfg tl (determineAction o r a fr) o

theorem tail_rel {cfg : Cfg} (he : cfg.attemptEnd = none) (tl : Bool) {a : Nat} {d : Decision}
    {cls : Option Classification} {exc : Option Exn} {res : Option Nat} {cause : Option Cause} {fr : Bool}
    {orig : Option Exn} {fbf : RState → ExhaustedFields} {we wc : World}
    (hπ : π we = π wc) (hatt : we.attempts = a)
    (hd : RaiseStop d wc)
    (hcr : fr = true → wc.rs.lastCause = some .result)
    (hce : fr = false → wc.rs.lastCause = some .exception ∧
      ∃ e, orig = some e ∧ wc.rs.lastExc = some e ∧ OpExn e) :
    ARel a (callTail cfg a d cls exc res cause fr orig fbf wc)
      (execTail cfg tl a d cls exc res cause fr we) := by
  unfold callTail execTail
  apply Sim.bindA (failureOutcome_sim cfg tl a d cls exc res cause) hπ
  intro o we1 wc1 k1 k2 k3 k4
  obtain ⟨hf, hc1, hc2⟩ := failureOutcome_ok k2 hd
  simp only [callAttemptEndFromOutcome_none he, bind_run, pure_run, modifyAS_run, getRS_run]
  intro _
  refine deliver_rel tl (r := wc1.rs) (re := we1.rs) k3 (k4.trans hatt) rfl (π_rs k3) hf ?_ ?_
  · intro h; rw [hc1]; exact hcr h
  · intro h
    obtain ⟨q1, e, q2, q3, q4⟩ := hce h
    exact ⟨by rw [hc1]; exact q1, e, q2, by rw [hc2]; exact q3, q4⟩

/-! ### after the operation returned -/

theorem resultFailure_rel {cfg : Cfg} (he : cfg.attemptEnd = none) (tl : Bool) {a v : Nat}
    {c : Classification} {we wc : World} (hπ : π we = π wc) (hatt : we.attempts = a) :
    ARel a (callResultFailure cfg a v c wc) (execResultFailure cfg tl a v c we) := by
  unfold callResultFailure execResultFailure
  apply Sim.bindA (checkAbort_sim cfg tl a) hπ
  intro _ we1 wc1 _ _ k3 k4
  apply Sim.bindA (modifyAS_sim _) k3
  intro _ we2 wc2 _ _ m3 m4
  apply Sim.bindA (handleFailure_sim cfg tl c a .result none (some v)) m3
  intro d we3 wc3 _ n2 n3 n4
  obtain ⟨f1, f2, f3⟩ := handleFailure_ok n2
  have hatt3 : we3.attempts = a := by rw [n4, m4, k4, hatt]
  by_cases hdr : d.isRaise = true
  · simp only [hdr, if_true]
    exact tail_rel he tl (cls := some c) (exc := none) (res := some v) (cause := some .result) (fr := true)
      (orig := none)
      (fbf := fun r => { stop := r.lastStop.getD .maxAttemptsGlobal, attempts := a, lastClass := r.lastClass,
                         lastExc := none, lastResult := r.lastResult, nextSleep := none })
      n3 hatt3 f3 (fun _ => f1) (fun h => by cases h)
  · simp only [hdr]
    apply Sim.bindA (checkAbort_sim cfg tl a) n3
    intro _ we4 wc4 _ p2 p3 p4
    have hk := (checkAbort_ce cfg false a).ok p2
    have hk1 : wc4.rs.lastCause = wc3.rs.lastCause := congrArg Prod.fst hk
    exact tail_rel he tl (cls := some c) (exc := none) (res := some v) (cause := some .result) (fr := true)
      (orig := none)
      (fbf := fun r => { stop := r.lastStop.getD .maxAttemptsGlobal, attempts := a, lastClass := r.lastClass,
                         lastExc := none, lastResult := r.lastResult, nextSleep := none })
      p3 (p4.trans hatt3) (fun h => by subst h; exact absurd rfl hdr) (fun _ => by rw [hk1]; exact f1)
      (fun h => by cases h)

theorem resultPath_rel {cfg : Cfg} (he : cfg.attemptEnd = none) (tl : Bool) {a v : Nat}
    {we wc : World} (hπ : π we = π wc) (hatt : we.attempts = a) :
    ARel a (callResultPath cfg a v wc) (execResultPath cfg tl a v we) := by
  unfold callResultPath execResultPath
  apply Sim.bindA (shouldClassifyResult_sim cfg v) hπ
  intro c we1 wc1 _ _ k3 k4
  cases c with
  | none =>
    simp only
    apply Sim.bindA (handleSuccessAttemptEnd_sim cfg tl a v) k3
    intro _ we2 wc2 _ _ m3 m4
    simp only [bind_run, buildOutcome_run, pure_run]
    intro _
    exact ⟨m3, by simp [deliverRelated]⟩
  | some c => exact resultFailure_rel he tl k3 (k4.trans hatt)

/-- execute()'s `try` around the post-return region: an abort that gets there is already recorded -/
theorem ARel.wrap {cfg : Cfg} (he : cfg.attemptEnd = none) (tl : Bool) (a : Nat)
    {rc : EStateM.Result Exn World (Option Nat)} {re : EStateM.Result Exn World (Option Outcome)}
    (h : ARel a rc re) :
    ARel a rc (match (generalizing := false) re with
      | .ok o w => .ok o w
      | .error e w => execReturnedHandler cfg tl a e w) := by
  intro henv
  have h' := h henv
  cases rc with
  | ok x wc =>
    cases re with
    | ok y we => exact h'
    | error e we => cases x <;> exact h'.elim
  | error e wc =>
    cases re with
    | ok y we => exact h'
    | error e' we =>
      obtain ⟨h1, h2, h3⟩ := h'
      subst h2
      simp only
      unfold execReturnedHandler
      by_cases hab : e'.isAbort = true
      · rw [if_pos hab]
        exact abortCaught_rel he tl a e' h1 h3 henv hab
      · rw [if_neg hab]
        exact ⟨h1, rfl, h3⟩

theorem resultRegion_rel {cfg : Cfg} (he : cfg.attemptEnd = none) (tl : Bool) {a v : Nat}
    {we wc : World} (hπ : π we = π wc) (hatt : we.attempts = a) :
    ARel a (callResultPath cfg a v wc)
      ((tryCatch (execResultPath cfg tl a v) (execReturnedHandler cfg tl a) : M (Option Outcome)) we) := by
  rw [tryCatch_run]
  have := (resultPath_rel he tl (v := v) hπ hatt).wrap he tl a
  cases hx : execResultPath cfg tl a v we <;> rw [hx] at this <;> exact this

/-! ### the operation raised -/

/-- a poll in the exception-handler region: call mode lets `check_abort`'s exception go, execute mode
    catches an abort and ends the run as aborted -/
theorem checkCaught_rel {cfg : Cfg} (he : cfg.attemptEnd = none) (tl : Bool) {a : Nat} {e : Exn}
    {we wc : World} {kc : Unit → M (Option Nat)} {ke : M (Option Outcome)} (hπ : π we = π wc)
    (hok : ∀ we1 wc1, checkAbort cfg false a wc = .ok ⟨⟩ wc1 → π we1 = π wc1 →
      we1.attempts = we.attempts → ARel a (kc ⟨⟩ wc1) (ke we1)) :
    ARel a ((checkAbort cfg false a >>= kc) wc)
      ((checkAbortCaught cfg tl a >>= fun ab => if ab = true then execAbortExit cfg tl a e else ke) we) := by
  unfold checkAbortCaught
  rw [bind_run, bind_run, tryCatch_run, bind_run]
  rcases (checkAbort_sim cfg tl a).step hπ with ⟨u, we1, wc1, k1, k2, k3, k4⟩ | ⟨e1, we1, wc1, k1, k2, k3, k4, k5⟩
  · rw [k1, k2]
    simp only [pure_run, Bool.false_eq_true, if_false]
    exact hok we1 wc1 k2 k3 k4
  · rw [k1, k2]
    simp only
    unfold abortToTrue
    by_cases hab : e1.isAbort = true
    · simp only [hab, if_true, pure_run]
      exact fun henv => abortCaught_rel he tl a e k3 k5 henv hab
    · simp only [hab]
      intro _
      exact ⟨k3, rfl, k5⟩

theorem execExceptionPath3_eq (cfg : Cfg) (tl : Bool) (a : Nat) (e : Exn) (d : Decision) (w : World) :
    execExceptionPath3 cfg tl a e d w
      = execTail cfg tl a d w.rs.lastClassification (some e) none (some .exception) false w := rfl

theorem modifyAS_rs {f : AState → AState} {w : World} {u : Unit} {w' : World}
    (h : modifyAS f w = .ok u w') : w'.rs = w.rs := by
  rw [modifyAS_run] at h
  injection h with _ hw
  subst hw
  rfl

theorem excPath_rel {cfg : Cfg} (he : cfg.attemptEnd = none) (tl : Bool) {a : Nat} {e : Exn}
    {we wc : World} (hπ : π we = π wc) (hatt : we.attempts = a) (hp : OpExn e) :
    ARel a (callExceptionPath cfg a e wc) (execExceptionPath cfg tl a e we) := by
  unfold callExceptionPath execExceptionPath
  apply Sim.bindA (modifyAS_sim _) hπ
  intro _ we1 wc1 _ _ k3 k4
  apply checkCaught_rel he tl k3
  intro we2 wc2 _ m3 m4
  unfold execExceptionPath2
  apply Sim.bindA (handleException_sim cfg tl e a) m3
  intro d we3 wc3 _ n2 n3 n4
  obtain ⟨f1, f2, f3⟩ := handleException_ok n2
  have hatt3 : we3.attempts = a := by rw [n4, m4, k4, hatt]
  rw [bind_run, bind_run, getRS_run, getRS_run]
  simp only
  rw [π_rs n3]
  apply Sim.bindA (modifyAS_sim _) n3
  intro _ we4 wc4 q1 q2 q3 q4
  have hr4 : wc4.rs = wc3.rs := modifyAS_rs q2
  have hre4 : we4.rs = wc3.rs := (π_rs q3).trans hr4
  have hatt4 : we4.attempts = a := q4.trans hatt3
  have hce : false = false → wc4.rs.lastCause = some .exception ∧
      ∃ e', some e = some e' ∧ wc4.rs.lastExc = some e' ∧ OpExn e' :=
    fun _ => ⟨by rw [hr4]; exact f1, e, rfl, by rw [hr4]; exact f2, hp⟩
  by_cases hdr : d.isRaise = true
  · simp only [hdr, if_true]
    rw [execExceptionPath3_eq, hre4]
    exact tail_rel he tl (fr := false) (orig := some e) (fbf := fun _ => default) q3 hatt4
      (fun h => by rw [hr4]; exact f3 h) (fun h => by cases h) hce
  · simp only [hdr]
    apply checkCaught_rel he tl q3
    intro we5 wc5 p2 p3 p4
    have hk := (checkAbort_ce cfg false a).ok p2
    have hk1 : wc5.rs.lastCause = wc4.rs.lastCause := congrArg Prod.fst hk
    have hk2 : wc5.rs.lastExc = wc4.rs.lastExc := congrArg Prod.snd hk
    have hns := (checkAbort_ns cfg false a).ok p2
    have hk3 : wc5.rs.lastClassification = wc4.rs.lastClassification := by
      have := congrArg RState.lastClassification hns
      exact this
    have hre5 : we5.rs.lastClassification = wc3.rs.lastClassification := by
      rw [π_rs p3, hk3, hr4]
    rw [execExceptionPath3_eq, hre5]
    exact tail_rel he tl (fr := false) (orig := some e) (fbf := fun _ => default) p3 (p4.trans hatt4)
      (fun h => by subst h; exact absurd rfl hdr) (fun h => by cases h)
      (fun _ => ⟨by rw [hk1, hr4]; exact f1, e, rfl, by rw [hk2, hr4]; exact f2, hp⟩)

section
open Std.Do

/-- what the `Ext` footprints say about the log -/
theorem Grows.of_ext {x : M α} (hx : ∀ w0, ⦃fun w => ⌜Ext loopK w0 w⌝⦄ x ⦃extPost loopK w0⦄) : Grows x := by
  refine ⟨fun w y hy => ?_⟩
  obtain ⟨δ, hδ⟩ := Ext.grows (final_of_triple (hx w) w (Ext.refl _ _))
  rw [hδ]
  exact List.mem_append_right _ hy

/-! ### the `except` ladders around the operation -/

/-- the operation raised `AbortRetryError` -/
theorem abortExit_rel {cfg : Cfg} (he : cfg.attemptEnd = none) (tl : Bool) {a : Nat} {e : Exn}
    {we wc : World} (hπ : π we = π wc) (hatt : we.attempts = a) (hab : e.isAbort = true) :
    ARel a ((do handleAbortAttemptEnd cfg a e; emitAbortedOnce cfg false a; throw e : M (Option Nat)) wc)
      (execAbortExit cfg tl a e we) := by
  obtain ⟨wc1, p1, p2, _⟩ := handleAbortAttemptEnd_run he a e wc
  obtain ⟨we1, q1, q2, q3⟩ := handleAbortAttemptEnd_run he a e we
  have h1 : π we1 = π wc1 := q2.trans (hπ.trans p2.symm)
  have hatt1 : we1.attempts = a := q3.trans hatt
  unfold execAbortExit
  rw [bind_run, bind_run, p1, q1]
  simp only
  rw [bind_run (x := get), get_run]
  simp only
  unfold abortOutcome
  rw [hatt1, bind_run, bind_run, bind_run]
  rcases (emitAbortedOnce_sim cfg tl a).step h1 with
    ⟨u, we2, wc2, k1, k2, k3, k4⟩ | ⟨e1, we2, wc2, k1, k2, k3, k4, k5⟩
  · rw [k1, k2]
    simp only [buildOutcome_run, pure_run, throw_run]
    intro _
    have hls : we2.rs.lastStop = some .aborted := by rw [π_rs k3]; exact emitAbortedOnce_ok k2
    exact ⟨k3, by rw [dr_abort hab]; simp [hls], rfl, by simp [π_rs k3], Or.inl ⟨hab, by simp [hls]⟩⟩
  · rw [k1, k2]
    intro _
    exact ⟨k3, rfl, k5⟩

/-- the `except` ladder around the operation (the same in both modes, up to the two arms `A`, `B`), for an
    exception that is not an abort: an `Exception` other than `RetryExhaustedError` is a failed attempt (`B`),
    everything else propagates -/
theorem opLadder_other {α : Type} (A B : M α) {e : Exn} (h : e.isAbort = false) :
    (if e.isAbort = true then A else if e = .cancelled then throw e else if e.isKiSe = true then throw e
      else if e.isExhausted = true then throw e else if e.isException = true then B else throw e)
      = if (e.isException && !e.isExhausted) = true then B else throw e := by
  by_cases hx : e.isException = true
  · obtain ⟨k2, hc⟩ := Exn.exception_flags hx
    cases e.isExhausted <;> simp [h, hc, k2, hx]
  · have hx' : e.isException = false := by simpa using hx
    simp only [h, hx', (Exn.base_flags hx').2.1, Bool.false_and, Bool.false_eq_true, if_false]
    split
    · rfl
    · split <;> rfl

theorem callOpHandler_other {cfg : Cfg} {a : Nat} {e : Exn} (h : e.isAbort = false) :
    callOpHandler cfg a e
      = if (e.isException && !e.isExhausted) = true then callExceptionPath cfg a e else throw e :=
  opLadder_other _ _ h

theorem execHandler_other {cfg : Cfg} {tl : Bool} {a : Nat} {e : Exn} (h : e.isAbort = false) :
    execHandler cfg tl a e
      = if (e.isException && !e.isExhausted) = true then execExceptionPath cfg tl a e else throw e :=
  opLadder_other _ _ h

/-- `callOpHandler` vs `execHandler` on what the operation raised -/
theorem opHandler_rel {cfg : Cfg} (he : cfg.attemptEnd = none) (tl : Bool) {a : Nat} {e : Exn}
    {we wc : World} (hπ : π we = π wc) (hatt : we.attempts = a)
    (hop : e = .stuck ∨ ∃ n d, (Req.op n, Ans.raise e d) ∈ wc.trace) :
    ARel a (callOpHandler cfg a e wc) (execHandler cfg tl a e we) := by
  by_cases h1 : e.isAbort = true
  · unfold callOpHandler execHandler
    rw [if_pos h1, if_pos h1]
    exact abortExit_rel he tl hπ hatt h1
  · have h1' : e.isAbort = false := by simpa using h1
    rw [callOpHandler_other h1', execHandler_other h1']
    by_cases h5 : (e.isException && !e.isExhausted) = true
    · rw [if_pos h5, if_pos h5]
      intro henv
      simp only [Bool.and_eq_true, Bool.not_eq_true'] at h5
      have hp : OpExn e := by
        rcases hop with rfl | ⟨n, d, hm⟩
        · cases h5.1
        · have hin := (Grows.of_ext (fun w0 => callExceptionPath_ext w0 cfg a e)).le wc _ hm
          have := okX_op (henv _ hin)
          exact ⟨plain_of h1' (fun f hf => by rw [hf] at h5; cases h5.2) this.1 this.2, h5.1, h1', h5.2⟩
      exact excPath_rel he tl hπ hatt hp henv
    · rw [if_neg h5, if_neg h5]
      intro _
      exact ⟨hπ, rfl, AbOK.of_not_abort _ h1'⟩

/-- the loop-top poll raised: call() lets it go; execute()'s handler ladder sees it -/
theorem topErr_rel {cfg : Cfg} (he : cfg.attemptEnd = none) (tl : Bool) {a : Nat} {e : Exn}
    {we1 wc1 : World} (hπ : π we1 = π wc1) (hab : AbOK e wc1)
    (hsrc : (e = .libAbort ∧ wc1.rs.lastStop = some .aborted) ∨
      (∃ d, (Req.abortIf, Ans.raise e d) ∈ wc1.trace) ∨ e.isException = false) :
    ARel a (.error e wc1) (execHandler cfg tl a e we1) := by
  intro henv
  by_cases h1 : e.isAbort = true
  · unfold execHandler
    rw [if_pos h1]
    exact abortCaught_rel he tl a e hπ hab henv h1
  · rw [execHandler_other (by simpa using h1)]
    by_cases h5 : (e.isException && !e.isExhausted) = true
    · exfalso
      simp only [Bool.and_eq_true, Bool.not_eq_true'] at h5
      rcases hsrc with ⟨rfl, _⟩ | ⟨d, hm⟩ | h
      · exact h1 rfl
      · rcases okX_abortIf (henv _ hm) with h | h
        · rw [h] at h5; cases h5.1
        · rw [h] at h5; cases h5.2
      · rw [h] at h5; cases h5.1
    · rw [if_neg h5]
      exact ⟨hπ, rfl, hab⟩

/-! ## one whole attempt, the loop

### one attempt: poll, operation, then one of the regions above -/

theorem execAttempt_run (cfg : Cfg) (tl : Bool) (a : Nat) (we : World) :
    execAttempt cfg tl a we = (match execPre cfg tl a { we with as := {} } with
      | .ok v w1 => (tryCatch (execResultPath cfg tl a v) (execReturnedHandler cfg tl a) : M (Option Outcome)) w1
      | .error e w1 => execHandler cfg tl a e w1) := by
  unfold execAttempt
  simp only [bind_run, modify_run]
  rw [tryCatch_run]
  simp only [bind_run, pure_run]
  cases execPre cfg tl a { we with as := {} } with
  | ok v w1 => rfl
  | error e w1 =>
    simp only
    cases execHandler cfg tl a e w1 <;> rfl

theorem execPre_run {cfg : Cfg} (hs : cfg.attemptStart = none) (tl : Bool) (a : Nat) (w : World) :
    execPre cfg tl a w = (match checkAbort cfg tl (a - 1) w with
      | .error e w1 => .error e w1
      | .ok _ w1 =>
        match invokeOp a { w1 with as := { w1.as with started := true }, attempts := a } with
        | .ok v w2 => .ok v { w2 with as := { w2.as with returned := true } }
        | .error e w2 => .error e w2) := by
  unfold execPre
  simp only [callAttemptStart_none hs, bind_run, pure_run, modifyAS_run, modify_run]
  cases checkAbort cfg tl (a - 1) w with
  | error e w1 => rfl
  | ok u w1 =>
    simp only
    cases invokeOp a _ <;> rfl

theorem callAttempt_run {cfg : Cfg} (hs : cfg.attemptStart = none) (a : Nat) (wc : World) :
    callAttempt cfg a wc = (match checkAbort cfg false (a - 1) { wc with as := {} } with
      | .error e w1 => .error e w1
      | .ok _ w1 =>
        match invokeOp a { w1 with as := { w1.as with started := true } } with
        | .ok v w2 => callResultPath cfg a v w2
        | .error e w2 => callOpHandler cfg a e w2) := by
  unfold callAttempt
  simp only [callAttemptStart_none hs, bind_run, pure_run, modifyAS_run, modify_run, tryCatch_run]
  cases checkAbort cfg false (a - 1) { wc with as := {} } with
  | error e w1 => rfl
  | ok u w1 =>
    simp only
    cases invokeOp a _ with
    | ok v w2 => rfl
    | error e w2 =>
      simp only
      cases callOpHandler cfg a e w2 <;> rfl

theorem attempt_rel {cfg : Cfg} (hs : cfg.attemptStart = none) (he : cfg.attemptEnd = none) (tl : Bool)
    {a : Nat} {we wc : World} (hπ : π we = π wc) :
    ARel a (callAttempt cfg a wc) (execAttempt cfg tl a we) := by
  rw [callAttempt_run hs, execAttempt_run, execPre_run hs]
  have h0 : π { we with as := {} } = π { wc with as := {} } := hπ
  rcases (checkAbort_sim cfg tl (a - 1)).step h0 with
    ⟨u, we1, wc1, k1, k2, k3, k4⟩ | ⟨e1, we1, wc1, k1, k2, k3, k4, k5⟩
  · rw [k1, k2]
    simp only
    have h1 : π { we1 with as := { we1.as with started := true }, attempts := a }
        = π { wc1 with as := { wc1.as with started := true } } := k3
    rcases invokeOp_step (a := a) h1 with
      ⟨v, we2, wc2, m1, m2, m3, m4⟩ | ⟨e, we2, wc2, m1, m2, m3, m4, m5⟩
    · rw [m1, m2]
      simp only
      exact resultRegion_rel he tl (we := { we2 with as := { we2.as with returned := true } }) m3 m4
    · rw [m1, m2]
      simp only
      exact opHandler_rel he tl m3 m4 m5
  · rw [k1, k2]
    simp only
    exact topErr_rel he tl k3 k5 (checkAbort_err k2)

/-! ### the loop, by induction on its fuel -/

/-- a call()-flavoured result vs an execute()-flavoured one: the final worlds are related by `R`, and what is
    returned / raised is related by `deliverRelated` -/
def ResRel (R : World → World → Prop) (rc : EStateM.Result Exn World Nat) (re : EStateM.Result Exn World Outcome) :
    Prop :=
  match rc, re with
  | .ok v wc, .ok o we => R we wc ∧ deliverRelated (.ret v) (.outcome o []) = true
  | .error e wc, .ok o we => R we wc ∧ deliverRelated (.raised e) (.outcome o []) = true
  | .error e wc, .error e' we => R we wc ∧ e' = e
  | .ok _ _, .error _ _ => False

/-- …as `runEntry` packages the two results -/
theorem ResRel.res {R : World → World → Prop} {rc : EStateM.Result Exn World Nat}
    {re : EStateM.Result Exn World Outcome} (tl : Bool) (h : ResRel R rc re) :
    R (finalWorld re) (finalWorld rc) ∧ deliverRelated (toRes rc).1 (toResO tl re).1 = true := by
  cases rc <;> cases re
  · exact ⟨h.1, by simp only [toRes, toResO]; rw [dr_tl]; exact h.2⟩
  · exact h.elim
  · exact ⟨h.1, by simp only [toRes, toResO]; rw [dr_tl]; exact h.2⟩
  · exact ⟨h.1, by simp [toRes, toResO, dr_raised, h.2]⟩

/-- call-mode result of the whole run vs execute-mode result; when call() raises what execute() returns as
    a failed outcome, `ErrKind` says which of call()'s ways of ending it was -/
def FinalRel (m : Nat) (rc : EStateM.Result Exn World Nat) (re : EStateM.Result Exn World Outcome) : Prop :=
  match rc, re with
  | .ok v wc, .ok o we => π we = π wc ∧ deliverRelated (.ret v) (.outcome o []) = true
  | .error e wc, .ok o we =>
    π we = π wc ∧ deliverRelated (.raised e) (.outcome o []) = true ∧ ErrKind m e o wc
  | .error e wc, .error e' we => π we = π wc ∧ e' = e
  | .ok _ _, .error _ _ => False

theorem FinalRel.resRel {m : Nat} {rc : EStateM.Result Exn World Nat} {re : EStateM.Result Exn World Outcome}
    (h : FinalRel m rc re) : ResRel (fun we wc => π we = π wc) rc re := by
  cases rc <;> cases re
  · exact h
  · exact h
  · exact ⟨h.1, h.2.1⟩
  · exact h

/-- before attempt `a`: nothing recorded yet (first attempt), or what the last failed attempt recorded -/
def LoopInv (a : Nat) (w : World) : Prop :=
  (a = 1 ∧ w.rs.lastCause = none ∧ w.rs.lastExc = none) ∨ Carry w

theorem callLoop_zero (cfg : Cfg) (a : Nat) : callLoop cfg 0 a = raiseExhaustedCall cfg := rfl
theorem callLoop_succ (cfg : Cfg) (fuel a : Nat) :
    callLoop cfg (fuel + 1) a = (callAttempt cfg a >>= fun r =>
      match r with
      | some v => pure v
      | none => callLoop cfg fuel (a + 1)) := rfl
theorem execLoop_zero (cfg : Cfg) (tl : Bool) (a : Nat) :
    execLoop cfg tl 0 a = buildExhaustedOutcome cfg tl := rfl
theorem execLoop_succ (cfg : Cfg) (tl : Bool) (fuel a : Nat) :
    execLoop cfg tl (fuel + 1) a = (execAttempt cfg tl a >>= fun r =>
      match r with
      | some o => pure o
      | none => execLoop cfg tl fuel (a + 1)) := rfl

/-- the loops look at the configuration only through one attempt and the exit taken when the attempts are
    used up -/
theorem callLoop_congr {cfg cfg' : Cfg} (h1 : ∀ a, callAttempt cfg' a = callAttempt cfg a)
    (h0 : raiseExhaustedCall cfg' = raiseExhaustedCall cfg) :
    ∀ (fuel a : Nat), callLoop cfg' fuel a = callLoop cfg fuel a
  | 0, _ => h0
  | fuel + 1, a => by
    rw [callLoop_succ, callLoop_succ, h1]
    congr 1
    funext r
    cases r with
    | none => exact callLoop_congr h1 h0 fuel (a + 1)
    | some v => rfl

theorem execLoop_congr {cfg cfg' : Cfg} {tl : Bool} (h1 : ∀ a, execAttempt cfg' tl a = execAttempt cfg tl a)
    (h0 : buildExhaustedOutcome cfg' tl = buildExhaustedOutcome cfg tl) :
    ∀ (fuel a : Nat), execLoop cfg' tl fuel a = execLoop cfg tl fuel a
  | 0, _ => h0
  | fuel + 1, a => by
    rw [execLoop_succ, execLoop_succ, h1]
    congr 1
    funext r
    cases r with
    | none => exact execLoop_congr h1 h0 fuel (a + 1)
    | some o => rfl

/-- `raise_exhausted_call` vs `build_exhausted_outcome` -/
theorem exhausted_rel {cfg : Cfg} (tl : Bool) {we wc : World} (hπ : π we = π wc)
    (hatt : we.attempts = cfg.maxAttempts) (hinv : LoopInv (cfg.maxAttempts + 1) wc) :
    FinalRel cfg.maxAttempts (raiseExhaustedCall cfg wc) (buildExhaustedOutcome cfg tl we) := by
  unfold raiseExhaustedCall buildExhaustedOutcome
  rw [bind_run, bind_run]
  rcases (emitMaxAttemptsExceeded_sim cfg tl).step hπ with
    ⟨u, we1, wc1, k1, k2, k3, k4⟩ | ⟨e1, we1, wc1, k1, k2, k3, k4, k5⟩
  · rw [k1, k2]
    obtain ⟨g1, g2, g3⟩ := emitMaxAttemptsExceeded_ok k2
    have hrs : we1.rs = wc1.rs := π_rs k3
    have hatt1 : we1.attempts = cfg.maxAttempts := k4.trans hatt
    simp only [bind_run, getRS_run, get_run, buildOutcome_run]
    rcases hinv with ⟨h1, h2, h3⟩ | h | ⟨h1, e, h2, h3⟩
    · have hm : cfg.maxAttempts = 0 := by omega
      rw [g2, g3, h2, h3]
      simp only [reduceCtorEq, if_false, throw_run]
      exact ⟨k3, by simp [deliverRelated, hrs, g1, hatt1, hm],
        rfl, by simp [hrs], Or.inr (Or.inr (Or.inr ⟨rfl, hm⟩))⟩
    · rw [g2, h]
      simp only [if_true, throw_run]
      exact ⟨k3, by simp [deliverRelated, hrs, g1, g2, h, hatt1],
        rfl, by simp [hrs], Or.inr (Or.inl ⟨⟨_, rfl, rfl⟩, by simp [hrs, g1]⟩)⟩
    · rw [g2, g3, h1, h2]
      simp only [reduceCtorEq, if_false]
      refine ⟨k3, ?_, rfl, by simp [hrs], Or.inr (Or.inr (Or.inl ⟨h3, by rw [g3]; exact h2, by simp [hrs, g1]⟩))⟩
      rw [dr_plain h3.1]
      simp [hrs, g2, g3, h1, h2]
  · rw [k1, k2]
    exact ⟨k3, rfl⟩

theorem loop_rel {cfg : Cfg} (hs : cfg.attemptStart = none) (he : cfg.attemptEnd = none) (tl : Bool) :
    ∀ (fuel a : Nat) (we wc : World), π we = π wc → fuel + a = cfg.maxAttempts + 1 →
      we.attempts + 1 = a → LoopInv a wc → Env (finalWorld (callLoop cfg fuel a wc)).trace →
      FinalRel cfg.maxAttempts (callLoop cfg fuel a wc) (execLoop cfg tl fuel a we)
  | 0, a, we, wc, hπ, hfa, hatt, hinv, _ => by
    have ha : a = cfg.maxAttempts + 1 := by omega
    subst ha
    rw [callLoop_zero, execLoop_zero]
    exact exhausted_rel tl hπ (by omega) hinv
  | fuel + 1, a, we, wc, hπ, hfa, hatt, hinv, henv => by
    have hA := attempt_rel hs he tl (a := a) hπ
    rw [callLoop_succ] at henv ⊢
    rw [execLoop_succ]
    rw [bind_run] at henv ⊢
    rw [bind_run]
    cases hc : callAttempt cfg a wc with
    | ok x wc1 =>
      rw [hc] at henv hA
      cases x with
      | none =>
        simp only at henv ⊢
        have henv1 : Env wc1.trace :=
          henv.mono ((Grows.of_ext (fun w0 => callLoop_ext w0 cfg fuel (a + 1))).le wc1)
        have h' := hA henv1
        cases he' : execAttempt cfg tl a we with
        | ok y we1 =>
          rw [he'] at h'
          cases y with
          | none =>
            obtain ⟨p1, p2, p3⟩ := h'
            exact loop_rel hs he tl fuel (a + 1) we1 wc1 p1 (by omega) (by omega) (Or.inr p3) henv
          | some o => exact h'.elim
        | error e we1 => rw [he'] at h'; exact h'.elim
      | some v =>
        simp only at henv ⊢
        have h' := hA henv
        cases he' : execAttempt cfg tl a we with
        | ok y we1 =>
          rw [he'] at h'
          cases y with
          | none => exact h'.elim
          | some o => exact h'
        | error e we1 => rw [he'] at h'; exact h'.elim
    | error e wc1 =>
      rw [hc] at henv hA
      simp only at henv ⊢
      have h' := hA henv
      cases he' : execAttempt cfg tl a we with
      | ok y we1 =>
        rw [he'] at h'
        cases y with
        | none => exact h'.elim
        | some o => exact ⟨h'.1, h'.2.1, h'.2.2.mono⟩
      | error e' we1 =>
        rw [he'] at h'
        exact ⟨h'.1, h'.2.1⟩

/-- `_run_sync_call` vs `_run_sync_execute` -/
theorem run_rel {cfg : Cfg} (hs : cfg.attemptStart = none) (he : cfg.attemptEnd = none) (w : World)
    (henv : Env (finalWorld (runCall cfg w)).trace) :
    FinalRel cfg.maxAttempts (runCall cfg w) (runExecute cfg w) := by
  unfold runCall runExecute initState at *
  simp only [bind_run, modify_run] at henv ⊢
  exact loop_rel hs he cfg.timeline cfg.maxAttempts 1 _ _ rfl rfl rfl (Or.inl ⟨rfl, rfl, rfl⟩) henv

end

end Redress
