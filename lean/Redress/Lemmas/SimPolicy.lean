/-
  Redress.Lemmas.SimPolicy — Policy.call vs Policy.execute with a retry loop (`cfg.hasRetry`; C12, T3 and T2):
  run equations of the wrappers, the final relation `PRel`, simulation / growth lemmas for the policy-level
  leaves; what the two wrappers do with the result of the retry loop, case by case (`mid_rel`), admission by
  the breaker and `ensure_settled` (`admitted_rel`); and the exact equations for a Policy without a breaker.
-/
import Redress.Lemmas.SimLock
import Redress.Lemmas.SimCanc

namespace Redress
open Twin Retry Policy

/-! ### run equations of the wrappers -/

theorem initCtx_run (w : World) : initCtx w = .ok ⟨⟩ { w with xc := { start := w.now } } := rfl

/-- the world after `record_cancel` -/
def cancelW (cfg : Cfg) (w : World) : World :=
  match cfg.breaker with
  | none => w
  | some _ =>
    { w with breaker := Breaker.recordCancel w.breaker, xc := { w.xc with settled := true },
             trace := (Req.breakerCancel, Ans.recorded none (Breaker.recordCancel w.breaker).state) :: w.trace }

theorem recordCancel_run (cfg : Cfg) (w : World) : recordCancel cfg w = .ok ⟨⟩ (cancelW cfg w) := by
  unfold recordCancel cancelW
  cases cfg.breaker <;> rfl

/-- the world after `ensure_settled` -/
def settle (cfg : Cfg) (w : World) : World :=
  if (w.xc.admitted && !w.xc.settled) = true then cancelW cfg w else w

theorem ensureSettled_run (cfg : Cfg) (w : World) : ensureSettled cfg w = .ok ⟨⟩ (settle cfg w) := by
  unfold ensureSettled settle
  rw [bind_run, get_run]
  simp only
  split
  · exact recordCancel_run cfg w
  · rfl

theorem withFinally_settle (cfg : Cfg) (x : M α) (w : World) :
    withFinally x (ensureSettled cfg) w = mapRes (settle cfg) (x w) := by
  unfold withFinally
  simp only [bind_run, tryCatch_run, ensureSettled_run, pure_run, throw_run]
  cases x w <;> rfl

/-! ### the final relation -/

/-- what T3 concludes about the two final worlds -/
structure PRel (we wc : World) : Prop where
  now : we.now = wc.now
  rs : we.rs = wc.rs
  budget : we.budget = wc.budget
  breaker : we.breaker = wc.breaker
  xc : we.xc = wc.xc
  opCalls : we.opCalls = wc.opCalls
  trace : projC12 we.trace = projC12 wc.trace

theorem PRel.refl (w : World) : PRel w w := ⟨rfl, rfl, rfl, rfl, rfl, rfl, rfl⟩

theorem PRel.of_pi {we wc : World} (h : π we = π wc) : PRel we wc := by
  obtain ⟨h1, h2, h3, h4, h5, h6, h7, h8, h9⟩ := (π_iff _ _).mp h
  exact ⟨h2, h4, h6, h7, h8, h5, by rw [h3]⟩

theorem projC12_cons (x : Req × Ans) (t : List (Req × Ans)) :
    projC12 (x :: t) = if keepC12 x.1 = true then x :: projC12 t else projC12 t := by
  unfold projC12
  rw [List.filter_cons]

theorem PRel.cancel {cfg : Cfg} {we wc : World} (h : PRel we wc) : PRel (cancelW cfg we) (cancelW cfg wc) := by
  unfold cancelW
  cases cfg.breaker with
  | none => exact h
  | some bc =>
    refine ⟨h.now, h.rs, h.budget, ?_, ?_, h.opCalls, ?_⟩
    · show Breaker.recordCancel we.breaker = Breaker.recordCancel wc.breaker
      rw [h.breaker]
    · show ({ we.xc with settled := true } : XCtx) = { wc.xc with settled := true }
      rw [h.xc]
    · show projC12 (_ :: we.trace) = projC12 (_ :: wc.trace)
      rw [projC12_cons, projC12_cons, h.trace, h.breaker]

theorem PRel.settle {cfg : Cfg} {we wc : World} (h : PRel we wc) : PRel (settle cfg we) (settle cfg wc) := by
  unfold Redress.settle
  rw [h.xc]
  split
  · exact h.cancel
  · exact h

/-- the results of `Policy.call` and `Policy.execute` (before the result is packaged by `runEntry`) -/
def PolRel (cfg : Cfg) : EStateM.Result Exn World Nat → EStateM.Result Exn World Outcome → Prop :=
  ResRel (fun we wc => PRel (settle cfg we) (settle cfg wc))

/-! ### simulation lemmas for the policy-level leaves (identical programs on both sides) -/

theorem emitBreakerEvent_sim (cfg : Cfg) (ev : Option Event) (st : CState) (k : Option EClass) :
    Sim (emitBreakerEvent cfg ev st k) (emitBreakerEvent cfg ev st k) := by
  unfold emitBreakerEvent
  split
  · exact Sim.pure _
  · dsimp only
    sim [askMetric_sim, askLog_sim, swallow_sim]

theorem recordSuccess_sim (cfg : Cfg) : Sim (Policy.recordSuccess cfg) (Policy.recordSuccess cfg) := by
  unfold Policy.recordSuccess
  split
  · exact Sim.pure _
  · refine ⟨fun we wc h => ?_⟩
    simp only [bind_run, get_run, set_run]
    obtain ⟨h1, h2, h3, h4, h5, h6, h7, h8, h9⟩ := (π_iff _ _).mp h
    rw [h7]
    refine (emitBreakerEvent_sim cfg _ _ none).run _ _ ?_
    exact (π_iff _ _).mpr ⟨h1, h2, by rw [h3], h4, h5, h6, rfl, by rw [h8], h9⟩

theorem recordFailure_sim (cfg : Cfg) (k : EClass) :
    Sim (Policy.recordFailure cfg k) (Policy.recordFailure cfg k) := by
  unfold Policy.recordFailure
  split
  · exact Sim.pure _
  · refine ⟨fun we wc h => ?_⟩
    simp only [bind_run, get_run, set_run]
    obtain ⟨h1, h2, h3, h4, h5, h6, h7, h8, h9⟩ := (π_iff _ _).mp h
    rw [h7, h2]
    refine (emitBreakerEvent_sim cfg _ _ (some k)).run _ _ ?_
    exact (π_iff _ _).mpr ⟨h1, rfl, by rw [h3], h4, h5, h6, rfl, by rw [h8], h9⟩

theorem recordCancel_sim (cfg : Cfg) : Sim (recordCancel cfg) (recordCancel cfg) := by
  unfold recordCancel
  split
  · exact Sim.pure _
  · exact Sim.modify _ (fun _ => rfl) (fun _ => rfl)

theorem classifyForBreaker_sim (cfg : Cfg) (e : Exn) :
    Sim (classifyForBreaker cfg e) (classifyForBreaker cfg e) := by
  unfold classifyForBreaker
  sim [callClassifier_sim]

/-- with a retry loop, `_handle_exception_call` never runs the no-retry end hook -/
theorem handleExceptionCall_hret {cfg : Cfg} (hret : cfg.hasRetry = true) (e : Exn) (b : Bool) :
    handleExceptionCall cfg e b = (if e.isCircuitOpen = true then pure () else do
      let k ← classifyForBreaker cfg e
      Policy.recordFailure cfg k) := by
  unfold handleExceptionCall
  simp [hret]

theorem handleExceptionCall_sim {cfg : Cfg} (hret : cfg.hasRetry = true) (e : Exn) (b b' : Bool) :
    Sim (handleExceptionCall cfg e b) (handleExceptionCall cfg e b') := by
  rw [handleExceptionCall_hret hret, handleExceptionCall_hret hret]
  sim [classifyForBreaker_sim, recordFailure_sim]

theorem handleAbortCall_hret {cfg : Cfg} (hret : cfg.hasRetry = true) (e : Exn) :
    handleAbortCall cfg e = (do pure (); recordCancel cfg) := by
  unfold handleAbortCall
  simp [hret]

theorem settle_grows (cfg : Cfg) (w : World) : ∀ y ∈ w.trace, y ∈ (settle cfg w).trace := by
  intro y hy
  unfold settle
  split
  · have := (recordCancel_nc (amb := none) cfg).grows.le w y hy
    rw [recordCancel_run] at this
    exact this
  · exact hy

/-! ### what a breaker event does to the log -/

/-- a metric / log request for one of the breaker's own events -/
def circuitHook : Req → Bool
  | .metric ev _ _ _ => FX.circuitEv ev
  | .log ev _ _ _ _ => FX.circuitEv ev
  | _ => false

/-- no hook that receives a `circuit_*` event raises a BaseException-only kind (C12 T3, hypothesis iii) -/
def HookOK (t : List (Req × Ans)) : Prop :=
  ∀ x ∈ t, circuitHook x.1 = true → ∀ e d, x.2 = .raise e d → e.isException = true

/-- one hook call site `try: hook(...) except Exception: pass` -/
theorem site_cases (r : Req) (w : World) :
    (∃ a w', (tryCatch (do let _ ← askHook r; pure ()) swallowException : M Unit) w = .ok ⟨⟩ w' ∧
        w'.trace = (r, a) :: w.trace) ∨
    (∃ e d w', (tryCatch (do let _ ← askHook r; pure ()) swallowException : M Unit) w = .error e w' ∧
        w'.trace = (r, .raise e d) :: w.trace ∧ e.isException = false) := by
  rw [tryCatch_run, bind_run]
  cases hw : w.answers with
  | nil =>
    rw [askHook_nil r w hw]
    exact Or.inr ⟨.stuck, 0, _, rfl, rfl, rfl⟩
  | cons a rest =>
    rw [askHook_cons r w a rest hw]
    unfold askHookStep
    generalize (if w.silent = true then a.silenced else a) = a'
    cases a' with
    | raise e d =>
      simp only
      unfold swallowException
      by_cases he : e.isException = true
      · rw [if_pos he]
        exact Or.inl ⟨_, _, rfl, rfl⟩
      · rw [if_neg he]
        exact Or.inr ⟨e, d, _, rfl, rfl, by simpa using he⟩
    | _ => exact Or.inl ⟨_, _, rfl, rfl⟩

/-- a breaker event does nothing, unless there is an event and a hook to receive it -/
theorem emitBreakerEvent_quiet_or (cfg : Cfg) (ev : Option Event) (st : CState) (k : Option EClass) :
    (∀ w, emitBreakerEvent cfg ev st k w = .ok ⟨⟩ w) ∨
      ∃ ev', ev = some ev' ∧ (cfg.metric = true ∨ cfg.log = true) := by
  cases ev with
  | none => exact Or.inl fun _ => rfl
  | some ev' =>
    by_cases hm : cfg.metric = true
    · exact Or.inr ⟨ev', rfl, Or.inl hm⟩
    · by_cases hl : cfg.log = true
      · exact Or.inr ⟨ev', rfl, Or.inr hl⟩
      · refine Or.inl fun w => ?_
        unfold emitBreakerEvent
        simp only [hm, hl]
        rfl

/-- a breaker event with a hook configured: the newest exchange afterwards is a hook exchange -/
theorem emitBreakerEvent_loud (cfg : Cfg) (ev : Event) (st : CState) (k : Option EClass) (w : World)
    (h : cfg.metric = true ∨ cfg.log = true) :
    (∃ y t', (finalWorld (emitBreakerEvent cfg (some ev) st k w)).trace = y :: t' ∧ isHook y.1 = true) := by
  unfold emitBreakerEvent
  dsimp only
  unfold askMetric askLog
  by_cases hm : cfg.metric = true
  · rw [if_pos hm, finalWorld_bind]
    rcases site_cases (.metric ev 0 0 { state := some st, klass := k, operation := cfg.opTag }) w with
      ⟨a, w1, k1, k2⟩ | ⟨e, d, w1, k1, k2, _⟩
    · rw [k1]
      simp only
      by_cases hl : cfg.log = true
      · rw [if_pos hl]
        rcases site_cases (.log ev 0 0 { state := some st, klass := k, operation := cfg.opTag } none) w1 with
          ⟨a2, w2, m1, m2⟩ | ⟨e2, d2, w2, m1, m2, _⟩
        · rw [m1]; exact ⟨_, _, m2, rfl⟩
        · rw [m1]; exact ⟨_, _, m2, rfl⟩
      · rw [if_neg hl]
        exact ⟨_, _, k2, rfl⟩
    · rw [k1]
      exact ⟨_, _, k2, rfl⟩
  · have hl : cfg.log = true := by
      rcases h with h | h
      · exact absurd h hm
      · exact h
    rw [if_neg hm, if_pos hl]
    rcases site_cases (.log ev 0 0 { state := some st, klass := k, operation := cfg.opTag } none) w with
      ⟨a2, w2, m1, m2⟩ | ⟨e2, d2, w2, m1, m2, _⟩
    · rw [m1]; exact ⟨_, _, m2, rfl⟩
    · rw [m1]; exact ⟨_, _, m2, rfl⟩

/-- an exception leaving a breaker event is a BaseException-only kind raised by a hook that was handed the event -/
theorem emitBreakerEvent_err {cfg : Cfg} {ev : Event} {st : CState} {k : Option EClass} {w : World}
    {e : Exn} {w' : World} (h : emitBreakerEvent cfg (some ev) st k w = .error e w') :
    e.isException = false ∧ ∃ r d, (r, Ans.raise e d) ∈ w'.trace ∧ circuitHook r = FX.circuitEv ev := by
  unfold emitBreakerEvent at h
  dsimp only at h
  unfold askMetric askLog at h
  have hrest : ∀ w1 : World, (if cfg.log = true then
        (tryCatch (do let _ ← askHook (.log ev 0 0 { state := some st, klass := k, operation := cfg.opTag } none); pure ())
          swallowException : M Unit) else pure ()) w1 = .error e w' →
      e.isException = false ∧ ∃ r d, (r, Ans.raise e d) ∈ w'.trace ∧ circuitHook r = FX.circuitEv ev := by
    intro w1 h2
    by_cases hl : cfg.log = true
    · rw [if_pos hl] at h2
      rcases site_cases (.log ev 0 0 { state := some st, klass := k, operation := cfg.opTag } none) w1 with
        ⟨a, w2, k1, k2⟩ | ⟨e1, d, w2, k1, k2, k3⟩
      · rw [k1] at h2; cases h2
      · rw [k1] at h2
        injection h2 with he hw
        subst he hw
        exact ⟨k3, _, d, by rw [k2]; exact List.mem_cons_self, rfl⟩
    · rw [if_neg hl] at h2; cases h2
  by_cases hm : cfg.metric = true
  · rw [if_pos hm] at h
    rcases bind_err h with h1 | ⟨_, w1, _, h2⟩
    · rcases site_cases (.metric ev 0 0 { state := some st, klass := k, operation := cfg.opTag }) w with
        ⟨a, w1, k1, k2⟩ | ⟨e1, d, w1, k1, k2, k3⟩
      · rw [k1] at h1; cases h1
      · rw [k1] at h1
        injection h1 with he hw
        subst he hw
        exact ⟨k3, _, d, by rw [k2]; exact List.mem_cons_self, rfl⟩
    · exact hrest w1 h2
  · rw [if_neg hm] at h
    exact hrest w h

/-- a classifier call: one `classify` exchange `a`, whose duration passes, and nothing else observable; it
    returns the class if `a` is one and raises otherwise -/
theorem callClassifier_cases (e : Exn) (w : World) :
    ∃ a w', w'.trace = (.classify e.ref, a) :: w.trace ∧ w'.rs = w.rs ∧ w'.now = w.now + a.dur ∧
      w'.breaker = w.breaker ∧ w'.xc = w.xc ∧ w'.budget = w.budget ∧ w'.opCalls = w.opCalls ∧
      ((∃ c d, a = .klass c d ∧ callClassifier e w = .ok c w') ∨
       ((∀ c d, a ≠ .klass c d) ∧ ∃ e2, callClassifier e w = .error e2 w')) := by
  unfold callClassifier
  rw [bind_run]
  cases hw : w.answers with
  | nil =>
    rw [ask_nil _ w hw]
    exact ⟨.raise .stuck 0, { w with trace := (.classify e.ref, .raise .stuck 0) :: w.trace },
      rfl, rfl, rfl, rfl, rfl, rfl, rfl, Or.inr ⟨(fun c d h => by cases h), _, rfl⟩⟩
  | cons a rest =>
    rw [ask_cons _ w a rest hw]
    refine ⟨a, { w with answers := rest, now := w.now + a.dur, trace := (.classify e.ref, a) :: w.trace },
      rfl, rfl, rfl, rfl, rfl, rfl, rfl, ?_⟩
    cases a with
    | klass c d => exact Or.inl ⟨c, d, rfl, rfl⟩
    | _ => exact Or.inr ⟨(fun c d h => by cases h), _, rfl⟩

/-! ## what the two wrappers do with the result of the retry loop -/

section
open Std.Do

/-- the slice of `callAdmitted` after `check_breaker`, for a policy with a retry loop:
    `try: v = retry.call(); record_success(); return v except …` -/
def callMid (cfg : Cfg) : M Nat :=
  tryCatch (do let v ← runCall cfg; Policy.recordSuccess cfg; pure v) (callLadder cfg)

/-- what `_execute_with_retry` does with the outcome -/
def execPost (cfg : Cfg) (o : Outcome) : M Outcome :=
  match cfg.breaker with
  | none => pure o
  | some _ =>
    if o.ok then do Policy.recordSuccess cfg; pure o
    else if o.stop = some .aborted then do recordCancel cfg; pure o
    else do Policy.recordFailure cfg (o.lastClass.getD .unknown); pure o

/-- the same slice of `executeAdmitted`: `_execute_with_retry`, written as the loop under its ladder followed
    by `execPost` -/
def execMid (cfg : Cfg) : M Outcome := do
  let o ← tryCatch (runExecute cfg) (executeLadder cfg)
  execPost cfg o

theorem executeWithRetry_eq (cfg : Cfg) : executeWithRetry cfg = execMid cfg := rfl

/-- the hypotheses of T3, about the result of `callMid` -/
structure PolHyp (cfg : Cfg) (rc : EStateM.Result Exn World Nat) : Prop where
  env : Env (finalWorld rc).trace
  hook : HookOK (finalWorld rc).trace
  co : ∀ id, (toRes rc).1 ≠ .raised (.circuitOpen id)
  clsOK : ∀ x ∈ (finalWorld rc).trace, ∀ e, (finalWorld rc).rs.lastExc = some e → x.1 = .classify e.ref →
    ∃ c d, x.2 = .klass c d ∧ (finalWorld rc).rs.lastClass = some c.klass
  clsLast : ∀ e, (toRes rc).1 = .raised e → (finalWorld rc).rs.lastExc = some e → e.isException = true →
    ∃ a rest, (finalWorld rc).trace.filter (fun x => !isInternal x.1) = (.classify e.ref, a) :: rest ∧ a.dur = 0

/-! ### the ladders, kind by kind -/

theorem recordSuccess_none {cfg : Cfg} (hb : cfg.breaker = none) : Policy.recordSuccess cfg = pure () := by
  unfold Policy.recordSuccess; rw [hb]

theorem recordFailure_none {cfg : Cfg} (hb : cfg.breaker = none) (k : EClass) :
    Policy.recordFailure cfg k = pure () := by
  unfold Policy.recordFailure; rw [hb]

theorem cancelW_none {cfg : Cfg} (hb : cfg.breaker = none) (w : World) : cancelW cfg w = w := by
  unfold cancelW; rw [hb]

theorem callLadder_abort {cfg : Cfg} (hret : cfg.hasRetry = true) {e : Exn} (hab : e.isAbort = true)
    (w : World) : callLadder cfg e w = .error e (cancelW cfg w) := by
  unfold callLadder
  obtain ⟨h2, hc⟩ := Exn.exception_flags (Exn.abort_flags hab).1
  simp only [hc, h2, hab, decide_false, Bool.and_false, Bool.false_eq_true, if_false, if_true]
  rw [handleAbortCall_hret hret]
  simp only [bind_run, recordCancel_run, throw_run]

theorem executeLadder_abort {cfg : Cfg} {e : Exn} (hab : e.isAbort = true)
    (w : World) : executeLadder cfg e w = .error e (cancelW cfg w) := by
  unfold executeLadder
  simp only [(Exn.abort_flags hab).2.1, hab, Bool.false_eq_true, if_false, if_true]
  simp only [bind_run, recordCancel_run, throw_run]

theorem callLadder_exhausted {cfg : Cfg} {e : Exn} (hex : e.isExhausted = true) (w : World) :
    callLadder cfg e w = (do handleExhaustedCall cfg e; throw e : M Nat) w := by
  unfold callLadder
  obtain ⟨hx, h3, _⟩ := Exn.exhausted_flags hex
  obtain ⟨h2, hc⟩ := Exn.exception_flags hx
  simp only [hc, h2, h3, hex, decide_false, Bool.and_false, Bool.false_eq_true, if_false, if_true]

theorem executeLadder_exhausted {cfg : Cfg} {e : Exn} (hex : e.isExhausted = true) (w : World) :
    executeLadder cfg e w = (do handleExhaustedCall cfg e; throw e : M Outcome) w := by
  unfold executeLadder
  simp only [hex, if_true]

theorem callLadder_exception {cfg : Cfg} {e : Exn} (h1 : e.isException = true) (h2 : e.isAbort = false)
    (h3 : e.isExhausted = false) (w : World) :
    callLadder cfg e w = (do handleExceptionCall cfg e true; throw e : M Nat) w := by
  unfold callLadder
  obtain ⟨k2, hc⟩ := Exn.exception_flags h1
  simp only [hc, k2, h1, h2, h3, decide_false, Bool.and_false, Bool.false_eq_true, if_false, if_true]

theorem executeLadder_exception {cfg : Cfg} {e : Exn} (h1 : e.isException = true) (h2 : e.isAbort = false)
    (h3 : e.isExhausted = false) (w : World) :
    executeLadder cfg e w = (do handleExceptionCall cfg e false; throw e : M Outcome) w := by
  unfold executeLadder
  simp only [h1, h2, h3, Bool.false_eq_true, if_false, if_true]

/-- BaseException-only kinds: call() records a cancel at once for `KeyboardInterrupt` / `SystemExit` (and
    `CancelledError` in the async policy), or leaves it to `ensure_settled`; execute() always leaves it to
    `ensure_settled` -/
theorem callLadder_base {cfg : Cfg} {e : Exn} (h1 : e.isException = false) (w : World) :
    ∃ w', callLadder cfg e w = .error e w' ∧ (w' = cancelW cfg w ∨ w' = w) := by
  unfold callLadder
  obtain ⟨h2, h3, _⟩ := Exn.base_flags h1
  by_cases k1 : (cfg.isAsync && decide (e = .cancelled)) = true
  · rw [if_pos k1]
    refine ⟨cancelW cfg w, ?_, Or.inl rfl⟩
    simp only [bind_run, recordCancel_run, throw_run]
  · rw [if_neg k1]
    by_cases k2 : e.isKiSe = true
    · rw [if_pos k2]
      refine ⟨cancelW cfg w, ?_, Or.inl rfl⟩
      simp only [bind_run, recordCancel_run, throw_run]
    · rw [if_neg k2]
      refine ⟨w, ?_, Or.inr rfl⟩
      simp only [h1, h2, h3, Bool.false_eq_true, if_false]
      rfl

theorem executeLadder_base {cfg : Cfg} {e : Exn} (h1 : e.isException = false) (w : World) :
    executeLadder cfg e w = .error e w := by
  unfold executeLadder
  obtain ⟨h2, h3, _⟩ := Exn.base_flags h1
  simp only [h1, h2, h3, Bool.false_eq_true, if_false]
  rfl

/-! ### settling after the fact -/

/-- a cancel recorded at once and a cancel recorded by `ensure_settled` are the same -/
theorem settle_cancel {cfg : Cfg} {we wc : World} (h : PRel we wc) (hxs : wc.xc.settled = false)
    (hadm : ∀ bc, cfg.breaker = some bc → wc.xc.admitted = true) :
    PRel (settle cfg we) (settle cfg (cancelW cfg wc)) := by
  cases hb : cfg.breaker with
  | none =>
    rw [cancelW_none hb]
    exact h.settle
  | some bc =>
    have ha := hadm bc hb
    have h1 : settle cfg we = cancelW cfg we := by
      unfold settle
      rw [h.xc, ha, hxs]
      rfl
    have h2 : settle cfg (cancelW cfg wc) = cancelW cfg wc := by
      unfold settle cancelW
      rw [hb]
      simp
    rw [h1, h2]
    exact h.cancel

theorem xc_of_ext {x : M α}
    (hx : ∀ w0, ⦃fun w => ⌜Ext loopK w0 w⌝⦄ x ⦃extPost loopK w0⦄) (w : World) :
    (finalWorld (x w)).xc = w.xc :=
  (final_of_triple (hx w) w (Ext.refl _ _)).xc

/-! ### what the wrappers compute from the loop's result -/

theorem callMid_ok {cfg : Cfg} {w : World} {v : Nat} {wa : World} (hc : runCall cfg w = .ok v wa) :
    callMid cfg w = (match Policy.recordSuccess cfg wa with
      | .ok _ wa' => .ok v wa'
      | .error e wa' => callLadder cfg e wa') := by
  unfold callMid
  simp only [tryCatch_run, bind_run, hc, pure_run]
  cases Policy.recordSuccess cfg wa <;> rfl

theorem callMid_err {cfg : Cfg} {w : World} {e : Exn} {wa : World} (hc : runCall cfg w = .error e wa) :
    callMid cfg w = callLadder cfg e wa := by
  unfold callMid
  simp only [tryCatch_run, bind_run, hc]

theorem execMid_ok {cfg : Cfg} {w : World} {o : Outcome} {wb : World} (hx : runExecute cfg w = .ok o wb) :
    execMid cfg w = execPost cfg o wb := by
  unfold execMid
  simp only [tryCatch_run, bind_run, hx]

theorem execMid_err {cfg : Cfg} {w : World} {e : Exn} {wb : World} (hx : runExecute cfg w = .error e wb) :
    execMid cfg w = (match executeLadder cfg e wb with
      | .ok o w1 => execPost cfg o w1
      | .error e2 w1 => .error e2 w1) := by
  unfold execMid
  simp only [tryCatch_run, bind_run, hx]
  cases executeLadder cfg e wb <;> rfl

theorem emitBreakerEvent_rs (cfg : Cfg) (ev : Option Event) (st : CState) (k : Option EClass)
    : Keep gRS (emitBreakerEvent cfg ev st k) :=
  Keep.of_nc_rs fun _ => emitBreakerEvent_nc ..

theorem recordSuccess_err {cfg : Cfg} {w : World} {e : Exn} {w' : World}
    (h : Policy.recordSuccess cfg w = .error e w') :
    e.isException = false ∧ ∃ r d, (r, Ans.raise e d) ∈ w'.trace ∧ circuitHook r = true := by
  unfold Policy.recordSuccess at h
  cases hb : cfg.breaker with
  | none => rw [hb] at h; cases h
  | some bc =>
    rw [hb] at h
    simp only [bind_run, get_run, set_run] at h
    cases hev : (Breaker.recordSuccess w.breaker).1 with
    | none => rw [hev] at h; cases h
    | some ev =>
      rw [hev] at h
      obtain ⟨h1, r, d, h2, h3⟩ := emitBreakerEvent_err h
      exact ⟨h1, r, d, h2, by rw [h3]; exact FX.recordSuccess_circuit _ _ hev⟩

theorem keep_filter_cons_internal (x : Req × Ans) (t : List (Req × Ans)) (h : isInternal x.1 = true) :
    (x :: t).filter (fun y => !isInternal y.1) = t.filter (fun y => !isInternal y.1) := by
  rw [List.filter_cons]
  simp [h]

theorem keep_filter_cons_ext (x : Req × Ans) (t : List (Req × Ans)) (h : isInternal x.1 = false) :
    (x :: t).filter (fun y => !isInternal y.1) = x :: t.filter (fun y => !isInternal y.1) := by
  rw [List.filter_cons]
  simp [h]

theorem isHook_not_internal (r : Req) (h : isHook r = true) : isInternal r = false := by
  cases r <;> simp_all [isHook, isInternal]

theorem cancelW_filter (cfg : Cfg) (w : World) :
    (cancelW cfg w).trace.filter (fun y => !isInternal y.1) = w.trace.filter (fun y => !isInternal y.1) := by
  unfold cancelW
  cases cfg.breaker with
  | none => rfl
  | some _ => exact keep_filter_cons_internal _ _ rfl

/-- the loop returned a value -/
theorem mid_returned {cfg : Cfg} {v : Nat} {wa : World} {o : Outcome} {wb : World}
    (hπ : π wb = π wa) (hd : deliverRelated (.ret v) (.outcome o []) = true)
    (H : PolHyp cfg (match Policy.recordSuccess cfg wa with
      | .ok _ wa' => .ok v wa'
      | .error e wa' => callLadder cfg e wa')) :
    PolRel cfg (match Policy.recordSuccess cfg wa with
      | .ok _ wa' => .ok v wa'
      | .error e wa' => callLadder cfg e wa') (execPost cfg o wb) := by
  have hok : o.ok = true := by
    simp only [deliverRelated, Bool.and_eq_true] at hd
    exact hd.1
  cases hb : cfg.breaker with
  | none =>
    rw [recordSuccess_none hb]
    unfold execPost
    rw [hb]
    exact ⟨(PRel.of_pi hπ).settle, hd⟩
  | some bc =>
    unfold execPost
    rw [hb]
    simp only [hok, if_true, bind_run]
    rcases (recordSuccess_sim cfg).step hπ with
      ⟨u, wb', wa', k1, k2, k3, k4⟩ | ⟨e, wb', wa', k1, k2, k3, k4, k5⟩
    · rw [k1, k2]
      exact ⟨(PRel.of_pi k3).settle, hd⟩
    · exfalso
      rw [k2] at H
      obtain ⟨h1, r, d, h2, h3⟩ := recordSuccess_err k2
      have hin := (callLadder_nc cfg e).grows.le wa' _ h2
      have := H.hook _ hin h3 e d rfl
      rw [h1] at this
      cases this

/-- the loop raised, execute() returned a failed outcome: abort kinds -/
theorem mid_raised_abort {cfg : Cfg} (hret : cfg.hasRetry = true) {e : Exn} {wa : World} {o : Outcome} {wb : World}
    (hπ : π wb = π wa) (hd : deliverRelated (.raised e) (.outcome o []) = true)
    (hok : o.ok = false) (hab : e.isAbort = true) (hst : o.stop = some .aborted) :
    PolRel cfg (callLadder cfg e wa) (execPost cfg o wb) := by
  rw [callLadder_abort hret hab]
  have hex : execPost cfg o wb = .ok o (cancelW cfg wb) := by
    unfold execPost
    cases hb : cfg.breaker with
    | none => rw [cancelW_none hb]; rfl
    | some bc =>
      simp only [hok, hst, Bool.false_eq_true, if_false, if_true, bind_run, recordCancel_run, pure_run]
  rw [hex]
  exact ⟨(PRel.of_pi hπ).cancel.settle, hd⟩

/-- …`RetryExhaustedError` -/
theorem mid_raised_exhausted {cfg : Cfg} {f : ExhaustedFields} {wa : World} {o : Outcome} {wb : World}
    (hπ : π wb = π wa) (hd : deliverRelated (.raised (.libExhausted f)) (.outcome o []) = true)
    (hok : o.ok = false) (hlc : o.lastClass = f.lastClass) (hst : o.stop ≠ some .aborted) :
    PolRel cfg (callLadder cfg (.libExhausted f) wa) (execPost cfg o wb) := by
  rw [callLadder_exhausted rfl, seqThrow_run]
  unfold handleExhaustedCall
  show PolRel cfg (match Policy.recordFailure cfg (f.lastClass.getD .unknown) wa with
      | .ok _ w1 => .error (.libExhausted f) w1
      | .error e2 w1 => .error e2 w1) (execPost cfg o wb)
  cases hb : cfg.breaker with
  | none =>
    rw [recordFailure_none hb]
    unfold execPost
    rw [hb]
    exact ⟨(PRel.of_pi hπ).settle, hd⟩
  | some bc =>
    unfold execPost
    rw [hb]
    simp only [hok, hst, Bool.false_eq_true, if_false, bind_run, hlc]
    rcases (recordFailure_sim cfg (f.lastClass.getD .unknown)).step hπ with
      ⟨u, wb', wa', k1, k2, k3, k4⟩ | ⟨e2, wb', wa', k1, k2, k3, k4, k5⟩
    · rw [k1, k2]
      exact ⟨(PRel.of_pi k3).settle, hd⟩
    · rw [k1, k2]
      exact ⟨(PRel.of_pi k3).settle, rfl⟩

/-- the world after the breaker noted a failure (before the event is emitted) -/
def failW (bc : Breaker.Cfg) (k : EClass) (w : World) : World :=
  { w with breaker := (Breaker.recordFailure bc w.breaker k w.now).2, xc := { w.xc with settled := true },
           trace := (Req.breakerFailure k, Ans.recorded (Breaker.recordFailure bc w.breaker k w.now).1
                      (Breaker.recordFailure bc w.breaker k w.now).2.state) :: w.trace }

theorem recordFailure_some {cfg : Cfg} {bc : Breaker.Cfg} (hb : cfg.breaker = some bc) (k : EClass) (w : World) :
    Policy.recordFailure cfg k w = emitBreakerEvent cfg (Breaker.recordFailure bc w.breaker k w.now).1
      (Breaker.recordFailure bc w.breaker k w.now).2.state (some k) (failW bc k w) := by
  unfold Policy.recordFailure
  rw [hb]
  rfl

/-- the loop re-raised the operation's last exception: call() classifies it once more for the breaker -/
theorem mid_raised_last {cfg : Cfg} (hret : cfg.hasRetry = true) {e : Exn} {wa : World} {o : Outcome} {wb : World}
    (hπ : π wb = π wa) (hd : deliverRelated (.raised e) (.outcome o []) = true)
    (hok : o.ok = false) (hlc : o.lastClass = wa.rs.lastClass) (hop : OpExn e)
    (hle : wa.rs.lastExc = some e) (hst : o.stop ≠ some .aborted)
    (H : PolHyp cfg (callLadder cfg e wa)) :
    PolRel cfg (callLadder cfg e wa) (execPost cfg o wb) := by
  obtain ⟨hpl, hexc, hnab, hnex⟩ := hop
  have clsLast : ∀ {w' : World}, PolHyp cfg (.error e w') → w'.rs.lastExc = some e →
      ∃ a rest, w'.trace.filter (fun x => !isInternal x.1) = (.classify e.ref, a) :: rest ∧ a.dur = 0 :=
    fun H h => H.clsLast e rfl h hexc
  have hcl := callLadder_exception (cfg := cfg) hexc hnab hnex wa
  rw [hcl] at H ⊢
  rw [seqThrow_run] at H ⊢
  rw [handleExceptionCall_hret hret] at H ⊢
  by_cases hco : e.isCircuitOpen = true
  · exfalso
    rw [if_pos hco] at H
    cases e <;> simp [Exn.isCircuitOpen] at hco
    · exact H.co _ rfl
    · exact hpl.elim
  · rw [if_neg hco] at H ⊢
    unfold classifyForBreaker at H ⊢
    simp only [hret, if_true] at H ⊢
    rw [bind_run, bind_run] at H ⊢
    obtain ⟨a, wa1, t_tr, t_rs, t_now, t_br, t_xc, t_bud, t_op, hcls⟩ := callClassifier_cases e wa
    rcases hcls with ⟨c, d, rfl, hcc⟩ | ⟨hnk, e2, hcc⟩
    · have t_now : wa1.now = wa.now + d := t_now
      rw [hcc] at H ⊢
      simp only [pure_run] at H ⊢
      obtain ⟨p1, p2, p3, p4, p5, p6, p7, p8, p9⟩ := (π_iff _ _).mp hπ
      cases hb : cfg.breaker with
      | none =>
        rw [recordFailure_none hb] at H ⊢
        simp only [pure_run] at H ⊢
        obtain ⟨a, rest', hf, hdur⟩ := clsLast H (by rw [t_rs]; exact hle)
        rw [t_tr, keep_filter_cons_ext _ _ rfl] at hf
        injection hf with hf1 _
        injection hf1 with _ hf2
        subst hf2
        have hd0 : d = 0 := hdur
        subst hd0
        unfold execPost
        rw [hb]
        refine ⟨PRel.settle ⟨by rw [t_now, p2]; rfl, by rw [t_rs, p4], by rw [t_bud, p6], by rw [t_br, p7],
          by rw [t_xc, p8], by rw [t_op, p5], ?_⟩, hd⟩
        rw [t_tr, projC12_cons, p3]
        rfl
      | some bc =>
        rw [recordFailure_some hb] at H ⊢
        have f_tr : (failW bc c.klass wa1).trace = (Req.breakerFailure c.klass,
            Ans.recorded (Breaker.recordFailure bc wa1.breaker c.klass wa1.now).1
              (Breaker.recordFailure bc wa1.breaker c.klass wa1.now).2.state) ::
            (Req.classify e.ref, Ans.klass c d) :: wa.trace := by
          unfold failW
          rw [t_tr]
        have f_rs : (failW bc c.klass wa1).rs = wa.rs := t_rs
        rcases emitBreakerEvent_quiet_or cfg (Breaker.recordFailure bc wa1.breaker c.klass wa1.now).1
            (Breaker.recordFailure bc wa1.breaker c.klass wa1.now).2.state (some c.klass) with hq | ⟨ev', hev', hml⟩
        · rw [hq] at H ⊢
          simp only at H ⊢
          obtain ⟨a, rest', hf, hdur⟩ := clsLast H (by rw [f_rs]; exact hle)
          rw [f_tr, keep_filter_cons_internal _ _ rfl, keep_filter_cons_ext _ _ rfl] at hf
          injection hf with hf1 _
          injection hf1 with _ hf2
          subst hf2
          have hd0 : d = 0 := hdur
          subst hd0
          obtain ⟨c', d', hkl, hlast⟩ := H.clsOK (Req.classify e.ref, Ans.klass c 0)
            (by show _ ∈ (failW bc c.klass wa1).trace
                rw [f_tr]; exact List.mem_cons_of_mem _ List.mem_cons_self)
            e (by show (failW bc c.klass wa1).rs.lastExc = _; rw [f_rs]; exact hle) rfl
          injection hkl with hc' _
          subst hc'
          have hlast' : wa.rs.lastClass = some c.klass := by
            have : (failW bc c.klass wa1).rs.lastClass = some c.klass := hlast
            rw [f_rs] at this
            exact this
          have hbr : wb.breaker = wa1.breaker := by rw [t_br, p7]
          have hnow : wb.now = wa1.now := by rw [t_now, p2]; rfl
          unfold execPost
          rw [hb]
          simp only [hok, hst, Bool.false_eq_true, if_false, bind_run]
          rw [hlc, hlast']
          simp only [Option.getD_some]
          rw [recordFailure_some hb, hbr, hnow, hq]
          simp only [pure_run]
          refine ⟨PRel.settle ⟨hnow, by show wb.rs = wa1.rs; rw [t_rs, p4], by show wb.budget = wa1.budget; rw [t_bud, p6],
            ?_, ?_, by show wb.opCalls = wa1.opCalls; rw [t_op, p5], ?_⟩, hd⟩
          · show (Breaker.recordFailure bc wb.breaker c.klass wb.now).2 = (Breaker.recordFailure bc wa1.breaker c.klass wa1.now).2
            rw [hbr, hnow]
          · show ({ wb.xc with settled := true } : XCtx) = { wa1.xc with settled := true }
            rw [t_xc, p8]
          · show projC12 (failW bc c.klass wb).trace = projC12 (failW bc c.klass wa1).trace
            rw [f_tr]
            unfold failW
            simp only [projC12_cons, hbr, hnow, p3]
            rfl
        · exfalso
          rw [hev'] at H
          cases hemit : emitBreakerEvent cfg (some ev') (Breaker.recordFailure bc wa1.breaker c.klass wa1.now).2.state
              (some c.klass) (failW bc c.klass wa1) with
          | error e3 w3 =>
            rw [hemit] at H
            obtain ⟨h1, r, d3, h2, h3⟩ := emitBreakerEvent_err hemit
            have := H.hook _ h2 (by rw [h3]; exact FX.recordFailure_circuit _ _ _ _ _ hev') e3 d3 rfl
            rw [h1] at this
            cases this
          | ok u w3 =>
            rw [hemit] at H
            obtain ⟨y, t', hy, hyh⟩ := emitBreakerEvent_loud cfg ev'
              (Breaker.recordFailure bc wa1.breaker c.klass wa1.now).2.state (some c.klass) (failW bc c.klass wa1) hml
            rw [hemit] at hy
            have hrs3 : w3.rs = wa.rs := by
              have := (emitBreakerEvent_rs cfg (some ev') _ (some c.klass)).ok hemit
              exact this.trans f_rs
            obtain ⟨a, rest', hf, _⟩ := clsLast H (by rw [hrs3]; exact hle)
            have hy' : w3.trace = y :: t' := hy
            rw [hy', keep_filter_cons_ext _ _ (isHook_not_internal _ hyh)] at hf
            injection hf with hf1 _
            rw [hf1] at hyh
            cases hyh
    · exfalso
      rw [hcc] at H
      have hm : (Req.classify e.ref, a) ∈ wa1.trace := by rw [t_tr]; exact List.mem_cons_self
      obtain ⟨c, d, hkl, _⟩ := H.clsOK _ hm e (by show wa1.rs.lastExc = _; rw [t_rs]; exact hle) rfl
      exact hnk c d hkl

/-- both modes raised: the two `except` ladders -/
theorem mid_both_raised {cfg : Cfg} (hret : cfg.hasRetry = true) {e : Exn} {wa wb : World}
    (hπ : π wb = π wa) (hxs : wa.xc.settled = false)
    (hadm : ∀ bc, cfg.breaker = some bc → wa.xc.admitted = true) :
    PolRel cfg (callLadder cfg e wa) (match executeLadder cfg e wb with
      | .ok o w1 => execPost cfg o w1
      | .error e2 w1 => .error e2 w1) := by
  refine e.ladder_cases (fun h2 => ?_) (fun h3 => ?_) (fun h1 h2 h3 => ?_) (fun h1 => ?_)
  · rw [callLadder_abort hret h2, executeLadder_abort h2]
    exact ⟨(PRel.of_pi hπ).cancel.settle, rfl⟩
  · rw [callLadder_exhausted h3, executeLadder_exhausted h3, seqThrow_run, seqThrow_run]
    unfold handleExhaustedCall
    rcases (recordFailure_sim cfg (e.exhaustedClass.getD .unknown)).step hπ with
      ⟨u, wb', wa', k1, k2, k3, k4⟩ | ⟨e2, wb', wa', k1, k2, k3, k4, k5⟩
    · rw [k1, k2]
      exact ⟨(PRel.of_pi k3).settle, rfl⟩
    · rw [k1, k2]
      exact ⟨(PRel.of_pi k3).settle, rfl⟩
  · rw [callLadder_exception h1 h2 h3, executeLadder_exception h1 h2 h3, seqThrow_run, seqThrow_run]
    rcases (handleExceptionCall_sim hret e false true).step hπ with
      ⟨u, wb', wa', k1, k2, k3, k4⟩ | ⟨e2, wb', wa', k1, k2, k3, k4, k5⟩
    · rw [k1, k2]
      exact ⟨(PRel.of_pi k3).settle, rfl⟩
    · rw [k1, k2]
      exact ⟨(PRel.of_pi k3).settle, rfl⟩
  · rw [executeLadder_base h1]
    obtain ⟨w', q1, q2⟩ := callLadder_base (cfg := cfg) h1 wa
    rw [q1]
    rcases q2 with rfl | rfl
    · exact ⟨settle_cancel (PRel.of_pi hπ) hxs hadm, rfl⟩
    · exact ⟨(PRel.of_pi hπ).settle, rfl⟩

/-- after admission: `Policy.call`'s `try: retry.call(); record_success() except …` vs
    `_execute_with_retry` -/
theorem mid_rel {cfg : Cfg} (hret : cfg.hasRetry = true) (hs : cfg.attemptStart = none)
    (he : cfg.attemptEnd = none) (hmax : 0 < cfg.maxAttempts) (w : World) (hxs : w.xc.settled = false)
    (hadm : ∀ bc, cfg.breaker = some bc → w.xc.admitted = true)
    (H : PolHyp cfg (callMid cfg w)) : PolRel cfg (callMid cfg w) (execMid cfg w) := by
  have hgrow : ∀ y ∈ (finalWorld (runCall cfg w)).trace, y ∈ (finalWorld (callMid cfg w)).trace := by
    intro y hy
    unfold callMid
    apply grows_after_tryCatch (fun e => (callLadder_nc cfg e).grows)
    exact grows_after_bind (fun v => (NC.bind (amb := none) (recordSuccess_nc cfg) (fun _ => NC.pure v)).grows) w y hy
  have henvL := H.env.mono hgrow
  have hF := run_rel hs he w henvL
  have hxc : (finalWorld (runCall cfg w)).xc = w.xc := xc_of_ext (fun w0 => runCall_ext w0 cfg) w
  cases hc : runCall cfg w with
  | ok v wa =>
    cases hx : runExecute cfg w with
    | error e wb => rw [hc, hx] at hF; exact hF.elim
    | ok o wb =>
      rw [hc, hx] at hF
      rw [callMid_ok hc] at H ⊢
      rw [execMid_ok hx]
      exact mid_returned hF.1 hF.2 H
  | error e wa =>
    rw [hc] at hxc
    cases hx : runExecute cfg w with
    | ok o wb =>
      rw [hc, hx] at hF
      obtain ⟨hπ, hd, hok, hlc, hk⟩ := hF
      rw [callMid_err hc] at H ⊢
      rw [execMid_ok hx]
      rcases hk with ⟨hab, hst⟩ | ⟨⟨f, rfl, hfl⟩, hst⟩ | ⟨hop, hle, hst⟩ | ⟨_, hm0⟩
      · exact mid_raised_abort hret hπ hd hok hab hst
      · exact mid_raised_exhausted hπ hd hok (hlc.trans hfl.symm) hst
      · exact mid_raised_last hret hπ hd hok hlc hop hle hst H
      · omega
    | error e' wb =>
      rw [hc, hx] at hF
      obtain ⟨hπ, rfl⟩ := hF
      rw [callMid_err hc, execMid_err hx]
      have hxc' : wa.xc = w.xc := hxc
      exact mid_both_raised hret hπ (by rw [hxc']; exact hxs) (fun bc hb => by rw [hxc']; exact hadm bc hb)

/-! ### admission -/

theorem callAdmitted_hret {cfg : Cfg} (hret : cfg.hasRetry = true) :
    callAdmitted cfg = (do checkBreaker cfg; callMid cfg) := by
  unfold callAdmitted callMid
  simp [hret]

theorem executeAdmitted2_hret {cfg : Cfg} (hret : cfg.hasRetry = true) :
    executeAdmitted2 cfg = execMid cfg := by
  unfold executeAdmitted2
  simp [hret]
  rfl

theorem emitBreakerEvent_xc (cfg : Cfg) (ev : Option Event) (st : CState) (k : Option EClass) :
    Keep (fun w => w.xc) (emitBreakerEvent cfg ev st k) := by
  unfold emitBreakerEvent
  split
  · exact Keep.pure _ _
  · dsimp only
    unfold askMetric askLog
    keep [swallow_keep]

/-- admission by the breaker is the same in both wrappers: what the rest of the two wrappers establishes from
    the world after admission (a relation `R` between the final worlds, under a hypothesis `P` on the call
    side's result) carries over to the whole; a rejected call and a failing breaker hook end both alike -/
theorem admission_rel {cfg : Cfg} {R : World → World → Prop} (hR : ∀ w, R w w) {kc : M Nat}
    {P : EStateM.Result Exn World Nat → Prop} (w : World) (hx0 : w.xc.settled = false)
    (hk : ∀ w3, w3.xc.settled = false → (∀ bc, cfg.breaker = some bc → w3.xc.admitted = true) →
      P (kc w3) → ResRel R (kc w3) (executeAdmitted2 cfg w3)) :
    P ((do checkBreaker cfg; kc) w) → ResRel R ((do checkBreaker cfg; kc) w) (executeAdmitted cfg w) := by
  unfold executeAdmitted checkBreaker
  cases hb : cfg.breaker with
  | none =>
    simp only [bind_run, pure_run]
    exact hk w hx0 (fun bc h => by rw [hb] at h; cases h)
  | some bc =>
    obtain ⟨d, w2, hba1, hba2, hba3⟩ :
        ∃ d w2, breakerAllow bc w = .ok d w2 ∧ w2.xc.settled = false ∧ w2.xc.admitted = d.1 :=
      ⟨_, _, rfl, hx0, rfl⟩
    simp only [bind_run, hba1]
    cases hE : emitBreakerEvent cfg d.2.2 d.2.1 none w2 with
    | error e w3 => exact fun _ => ⟨hR _, rfl⟩
    | ok u w3 =>
      have hxc3 : w3.xc = w2.xc := (emitBreakerEvent_xc cfg d.2.2 d.2.1 none).ok hE
      simp only
      by_cases hd1 : d.1 = true
      · simp only [hd1, if_true, pure_run]
        exact hk w3 (by rw [hxc3]; exact hba2) (fun _ _ => by rw [hxc3, hba3]; exact hd1)
      · simp only [hd1, Bool.false_eq_true, if_false, throw_run, policyOutcome_run]
        exact fun _ => ⟨hR _, by simp [deliverRelated, Exn.ref]⟩

/-- `Policy.call` vs `Policy.execute` between `ExecutionContext` creation and `ensure_settled` -/
theorem admitted_rel {cfg : Cfg} (hret : cfg.hasRetry = true) (hs : cfg.attemptStart = none)
    (he : cfg.attemptEnd = none) (hmax : 0 < cfg.maxAttempts) (w : World)
    (hx0 : w.xc.settled = false)
    (H : PolHyp cfg (callAdmitted cfg w)) : PolRel cfg (callAdmitted cfg w) (executeAdmitted cfg w) := by
  revert H
  rw [callAdmitted_hret hret]
  refine admission_rel (R := fun we wc => PRel (settle cfg we) (settle cfg wc)) (P := PolHyp cfg)
    (fun _ => PRel.refl _) w hx0 (fun w3 h1 h2 H => ?_)
  rw [executeAdmitted2_hret hret]
  exact mid_rel hret hs he hmax w3 h1 h2 H

/-- `Policy.call` / `Policy.execute`: a fresh `ExecutionContext`, the admitted part, `ensure_settled` on both exits -/
theorem policy_run_call (cfg : Cfg) (w : World) :
    Policy.call cfg w = mapRes (settle cfg) (callAdmitted cfg { w with xc := { start := w.now } }) := by
  unfold Policy.call
  rw [bind_run, initCtx_run]
  exact withFinally_settle ..

theorem policy_run_execute (cfg : Cfg) (w : World) :
    Policy.execute cfg w = mapRes (settle cfg) (executeAdmitted cfg { w with xc := { start := w.now } }) := by
  unfold Policy.execute
  rw [bind_run, initCtx_run]
  exact withFinally_settle ..

theorem settle_rs (cfg : Cfg) (w : World) : (settle cfg w).rs = w.rs := by
  unfold settle cancelW
  split
  · cases cfg.breaker <;> rfl
  · rfl

theorem settle_timeline (cfg : Cfg) (w : World) : (settle cfg w).timeline = w.timeline := by
  unfold settle cancelW
  split
  · cases cfg.breaker <;> rfl
  · rfl

theorem settle_filter (cfg : Cfg) (w : World) :
    (settle cfg w).trace.filter (fun y => !isInternal y.1) = w.trace.filter (fun y => !isInternal y.1) := by
  unfold settle
  split
  · exact cancelW_filter cfg w
  · rfl

theorem HookOK.mono {t t' : List (Req × Ans)} (h : HookOK t') (hs : ∀ x ∈ t, x ∈ t') : HookOK t :=
  fun x hx => h x (hs x hx)

/-- the hypotheses of T3 may be given about the log and state after `ensure_settled` -/
theorem PolHyp.of_settled {cfg : Cfg} {rc : EStateM.Result Exn World Nat}
    (henv : Env (settle cfg (finalWorld rc)).trace) (hhook : HookOK (settle cfg (finalWorld rc)).trace)
    (hco : ∀ id, (toRes rc).1 ≠ .raised (.circuitOpen id))
    (hclsOK : ∀ x ∈ (settle cfg (finalWorld rc)).trace, ∀ e, (settle cfg (finalWorld rc)).rs.lastExc = some e →
      x.1 = .classify e.ref → ∃ c d, x.2 = .klass c d ∧ (settle cfg (finalWorld rc)).rs.lastClass = some c.klass)
    (hclsLast : ∀ e, (toRes rc).1 = .raised e → (settle cfg (finalWorld rc)).rs.lastExc = some e →
      e.isException = true → ∃ a rest, (settle cfg (finalWorld rc)).trace.filter (fun x => !isInternal x.1)
        = (.classify e.ref, a) :: rest ∧ a.dur = 0) : PolHyp cfg rc := by
  simp only [settle_rs, settle_filter] at hclsOK hclsLast
  exact ⟨henv.mono (settle_grows cfg _), hhook.mono (settle_grows cfg _), hco,
    fun x hx => hclsOK x (settle_grows cfg _ x hx), hclsLast⟩

end

/-! ## T2: a Policy without a breaker does what its Retry does -/

/-- the exceptions `_handle_exception_call` classifies for the breaker -/
def needsBreakerClass (e : Exn) : Bool :=
  e.isException && !e.isAbort && !e.isExhausted && !e.isCircuitOpen

/-- `Policy.call` / `Policy.execute` classifying the propagating exception once more (for a breaker that
    is not there): the class is discarded, but a faulty classifier replaces the exception -/
def classifyAgain (e : Exn) (w : World) : Exn × World :=
  match callClassifier e w with
  | .ok _ w2 => (e, w2)
  | .error e2 w2 => (e2, w2)

theorem settle_none {cfg : Cfg} (hb : cfg.breaker = none) (w : World) : settle cfg w = w := by
  unfold settle
  split
  · exact cancelW_none hb w
  · rfl

/-- without a breaker, `_handle_exhausted_call` does nothing -/
theorem exhaustedThrow_nb {α : Type} {cfg : Cfg} (hb : cfg.breaker = none) (e : Exn) (w : World) :
    (do handleExhaustedCall cfg e; throw e : M α) w = .error e w := by
  unfold handleExhaustedCall
  rw [recordFailure_none hb]
  rfl

/-- …and `_handle_exception_call` only classifies the exception once more -/
theorem exceptionThrow_nb {α : Type} {cfg : Cfg} (hret : cfg.hasRetry = true) (hb : cfg.breaker = none)
    (e : Exn) (b : Bool) (w : World) :
    (do handleExceptionCall cfg e b; throw e : M α) w = (if e.isCircuitOpen = true then .error e w
      else .error (classifyAgain e w).1 (classifyAgain e w).2) := by
  rw [seqThrow_run, handleExceptionCall_hret hret]
  unfold classifyAgain
  by_cases hco : e.isCircuitOpen = true
  · simp only [hco, if_true]
    rfl
  · rw [if_neg hco, if_neg hco]
    unfold classifyForBreaker
    simp only [hret, if_true, bind_run, pure_run, recordFailure_none hb]
    cases callClassifier e w <;> rfl

/-- a ladder that treats the four kinds of exception as `callLadder` and `executeLadder` do only classifies
    once more, when there is no breaker -/
theorem ladder_nb {α : Type} {cfg : Cfg} (hret : cfg.hasRetry = true) (hb : cfg.breaker = none) {L : Exn → M α}
    {b : Bool} (e : Exn) (w : World)
    (habort : e.isAbort = true → L e w = .error e (cancelW cfg w))
    (hexh : e.isExhausted = true → L e w = (do handleExhaustedCall cfg e; throw e : M α) w)
    (hexc : e.isException = true → e.isAbort = false → e.isExhausted = false →
      L e w = (do handleExceptionCall cfg e b; throw e : M α) w)
    (hbase : e.isException = false → ∃ w', L e w = .error e w' ∧ (w' = cancelW cfg w ∨ w' = w)) :
    L e w = (if needsBreakerClass e = true then
      .error (classifyAgain e w).1 (classifyAgain e w).2 else .error e w) := by
  unfold needsBreakerClass
  refine e.ladder_cases (fun h2 => ?_) (fun h3 => ?_) (fun h1 h2 h3 => ?_) (fun h1 => ?_)
  · rw [habort h2, cancelW_none hb]
    simp [h2]
  · rw [hexh h3, exhaustedThrow_nb hb]
    simp [h3]
  · rw [hexc h1 h2 h3, exceptionThrow_nb hret hb]
    cases e.isCircuitOpen <;> simp [h1, h2, h3]
  · obtain ⟨w', q1, q2⟩ := hbase h1
    rw [q1]
    simp only [h1, Bool.false_and, Bool.false_eq_true, if_false]
    rcases q2 with rfl | rfl
    · rw [cancelW_none hb]
    · rfl

theorem callLadder_nb {cfg : Cfg} (hret : cfg.hasRetry = true) (hb : cfg.breaker = none) (e : Exn) (w : World) :
    callLadder cfg e w = (if needsBreakerClass e = true then
      .error (classifyAgain e w).1 (classifyAgain e w).2 else .error e w) :=
  ladder_nb hret hb e w (fun h => callLadder_abort hret h w) (fun h => callLadder_exhausted h w)
    (fun h1 h2 h3 => callLadder_exception h1 h2 h3 w) (fun h => callLadder_base h w)

theorem executeLadder_nb {cfg : Cfg} (hret : cfg.hasRetry = true) (hb : cfg.breaker = none) (e : Exn) (w : World) :
    executeLadder cfg e w = (if needsBreakerClass e = true then
      .error (classifyAgain e w).1 (classifyAgain e w).2 else .error e w) :=
  ladder_nb hret hb e w (fun h => executeLadder_abort h w) (fun h => executeLadder_exhausted h w)
    (fun h1 h2 h3 => executeLadder_exception h1 h2 h3 w) (fun h => ⟨w, executeLadder_base h w, Or.inr rfl⟩)

theorem mapRes_settle_none {cfg : Cfg} (hb : cfg.breaker = none) (r : EStateM.Result Exn World α) :
    mapRes (settle cfg) r = r := by
  cases r <;> simp only [mapRes, settle_none hb]

/-- what a Policy without a breaker makes of its Retry's result: an exception that `_handle_exception_call`
    would classify for the breaker is classified once more -/
def reclassify : Res × World → Res × World
  | (.raised e, w') =>
    if needsBreakerClass e = true then (.raised (classifyAgain e w').1, (classifyAgain e w').2) else (.raised e, w')
  | r => r

/-- `Policy.call` without a breaker -/
theorem policyCall_nb {cfg : Cfg} (hret : cfg.hasRetry = true) (hb : cfg.breaker = none) (w : World) :
    toRes (Policy.call cfg w) = reclassify (toRes (runCall cfg { w with xc := { start := w.now } })) := by
  rw [policy_run_call, mapRes_settle_none hb, callAdmitted_hret hret]
  unfold checkBreaker
  rw [hb]
  simp only [bind_run, pure_run]
  cases hc : runCall cfg { w with xc := { start := w.now } } with
  | ok v wa =>
    rw [callMid_ok hc, recordSuccess_none hb]
    rfl
  | error e wa =>
    rw [callMid_err hc, callLadder_nb hret hb]
    show _ = (if needsBreakerClass e = true then _ else _)
    split <;> rfl

/-- `Policy.execute` without a breaker -/
theorem policyExecute_nb {cfg : Cfg} (hret : cfg.hasRetry = true) (hb : cfg.breaker = none) (tl : Bool)
    (w : World) :
    toResO tl (Policy.execute cfg w) = reclassify (toResO tl (runExecute cfg { w with xc := { start := w.now } })) := by
  have hp : ∀ o, execPost cfg o = pure o := fun o => by unfold execPost; rw [hb]
  rw [policy_run_execute, mapRes_settle_none hb]
  unfold executeAdmitted
  rw [hb]
  simp only
  rw [executeAdmitted2_hret hret]
  cases hx : runExecute cfg { w with xc := { start := w.now } } with
  | ok o wb => rw [execMid_ok hx, hp]; rfl
  | error e wb =>
    rw [execMid_err hx, executeLadder_nb hret hb]
    show _ = (if needsBreakerClass e = true then _ else _)
    by_cases hn : needsBreakerClass e = true
    · rw [if_pos hn, if_pos hn]
      rfl
    · rw [if_neg hn, if_neg hn]
      rfl

/-- what the extra classification does to the world: one `classify` exchange, nothing else observable -/
theorem classifyAgain_spec (e : Exn) (w : World) :
    ∃ a, (classifyAgain e w).2.trace = (.classify e.ref, a) :: w.trace ∧
      (classifyAgain e w).2.rs = w.rs ∧ (classifyAgain e w).2.budget = w.budget ∧
      (classifyAgain e w).2.breaker = w.breaker ∧ (classifyAgain e w).2.opCalls = w.opCalls ∧
      (classifyAgain e w).2.xc = w.xc ∧ (classifyAgain e w).2.now = w.now + a.dur ∧
      ((∃ c d, a = .klass c d) → (classifyAgain e w).1 = e) := by
  obtain ⟨a, w', h1, h2, h3, h4, h5, h6, h7, hcls⟩ := callClassifier_cases e w
  unfold classifyAgain
  rcases hcls with ⟨c, d, rfl, hcc⟩ | ⟨hnk, e2, hcc⟩
  · rw [hcc]
    exact ⟨_, h1, h2, h6, h4, h7, h5, h3, fun _ => rfl⟩
  · rw [hcc]
    exact ⟨_, h1, h2, h6, h4, h7, h5, h3, fun ⟨c, d, h⟩ => absurd h (hnk c d)⟩

/-- what `reclassify` changes: nothing, or — for an exception that is classified once more — one `classify`
    exchange at the end of the log, its duration, and the exception if that classifier call fails -/
theorem reclassify_spec (r : Res × World) :
    (reclassify r).2.rs = r.2.rs ∧ (reclassify r).2.budget = r.2.budget ∧
    (reclassify r).2.breaker = r.2.breaker ∧ (reclassify r).2.opCalls = r.2.opCalls ∧
    (reclassify r).2.xc = r.2.xc ∧ projC12 (reclassify r).2.trace = projC12 r.2.trace ∧
    ((reclassify r = r ∧ ∀ e, r.1 = .raised e → needsBreakerClass e = false) ∨
     ∃ e a, r.1 = .raised e ∧ needsBreakerClass e = true ∧
      (reclassify r).2.trace = (.classify e.ref, a) :: r.2.trace ∧ (reclassify r).2.now = r.2.now + a.dur ∧
      ((∃ c d, a = .klass c d) → (reclassify r).1 = r.1)) := by
  obtain ⟨r1, r2⟩ := r
  cases r1 with
  | raised e =>
    by_cases hn : needsBreakerClass e = true
    · obtain ⟨a, h1, h2, h3, h4, h5, h6, h7, h8⟩ := classifyAgain_spec e r2
      simp only [reclassify, hn, if_true]
      refine ⟨h2, h3, h4, h5, h6, ?_, Or.inr ⟨e, a, rfl, hn, h1, h7, fun hk => by rw [h8 hk]⟩⟩
      rw [h1, projC12_cons]
      rfl
    · simp only [reclassify, hn]
      exact ⟨rfl, rfl, rfl, rfl, rfl, rfl, Or.inl ⟨rfl, fun e' he' => by
        injection he' with he'
        subst he'
        simpa using hn⟩⟩
  | ret v => exact ⟨rfl, rfl, rfl, rfl, rfl, rfl, Or.inl ⟨rfl, fun e he => by cases he⟩⟩
  | outcome o t => exact ⟨rfl, rfl, rfl, rfl, rfl, rfl, Or.inl ⟨rfl, fun e he => by cases he⟩⟩

end Redress
