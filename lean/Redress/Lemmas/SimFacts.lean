/-
  Redress.Lemmas.SimFacts — unary facts about the shared procedures that the call/execute lock-step (C12)
  needs: what a procedure leaves alone (`Keep`), what holds when it returns (`Post`), and a few
  inversions (`*_ok`: what is known of the worlds when a procedure has returned).  The lock-step proofs hold
  two concrete runs against each other, so the facts are stated about `x w = .ok a w'`, not as triples.
-/
import Redress.Lemmas.Sim
import Redress.Lemmas.SimCanc

namespace Redress
open Twin Retry

theorem finalWorld_bind (x : M α) (f : α → M β) (w : World) :
    finalWorld ((x >>= f) w) = (match x w with
      | .ok a w1 => finalWorld (f a w1)
      | .error _ w1 => w1) := by
  rw [bind_run]
  cases x w <;> rfl

/-! ### `Keep g x`: `x` leaves the projection `g` of the world alone, on both exits -/

structure Keep (g : World → β) (x : M α) : Prop where
  eq : ∀ w, g (finalWorld (x w)) = g w

theorem Keep.pure (g : World → β) (a : α) : Keep g (pure a : M α) := ⟨fun _ => rfl⟩
theorem Keep.throw (g : World → β) (e : Exn) : Keep g (throw e : M α) := ⟨fun _ => rfl⟩

theorem Keep.bind {g : World → β} {x : M α} {f : α → M γ} (hx : Keep g x) (hf : ∀ a, Keep g (f a)) :
    Keep g (x >>= f) := by
  refine ⟨fun w => ?_⟩
  rw [finalWorld_bind]
  have := hx.eq w
  cases hxw : x w with
  | ok a w1 =>
    rw [hxw] at this
    simp only
    rw [(hf a).eq w1]; exact this
  | error e w1 => rw [hxw] at this; exact this

theorem Keep.tryC {g : World → β} {x : M α} {h : Exn → M α} (hx : Keep g x) (hh : ∀ e, Keep g (h e)) :
    Keep g (tryCatch x h : M α) := by
  refine ⟨fun w => ?_⟩
  rw [tryCatch_run]
  have := hx.eq w
  cases hxw : x w with
  | ok a w1 => rw [hxw] at this; exact this
  | error e w1 =>
    rw [hxw] at this
    simp only
    rw [(hh e).eq w1]; exact this

theorem Keep.ite {g : World → β} {c : Prop} [Decidable c] {x y : M α} (hx : Keep g x) (hy : Keep g y) :
    Keep g (if c then x else y) := by
  split <;> assumption

/-- `g` does not look at the answers, the clock or the log -/
def Inert (g : World → β) : Prop :=
  ∀ (w : World) (ans : List Ans) (n : Nat) (t : List (Req × Ans)),
    g { w with answers := ans, now := n, trace := t } = g w

theorem Keep.ask {g : World → β} (hg : Inert g) (r : Req) : Keep g (ask r) := by
  refine ⟨fun w => ?_⟩
  cases hw : w.answers with
  | nil =>
    rw [ask_nil r w hw]
    have := hg w w.answers w.now ((r, Ans.raise .stuck 0) :: w.trace)
    exact this
  | cons a rest =>
    rw [ask_cons r w a rest hw]
    have := hg w rest (w.now + a.dur) ((r, a) :: w.trace)
    cases a <;> exact this

theorem Keep.askHook {g : World → β} (hg : Inert g) (r : Req) : Keep g (askHook r) := by
  refine ⟨fun w => ?_⟩
  rw [askHook_eq, (Keep.ask hg r).eq]
  exact presil_cases (fun w' => g w' = g w) w (fun as => hg w as w.now w.trace)

theorem Keep.modify {g : World → β} (f : World → World) (hf : ∀ w, g (f w) = g w) :
    Keep g (_root_.modify f : M PUnit) := ⟨fun w => hf w⟩

theorem Keep.getThen {g : World → β} (k : World → M α) (hk : ∀ w, Keep g (k w)) : Keep g (get >>= k) := by
  refine ⟨fun w => ?_⟩
  rw [bind_run, get_run]
  exact (hk w).eq w

theorem Keep.map {g : World → β} (f : β → γ) {x : M α} (h : Keep g x) : Keep (fun w => f (g w)) x :=
  ⟨fun w => by rw [h.eq w]⟩

theorem Keep.ok {g : World → β} {x : M α} (h : Keep g x) {w : World} {a : α} {w' : World}
    (hx : x w = .ok a w') : g w' = g w := by
  have := h.eq w; rw [hx] at this; exact this

theorem Keep.err {g : World → β} {x : M α} (h : Keep g x) {w : World} {e : Exn} {w' : World}
    (hx : x w = .error e w') : g w' = g w := by
  have := h.eq w; rw [hx] at this; exact this

/-- structural steps of a `Keep` proof; `ls` are the lemmas for the procedures called -/
syntax "keep" "[" ident,* "]" : tactic
macro_rules
  | `(tactic| keep [$ls,*]) => do
    let alts ← ls.getElems.mapM fun l => `(tacticSeq| with_reducible apply $l)
    `(tactic| repeat (first
        | (intro _)
        | assumption
        $[| $alts]*
        | with_reducible apply Keep.bind
        | with_reducible apply Keep.tryC
        | with_reducible apply Keep.ite
        | with_reducible apply Keep.getThen
        | with_reducible exact Keep.pure _ _
        | with_reducible exact Keep.throw _ _
        | (with_reducible apply Keep.ask) <;> (intro _ _ _ _; rfl)
        | (with_reducible apply Keep.askHook) <;> (intro _ _ _ _; rfl)
        | (with_reducible apply Keep.modify) <;> (intro _; rfl)
        | split))

/-! #### what leaves `rs` alone -/

def gRS : World → RState := fun w => w.rs

theorem swallow_keep (g : World → β) (e : Exn) : Keep g (swallowException e) := by
  unfold swallowException
  keep []

/-- a procedure that keeps every invariant of `_RetryState` (`Lemmas/SimCanc.lean`) leaves it alone -/
theorem Keep.of_nc_rs {x : M α} (h : ∀ J, NC J none x) : Keep gRS x :=
  ⟨fun w => ((h (fun r => r = gRS w)).run w rfl).2.1⟩

theorem emit_rs (cfg : Cfg) (tl : Bool) (ev : Event) (a s : Nat) (k : Option EClass) (e : Option Exn)
    (st : Option StopReason) (c : Option Cause) (cl : Option Classification)
    : Keep gRS (emit cfg tl ev a s k e st c cl) :=
  Keep.of_nc_rs fun _ => emit_nc ..

/-! #### what leaves `last_cause` / `last_exc` alone -/

/-- the two `_RetryState` fields `raise_exhausted_call` / `_build_outcome` consult besides `last_stop_reason` -/
def gCE : World → Option Cause × Option Exn := fun w => (w.rs.lastCause, w.rs.lastExc)

/-- a procedure that keeps every invariant of the recorded cause and exception (`Lemmas/SimCanc.lean`) leaves
    the two alone -/
theorem Keep.of_nc {x : M α} (h : ∀ P, NC (JP P) none x) : Keep gCE x :=
  ⟨fun w => ((h (fun c e => (c, e) = gCE w)).run w rfl).2.1⟩

theorem checkAbort_ce (cfg : Cfg) (tl : Bool) (a : Nat) :
    Keep gCE (checkAbort cfg tl a) := Keep.of_nc fun _ => checkAbort_nc ..

theorem failureOutcome_ce (cfg : Cfg) (tl : Bool) (a : Nat) (d : Decision) (cls : Option Classification)
    (e : Option Exn) (r : Option Nat) (c : Option Cause) : Keep gCE (failureOutcome cfg tl a d cls e r c) :=
  Keep.of_nc fun _ => failureOutcome_nc ..

theorem emitMaxAttemptsExceeded_ce (cfg : Cfg) (tl : Bool) : Keep gCE (emitMaxAttemptsExceeded cfg tl) :=
  Keep.of_nc fun _ => emitMaxAttemptsExceeded_nc ..

theorem handleFailure1_ce (cfg : Cfg) (tl : Bool) (c : Classification) (a : Nat) (cause : Cause)
    (e : Option Exn) : Keep gCE (handleFailure1 cfg tl c a cause e) :=
  Keep.of_nc fun _ => handleFailure1_nc ..

/-- everything in `_RetryState` but `last_stop_reason` -/
def gNS : World → RState := fun w => { w.rs with lastStop := none }

theorem checkAbort_ns (cfg : Cfg) (tl : Bool) (a : Nat) : Keep gNS (checkAbort cfg tl a) := by
  unfold checkAbort
  have h1 : ∀ s, Keep gNS (setStop s) := fun s => Keep.modify _ (fun _ => rfl)
  have h2 : ∀ ev n s k e st c cl, Keep gNS (emit cfg tl ev n s k e st c cl) :=
    fun ev n s k e st c cl => Keep.map (fun r : RState => { r with lastStop := none }) (emit_rs ..)
  keep [h1, h2]

/-! ### `Grows x`: `x` only adds to the log, on both exits

The fact comes out of the first clause of `NC` (`NC.grows`) or of the `Ext` footprints of
`Lemmas/Footprint.lean` (`Grows.of_ext`, in `SimLock.lean`); `grows_after_*` carry it past what follows a step. -/

structure Grows (x : M α) : Prop where
  le : ∀ w y, y ∈ w.trace → y ∈ (finalWorld (x w)).trace

/-- what follows a step only adds to the log -/
theorem grows_after_bind {x : M α} {f : α → M β} (hf : ∀ a, Grows (f a)) (w : World) :
    ∀ y ∈ (finalWorld (x w)).trace, y ∈ (finalWorld ((x >>= f) w)).trace := by
  intro y hy
  rw [finalWorld_bind]
  cases hxw : x w with
  | ok a w1 => rw [hxw] at hy; exact (hf a).le w1 y hy
  | error e w1 => rw [hxw] at hy; exact hy

theorem grows_after_tryCatch {x : M α} {h : Exn → M α} (hh : ∀ e, Grows (h e)) (w : World) :
    ∀ y ∈ (finalWorld (x w)).trace, y ∈ (finalWorld ((tryCatch x h : M α) w)).trace := by
  intro y hy
  rw [tryCatch_run]
  cases hxw : x w with
  | ok a w1 => rw [hxw] at hy; exact hy
  | error e w1 => rw [hxw] at hy; exact (hh e).le w1 y hy

theorem Grows.modify (f : World → World) (hf : ∀ w y, y ∈ w.trace → y ∈ (f w).trace) :
    Grows (_root_.modify f : M PUnit) := ⟨fun w y hy => hf w y hy⟩

theorem Grows.getThen (k : World → M α) (hk : ∀ w, Grows (k w)) : Grows (get >>= k) := by
  refine ⟨fun w y hy => ?_⟩
  rw [bind_run, get_run]
  exact (hk w).le w y hy

/-- what `NC` says about the log -/
theorem NC.grows {amb : Option Exn} {x : M α} (h : NC JT amb x) : Grows x :=
  ⟨fun w y hy => (h.run w trivial).1 y hy⟩

theorem Grows.askHook (r : Req) : Grows (askHook r) := (NC.askHook (amb := none) r).grows

/-! ### `Post Q x`: what holds when `x` returns normally -/

structure Post (Q : α → World → Prop) (x : M α) : Prop where
  ok : ∀ w a w', x w = .ok a w' → Q a w'

theorem Post.pure {Q : α → World → Prop} (a : α) (h : ∀ w, Q a w) : Post Q (pure a : M α) :=
  ⟨fun w a' w' hx => by cases hx; exact h w⟩

theorem Post.throw {Q : α → World → Prop} (e : Exn) : Post Q (throw e : M α) :=
  ⟨fun w a' w' hx => by cases hx⟩

/-- the last step decides -/
theorem Post.tail {Q : β → World → Prop} {x : M α} {f : α → M β} (hf : ∀ a, Post Q (f a)) :
    Post Q (x >>= f) :=
  ⟨fun _ _ _ hx => by
    obtain ⟨a, w1, _, h2⟩ := bind_ok hx
    exact (hf a).ok _ _ _ h2⟩

theorem Post.ite {Q : α → World → Prop} {c : Prop} [Decidable c] {x y : M α} (hx : Post Q x) (hy : Post Q y) :
    Post Q (if c then x else y) := by
  split <;> assumption

/-- `set_stop(s); emit(…); x`: when it returns, `x` ran from a world whose stop reason is `s` and whose
    other `_RetryState` fields are as before -/
theorem stopEmit_ok {s : StopReason} {cfg : Cfg} {tl : Bool} {ev : Event} {a sl : Nat} {k : Option EClass}
    {e : Option Exn} {st : Option StopReason} {c : Option Cause} {cl : Option Classification} {x : M β}
    {w : World} {b : β} {w' : World}
    (h : (do setStop s; emit cfg tl ev a sl k e st c cl; x) w = .ok b w') :
    ∃ w2, w2.rs = { w.rs with lastStop := some s } ∧ x w2 = .ok b w' := by
  obtain ⟨_, w1, h1, hb⟩ := bind_ok h
  obtain ⟨_, w2, h2, hc⟩ := bind_ok hb
  rw [setStop_run] at h1
  injection h1 with _ hw1
  subst hw1
  exact ⟨w2, (emit_rs ..).ok h2, hc⟩

/-- `_handle_failure` decides "raise" only after setting a stop reason -/
def RaiseStop : Decision → World → Prop := fun d w => d = .raise → ∃ s, w.rs.lastStop = some s ∧ s ≠ .aborted

theorem stopWith_ok {cfg : Cfg} {tl : Bool} {s : StopReason} {ev : Event} {a : Nat} {k : EClass}
    {e : Option Exn} {c : Cause} {w : World} {d : Decision} {w' : World}
    (h : stopWith cfg tl s ev a k e c w = .ok d w') : d = .raise ∧ w'.rs.lastStop = some s := by
  obtain ⟨w2, hr, hx⟩ := stopEmit_ok h
  injection hx with hd hw
  subst hd hw
  exact ⟨rfl, by rw [hr]⟩

theorem stopWith_post (cfg : Cfg) (tl : Bool) (s : StopReason) (ev : Event) (a : Nat) (k : EClass)
    (e : Option Exn) (c : Cause) (hs : s ≠ .aborted) : Post RaiseStop (stopWith cfg tl s ev a k e c) :=
  ⟨fun _ _ _ hx _ => ⟨s, (stopWith_ok hx).2, hs⟩⟩

/-- structural steps of a `Post` proof (the last step of a `>>=` decides); `ls` are the lemmas for the
    procedures called -/
syntax "returns" "[" ident,* "]" : tactic
macro_rules
  | `(tactic| returns [$ls,*]) => do
    let alts ← ls.getElems.mapM fun l => `(tacticSeq| with_reducible apply $l)
    `(tactic| repeat (first
        | with_reducible exact Post.throw _
        | (with_reducible apply Post.pure) <;> (intro _ h; cases h)
        | assumption
        | (intro h; cases h)
        $[| $alts]*
        | with_reducible apply Post.tail
        | with_reducible apply Post.ite
        | (intro _)
        | split))

theorem grantRetry_post (cfg : Cfg) (tl : Bool) (c : Classification) (a : Nat) (cause : Cause)
    (e : Option Exn) (key : SKey) (kind : SKind) (rem : Nat) :
    Post RaiseStop (grantRetry cfg tl c a cause e key kind rem) := by
  unfold grantRetry
  returns [stopWith_post]

theorem handleFailure2_post (cfg : Cfg) (tl : Bool) (c : Classification) (a : Nat) (cause : Cause)
    (e : Option Exn) : Post RaiseStop (handleFailure2 cfg tl c a cause e) := by
  unfold handleFailure2
  returns [stopWith_post, grantRetry_post]

theorem handleUnknown_post (cfg : Cfg) (tl : Bool) (c : Classification) (a : Nat) (cause : Cause)
    (e : Option Exn) : Post RaiseStop (handleUnknown cfg tl c a cause e) := by
  unfold handleUnknown
  returns [stopWith_post, handleFailure2_post]

theorem handleFailure1_post (cfg : Cfg) (tl : Bool) (c : Classification) (a : Nat) (cause : Cause)
    (e : Option Exn) : Post RaiseStop (handleFailure1 cfg tl c a cause e) := by
  unfold handleFailure1
  returns [stopWith_post, handleUnknown_post, handleFailure2_post]

/-- `_handle_failure`: the failure is recorded; "raise" comes with a stop reason -/
theorem handleFailure_ok {cfg : Cfg} {tl : Bool} {c : Classification} {a : Nat} {cause : Cause}
    {exc : Option Exn} {res : Option Nat} {w : World} {d : Decision} {w' : World}
    (h : handleFailure cfg tl c a cause exc res w = .ok d w') :
    w'.rs.lastCause = some cause ∧ w'.rs.lastExc = (if cause = .exception then exc else none) ∧
      RaiseStop d w' := by
  unfold handleFailure at h
  obtain ⟨u1, w1, h1, hb⟩ := bind_ok h
  obtain ⟨u2, w2, h2, hc⟩ := bind_ok hb
  clear h hb
  have hp := (handleFailure1_post ..).ok _ _ _ hc
  have hk := (handleFailure1_ce ..).ok hc
  injection h1 with _ hw1
  injection h2 with _ hw2
  subst hw1 hw2
  have hk1 : w'.rs.lastCause = some cause := congrArg Prod.fst hk
  have hk2 : w'.rs.lastExc = (if cause = .exception then exc else none) := congrArg Prod.snd hk
  exact ⟨hk1, hk2, hp⟩

theorem callClassifier_rs (e : Exn) : Keep gRS (callClassifier e) := Keep.of_nc_rs fun _ => callClassifier_nc e

theorem handleException_ok {cfg : Cfg} {tl : Bool} {e : Exn} {a : Nat} {w : World} {d : Decision}
    {w' : World} (h : handleException cfg tl e a w = .ok d w') :
    w'.rs.lastCause = some .exception ∧ w'.rs.lastExc = some e ∧
      RaiseStop d w' := by
  unfold handleException at h
  obtain ⟨c, w1, _, hb⟩ := bind_ok h
  have := handleFailure_ok hb
  simpa using this

/-! ### aborted / scheduled bookkeeping -/

theorem emitAbortedOnce_noop (cfg : Cfg) (tl : Bool) (a : Nat) (w : World)
    (h : w.rs.lastStop = some .aborted) : emitAbortedOnce cfg tl a w = .ok ⟨⟩ w := by
  unfold emitAbortedOnce
  rw [bind_run, getRS_run]
  simp only [h, if_true]
  rfl

theorem emitAbortedOnce_ok {cfg : Cfg} {tl : Bool} {a : Nat} {w : World} {u : Unit} {w' : World}
    (h : emitAbortedOnce cfg tl a w = .ok u w') : w'.rs.lastStop = some .aborted := by
  unfold emitAbortedOnce at h
  rw [bind_run, getRS_run] at h
  simp only at h
  by_cases hls : w.rs.lastStop = some .aborted
  · rw [if_pos hls] at h
    injection h with _ hw
    subst hw
    exact hls
  · rw [if_neg hls] at h
    obtain ⟨_, w1, h1, h2⟩ := bind_ok h
    rw [setStop_run] at h1
    injection h1 with _ hw1
    subst hw1
    exact congrArg RState.lastStop ((emit_rs ..).ok h2)

structure SleepPost (r : SleepDecision) (w : World) : Prop where
  defer : r = .defer → w.rs.lastStop = some .scheduled
  abort : r = .abort → w.rs.lastStop = some .aborted

theorem SleepPost.sleep (w : World) : SleepPost .sleep w := ⟨(fun h => by cases h), fun h => by cases h⟩

theorem handleSleepDecision_post (cfg : Cfg) (tl : Bool) (act : SleepDecision) (a s : Nat) :
    Post SleepPost (handleSleepDecision cfg tl act a s) := by
  refine ⟨fun w r w' h => ?_⟩
  unfold handleSleepDecision at h
  cases act with
  | sleep =>
    injection h with hr hw
    subst hr
    exact SleepPost.sleep _
  | defer =>
    simp only at h
    rw [bind_run, getRS_run] at h
    obtain ⟨w2, hr, hx⟩ := stopEmit_ok h
    injection hx with hr' hw
    subst hr' hw
    exact ⟨fun _ => by rw [hr], fun h => by cases h⟩
  | abort =>
    simp only at h
    obtain ⟨u1, w1, h1, hb⟩ := bind_ok h
    injection hb with hr hw
    subst hr hw
    exact ⟨(fun h => by cases h), fun _ => emitAbortedOnce_ok h1⟩
  | other => cases h

theorem sleepAction_post (cfg : Cfg) (tl : Bool) (a s : Nat) (ctx : BackoffCtx) :
    Post SleepPost (sleepAction cfg tl a s ctx) := by
  refine ⟨fun w r w' h => ?_⟩
  unfold sleepAction at h
  cases hh : cfg.handler with
  | none =>
    rw [hh] at h
    simp only at h
    obtain ⟨u1, w1, _, hb⟩ := bind_ok h
    obtain ⟨u2, w2, _, hc⟩ := bind_ok hb
    injection hc with hr hw
    subst hr
    exact SleepPost.sleep _
  | some lvl =>
    rw [hh] at h
    simp only at h
    obtain ⟨act, w1, _, hb⟩ := bind_ok h
    obtain ⟨r1, w2, h2, hc⟩ := bind_ok hb
    have hp := (handleSleepDecision_post ..).ok _ _ _ h2
    by_cases hr : r1 = .sleep
    · rw [if_pos hr] at hc
      obtain ⟨u3, w3, _, hd⟩ := bind_ok hc
      obtain ⟨u4, w4, _, he⟩ := bind_ok hd
      injection he with hr' hw
      subst hr' hr
      exact SleepPost.sleep _
    · rw [if_neg hr] at hc
      injection hc with hr' hw
      subst hr' hw
      exact hp

/-- what `_finalize_attempt` / `_sync_failure_outcome` guarantee about the `_AttemptOutcome` they build -/
structure DecFacts (o : AOutcome) (r : RState) : Prop where
  notSuccess : o.decision ≠ .success
  aborted : o.decision = .aborted → r.lastStop = some .aborted
  scheduled : o.decision = .scheduled → o.stop = some .scheduled ∧ r.lastStop = some .scheduled
  raise : o.decision = .raise → o.stop = r.lastStop ∧ ∃ s, r.lastStop = some s ∧ s ≠ .aborted

theorem finalizeAttempt_ok {cfg : Cfg} {tl : Bool} {a : Nat} {d : Decision} {act : Option SleepDecision}
    {cls : Option Classification} {e : Option Exn} {res : Option Nat} {c : Option Cause}
    {w : World} {o : AOutcome} {w' : World}
    (h : finalizeAttempt cfg tl a d act cls e res c w = .ok o w')
    (hd : RaiseStop d w)
    (ha : ∀ s, act = some s → SleepPost s w) : DecFacts o w'.rs := by
  unfold finalizeAttempt at h
  rw [bind_run, getRS_run] at h
  simp only at h
  cases d with
  | raise =>
    injection h with ho hw
    subst ho hw
    exact ⟨by simp, by simp, by simp, fun _ => ⟨rfl, hd rfl⟩⟩
  | retry sleep ctx =>
    simp only at h
    by_cases h1 : act = some .defer
    · rw [if_pos h1] at h
      injection h with ho hw
      subst ho hw
      exact ⟨by simp, by simp, fun _ => ⟨rfl, (ha _ h1).defer rfl⟩, by simp⟩
    · rw [if_neg h1] at h
      by_cases h2 : act = some .abort
      · rw [if_pos h2] at h
        injection h with ho hw
        subst ho hw
        exact ⟨by simp, fun _ => (ha _ h2).abort rfl, by simp, by simp⟩
      · rw [if_neg h2, bind_run, elapsed_run] at h
        simp only at h
        by_cases h3 : w.now - w.rs.start > cfg.deadline
        · rw [if_pos h3] at h
          obtain ⟨w2, hr, hx⟩ := stopEmit_ok h
          injection hx with ho hw
          subst ho hw
          have hls : w2.rs.lastStop = some .deadlineExceeded := by rw [hr]
          exact ⟨by simp, by simp, by simp, fun _ => ⟨hls.symm, _, hls, by decide⟩⟩
        · rw [if_neg h3] at h
          by_cases h4 : a = cfg.maxAttempts
          · rw [if_pos h4] at h
            obtain ⟨w2, hr, hx⟩ := stopEmit_ok h
            injection hx with ho hw
            subst ho hw
            have hls : w2.rs.lastStop = some .maxAttemptsGlobal := by rw [hr]
            exact ⟨by simp, by simp, by simp, fun _ => ⟨hls.symm, _, hls, by decide⟩⟩
          · rw [if_neg h4] at h
            injection h with ho hw
            subst ho hw
            exact ⟨by simp, by simp, by simp, by simp⟩

theorem failureOutcome_ok {cfg : Cfg} {tl : Bool} {a : Nat} {d : Decision}
    {cls : Option Classification} {e : Option Exn} {res : Option Nat} {c : Option Cause}
    {w : World} {o : AOutcome} {w' : World}
    (h : failureOutcome cfg tl a d cls e res c w = .ok o w')
    (hd : RaiseStop d w) :
    DecFacts o w'.rs ∧ w'.rs.lastCause = w.rs.lastCause ∧ w'.rs.lastExc = w.rs.lastExc := by
  have hk := (failureOutcome_ce ..).ok h
  refine ⟨?_, congrArg Prod.fst hk, congrArg Prod.snd hk⟩
  unfold failureOutcome at h
  cases d with
  | raise =>
    exact finalizeAttempt_ok h hd (fun s hs => by cases hs)
  | retry sleep ctx =>
    simp only at h
    obtain ⟨act, w1, h1, hb⟩ := bind_ok h
    have hp := (sleepAction_post ..).ok _ _ _ h1
    exact finalizeAttempt_ok hb (fun hh => by cases hh) (fun s hs => by cases hs; exact hp)

theorem emitMaxAttemptsExceeded_ok {cfg : Cfg} {tl : Bool} {w : World} {u : Unit} {w' : World}
    (h : emitMaxAttemptsExceeded cfg tl w = .ok u w') :
    w'.rs.lastStop = some .maxAttemptsGlobal ∧ w'.rs.lastCause = w.rs.lastCause ∧
      w'.rs.lastExc = w.rs.lastExc := by
  have hk := (emitMaxAttemptsExceeded_ce ..).ok h
  refine ⟨?_, congrArg Prod.fst hk, congrArg Prod.snd hk⟩
  unfold emitMaxAttemptsExceeded at h
  obtain ⟨r1, w1, _, hb⟩ := bind_ok h
  obtain ⟨u2, w2, _, hc⟩ := bind_ok hb
  rw [setStop_run] at hc
  injection hc with _ hw
  subst hw
  rfl

end Redress
