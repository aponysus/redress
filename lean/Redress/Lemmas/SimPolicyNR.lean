/-
  Redress.Lemmas.SimPolicyNR — Policy.call vs Policy.execute without a retry loop (C12, T3-NR): both wrappers
  run from the SAME world, so the relation is plain equality of the final worlds.  Then sync vs async
  policies (T4), for policies with and without a retry loop — it is here because it needs the slices of both
  kinds (`callMid`, `callMidNR`): `cfg.isAsync` matters only when a CancelledError reaches an `except` ladder.
-/
import Redress.Lemmas.SimPolicy

namespace Redress
open Twin Retry Policy

/-- `Policy.call` vs `Policy.execute`, no-retry mode: equal worlds, related results -/
def NRRel : EStateM.Result Exn World Nat → EStateM.Result Exn World Outcome → Prop :=
  ResRel (fun we wc => we = wc)

/-- the requests whose exception enters the `except` ladders of the no-retry paths -/
def entersLadder : Req → Bool
  | .op _ | .attemptStart _ => true
  | _ => false

/-- what T3-NR assumes about an exception raised by the operation (or the start hook):
    not one of the library's own terminal objects; a circuit-open kind only without a breaker (F12);
    a `RetryExhaustedError` only without a breaker or with `last_class` UNKNOWN / unset (F13) -/
def LadderOK (cfg : Cfg) (e : Exn) : Prop :=
  (e.isCircuitOpen = true → cfg.breaker = none ∧ ∀ st, e ≠ .libCircuitOpen st) ∧
  e ≠ .libRuntimeError ∧ (∀ f, e ≠ .libExhausted f) ∧
  (e.isExhausted = true → cfg.breaker = none ∨ e.exhaustedClass.getD .unknown = .unknown)

structure NRHyp (cfg : Cfg) (rc : EStateM.Result Exn World Nat) : Prop where
  lad : ∀ x ∈ (finalWorld rc).trace, entersLadder x.1 = true → ∀ e d, x.2 = .raise e d → LadderOK cfg e
  hook : HookOK (finalWorld rc).trace

theorem LadderOK.stuck (cfg : Cfg) : LadderOK cfg .stuck :=
  ⟨(fun h => by cases h), (fun h => by cases h), (fun _ h => by cases h), (fun h => by cases h)⟩

theorem noRetryEndHook_off {cfg : Cfg} (hend : cfg.cAttemptEnd = false) (exc : Option Exn) (r : Option Nat)
    (d : AttemptDecision) (st : Option StopReason) (c : Option Cause) :
    noRetryEndHook cfg exc r d st c = pure () := by
  unfold noRetryEndHook
  simp [hend]

theorem noRetryStartHook_err {cfg : Cfg} {w : World} {e : Exn} {w' : World}
    (h : noRetryStartHook cfg w = .error e w') :
    e = .stuck ∨ ∃ c d, (Req.attemptStart c, Ans.raise e d) ∈ w'.trace := by
  unfold noRetryStartHook at h
  by_cases hc : cfg.cAttemptStart = true
  · rw [if_pos hc] at h
    rcases bind_err h with h1 | ⟨el, w1, h1, h2⟩
    · cases h1
    · rcases bind_err h2 with k1 | ⟨_, w2, _, k2⟩
      · rcases ask_err k1 with rfl | ⟨d, hd⟩
        · exact Or.inl rfl
        · exact Or.inr ⟨_, d, hd⟩
      · cases k2
  · rw [if_neg hc] at h; cases h

theorem invokeOp_err {a : Nat} {w : World} {e : Exn} {w' : World} (h : invokeOp a w = .error e w') :
    e = .stuck ∨ ∃ n d, (Req.op n, Ans.raise e d) ∈ w'.trace := by
  rcases invokeOp_step (a := a) (we := w) (wc := w) rfl with
    ⟨v, we1, wc1, m1, _⟩ | ⟨e1, we1, wc1, m1, m2, _, _, m5⟩
  · rw [h] at m1; cases m1
  · rw [h] at m2
    injection m2 with h1 h2
    subst h1 h2
    exact m5

theorem defaultClass_exhausted {e : Exn} (h : e.isExhausted = true) : defaultClass e = .unknown := by
  cases e <;> first | rfl | cases h

/-- the two ladders on the same exception from the same world -/
theorem ladder_nr {cfg : Cfg} (hret : cfg.hasRetry = false) (hend : cfg.cAttemptEnd = false)
    (invoked : Bool) (e : Exn) (w : World) (hl : LadderOK cfg e) :
    NRRel (callLadder cfg e w) (noRetryLadder cfg invoked e w) := by
  obtain ⟨l1, l2, l3, l4⟩ := hl
  unfold callLadder noRetryLadder
  by_cases hab : e.isAbort = true
  · obtain ⟨k2, hc⟩ := Exn.exception_flags (Exn.abort_flags hab).1
    simp only [hc, k2, hab, decide_false, Bool.and_false, Bool.false_eq_true, if_false, if_true]
    unfold handleAbortCall
    simp only [hret, Bool.not_false, if_true, noRetryEndHook_off hend, bind_run, pure_run, recordCancel_run,
      throw_run, policyOutcome_run]
    exact ⟨rfl, by rw [dr_abort hab]; rfl⟩
  · have hp : Plain e := plain_of (by simpa using hab) l3 l2 (fun st h => (l1 (by rw [h]; rfl)).2 st h)
    rw [if_neg hab, if_neg hab]
    by_cases k1 : (cfg.isAsync && decide (e = .cancelled)) = true
    · rw [if_pos k1, if_pos k1]
      simp only [bind_run, recordCancel_run, throw_run]
      exact ⟨rfl, rfl⟩
    · rw [if_neg k1, if_neg k1]
      by_cases k2 : e.isKiSe = true
      · rw [if_pos k2, if_pos k2]
        simp only [bind_run, recordCancel_run, throw_run]
        exact ⟨rfl, rfl⟩
      · rw [if_neg k2, if_neg k2]
        by_cases hex : e.isExhausted = true
        · rw [if_pos hex, if_pos (Exn.exhausted_flags hex).1]
          unfold handleExhaustedCall
          have hk : Policy.recordFailure cfg (e.exhaustedClass.getD .unknown)
              = Policy.recordFailure cfg (defaultClass e) := by
            rcases l4 hex with hb | hu
            · rw [recordFailure_none hb, recordFailure_none hb]
            · rw [hu, defaultClass_exhausted hex]
          rw [hk]
          simp only [noRetryEndHook_off hend, bind_run, pure_run, throw_run, policyOutcome_run]
          cases Policy.recordFailure cfg (defaultClass e) w with
          | ok u w1 => exact ⟨rfl, by rw [dr_plain hp]; simp⟩
          | error e2 w1 => exact ⟨rfl, rfl⟩
        · rw [if_neg hex]
          by_cases hxc : e.isException = true
          · rw [if_pos hxc, if_pos hxc]
            unfold handleExceptionCall
            by_cases hco : e.isCircuitOpen = true
            · rw [if_pos hco]
              simp only [recordFailure_none (l1 hco).1, noRetryEndHook_off hend, bind_run, pure_run, throw_run,
                policyOutcome_run]
              exact ⟨rfl, by rw [dr_plain hp]; simp⟩
            · rw [if_neg hco]
              unfold classifyForBreaker
              simp only [hret, Bool.not_false, Bool.true_and, if_true, Bool.false_eq_true, if_false,
                noRetryEndHook_off hend, bind_run, pure_run, throw_run, policyOutcome_run]
              cases Policy.recordFailure cfg (defaultClass e) w with
              | ok u w1 => exact ⟨rfl, by rw [dr_plain hp]; simp⟩
              | error e2 w1 => exact ⟨rfl, rfl⟩
          · rw [if_neg hxc, if_neg hxc]
            exact ⟨rfl, rfl⟩

/-! ### the two no-retry paths -/

/-- `callMid` for a policy without a retry loop: the slice of `callAdmitted` after `check_breaker` and the
    pre-call poll -/
def callMidNR (cfg : Cfg) : M Nat :=
  tryCatch (do let v ← callWithoutRetry cfg; Policy.recordSuccess cfg; pure v) (callLadder cfg)

theorem callMidNR_run {cfg : Cfg} (hend : cfg.cAttemptEnd = false) (w : World) :
    callMidNR cfg w = (match noRetryStartHook cfg w with
      | .error e w1 => callLadder cfg e w1
      | .ok _ w1 =>
        match invokeOp 1 w1 with
        | .error e w2 => callLadder cfg e w2
        | .ok v w2 =>
          match Policy.recordSuccess cfg w2 with
          | .ok _ w3 => .ok v w3
          | .error e3 w3 => callLadder cfg e3 w3) := by
  unfold callMidNR callWithoutRetry
  simp only [noRetryEndHook_off hend, bind_run, tryCatch_run, pure_run]
  cases noRetryStartHook cfg w with
  | error e w1 => rfl
  | ok u w1 =>
    simp only
    cases invokeOp 1 w1 with
    | error e w2 => rfl
    | ok v w2 =>
      simp only
      cases Policy.recordSuccess cfg w2 <;> rfl

theorem execNR_run {cfg : Cfg} (hend : cfg.cAttemptEnd = false) (w : World) :
    executeWithoutRetry cfg w = (match noRetryStartHook cfg w with
      | .error e w1 => noRetryLadder cfg false e w1
      | .ok _ w1 =>
        match invokeOp 1 w1 with
        | .error e w2 => noRetryLadder cfg true e w2
        | .ok v w2 =>
          match Policy.recordSuccess cfg w2 with
          | .ok _ w3 => policyOutcome true (some v) none 1 none none none w3
          | .error e3 w3 => .error e3 w3) := by
  unfold executeWithoutRetry
  simp only [noRetryEndHook_off hend, bind_run, tryCatch_run, pure_run]
  cases noRetryStartHook cfg w with
  | error e w1 =>
    simp only
    cases noRetryLadder cfg false e w1 <;> rfl
  | ok u w1 =>
    simp only [bind_run, tryCatch_run, pure_run]
    cases invokeOp 1 w1 with
    | error e w2 =>
      simp only
      cases noRetryLadder cfg true e w2 <;> rfl
    | ok v w2 =>
      simp only [bind_run, pure_run]
      cases Policy.recordSuccess cfg w2 <;> rfl

theorem mid_nr {cfg : Cfg} (hret : cfg.hasRetry = false) (hend : cfg.cAttemptEnd = false) (w : World)
    (H : NRHyp cfg (callMidNR cfg w)) : NRRel (callMidNR cfg w) (executeWithoutRetry cfg w) := by
  rw [callMidNR_run hend] at H ⊢
  rw [execNR_run hend]
  cases hS : noRetryStartHook cfg w with
  | error e w1 =>
    rw [hS] at H
    simp only at H ⊢
    have hl : LadderOK cfg e := by
      rcases noRetryStartHook_err hS with rfl | ⟨c, d, hm⟩
      · exact LadderOK.stuck cfg
      · exact H.lad _ ((callLadder_nc cfg e).grows.le w1 _ hm) rfl e d rfl
    exact ladder_nr hret hend false e w1 hl
  | ok u w1 =>
    rw [hS] at H
    simp only at H ⊢
    cases hO : invokeOp 1 w1 with
    | error e w2 =>
      rw [hO] at H
      simp only at H ⊢
      have hl : LadderOK cfg e := by
        rcases invokeOp_err hO with rfl | ⟨n, d, hm⟩
        · exact LadderOK.stuck cfg
        · exact H.lad _ ((callLadder_nc cfg e).grows.le w2 _ hm) rfl e d rfl
      exact ladder_nr hret hend true e w2 hl
    | ok v w2 =>
      rw [hO] at H
      simp only at H ⊢
      cases hR : Policy.recordSuccess cfg w2 with
      | ok u3 w3 =>
        simp only [policyOutcome_run]
        exact ⟨rfl, by simp [deliverRelated]⟩
      | error e3 w3 =>
        exfalso
        rw [hR] at H
        obtain ⟨h1, r, d, h2, h3⟩ := recordSuccess_err hR
        have hin := (callLadder_nc cfg e3).grows.le w3 _ h2
        have := H.hook _ hin h3 e3 d rfl
        rw [h1] at this
        cases this

/-! ### the pre-call poll and admission -/

/-- the slice of `callAdmitted` after `check_breaker`: the pre-call poll, then `callMidNR` -/
def callPollNR (cfg : Cfg) : M Nat := do
  let aborted ← checkAbortNoRetry cfg
  if aborted = true then throw .libAbort else callMidNR cfg

/-- the same slice of `executeAdmitted` -/
def execPollNR (cfg : Cfg) : M Outcome := do
  let aborted ← checkAbortNoRetry cfg
  if aborted = true then policyOutcome false none (some .aborted) 0 none none none
  else executeWithoutRetry cfg

theorem callAdmitted_nr {cfg : Cfg} (hret : cfg.hasRetry = false) :
    callAdmitted cfg = (do checkBreaker cfg; callPollNR cfg) := by
  unfold callAdmitted callPollNR callMidNR
  simp [hret]

theorem executeAdmitted2_nr {cfg : Cfg} (hret : cfg.hasRetry = false) :
    executeAdmitted2 cfg = execPollNR cfg := by
  unfold executeAdmitted2 execPollNR
  simp [hret]

theorem abortPhase_nr {cfg : Cfg} (hret : cfg.hasRetry = false) (hend : cfg.cAttemptEnd = false) (w : World)
    (H : NRHyp cfg (callPollNR cfg w)) : NRRel (callPollNR cfg w) (execPollNR cfg w) := by
  revert H
  unfold callPollNR execPollNR
  rw [bind_run, bind_run]
  cases hA : checkAbortNoRetry cfg w with
  | error e w1 => intro _; exact ⟨rfl, rfl⟩
  | ok ab w1 =>
    cases ab with
    | true =>
      intro _
      simp only [if_true, throw_run, policyOutcome_run]
      exact ⟨rfl, by simp [deliverRelated]⟩
    | false =>
      simp only [Bool.false_eq_true, if_false]
      exact mid_nr hret hend w1

theorem admitted_nr {cfg : Cfg} (hret : cfg.hasRetry = false) (hend : cfg.cAttemptEnd = false) (w : World)
    (hx0 : w.xc.settled = false) (H : NRHyp cfg (callAdmitted cfg w)) :
    NRRel (callAdmitted cfg w) (executeAdmitted cfg w) := by
  revert H
  rw [callAdmitted_nr hret]
  refine admission_rel (R := fun we wc => we = wc) (P := NRHyp cfg) (fun _ => rfl) w hx0 (fun w3 _ _ => ?_)
  rw [executeAdmitted2_nr hret]
  exact abortPhase_nr hret hend w3

/-! ## sync and async policies (T4)

`cfg.isAsync` matters only when a CancelledError reaches one of the policy's `except` ladders, and then
the call ends by raising it. -/

/-- `x'` and `x` agree except when `x` ends by raising `CancelledError` -/
def AE (x' x : M α) : Prop := ∀ w, x' w = x w ∨ ∃ w', x w = .error .cancelled w'

theorem AE.refl (x : M α) : AE x x := fun _ => Or.inl rfl

theorem AE.of_eq {x' x : M α} (h : x' = x) : AE x' x := h ▸ AE.refl x

theorem AE.bind {p : M α} {f' f : α → M β} (hf : ∀ a, AE (f' a) (f a)) : AE (p >>= f') (p >>= f) := by
  intro w
  rw [bind_run, bind_run]
  cases p w with
  | ok a w1 => exact hf a w1
  | error e w1 => exact Or.inl rfl

theorem AE.bind2 {p' p : M α} {f' f : α → M β} (hp : AE p' p) (hf : ∀ a, AE (f' a) (f a)) :
    AE (p' >>= f') (p >>= f) := by
  intro w
  rw [bind_run, bind_run]
  rcases hp w with h | ⟨w', h⟩
  · rw [h]
    cases p w with
    | ok a w1 => exact hf a w1
    | error e w1 => exact Or.inl rfl
  · right
    rw [h]
    exact ⟨w', rfl⟩

theorem AE.ite {c : Prop} [Decidable c] {x' x y' y : M α} (hx : AE x' x) (hy : AE y' y) :
    AE (if c then x' else y') (if c then x else y) := by
  split <;> assumption

theorem AE.tryC {x' x : M α} {h' h : Exn → M α} (hx : AE x' x)
    (hh : ∀ e, e ≠ .cancelled → AE (h' e) (h e))
    (hc : ∀ w1, ∃ w2, h .cancelled w1 = .error .cancelled w2) :
    AE (tryCatch x' h' : M α) (tryCatch x h : M α) := by
  intro w
  rw [tryCatch_run, tryCatch_run]
  rcases hx w with hw | ⟨w', hw⟩
  · rw [hw]
    cases x w with
    | ok a w1 => exact Or.inl rfl
    | error e w1 =>
      by_cases he : e = .cancelled
      · subst he
        right
        exact hc w1
      · exact hh e he w1
  · right
    rw [hw]
    exact hc w'

/-! ### the two ladders that read the flag -/

theorem callLadder_async_ne (cfg : Cfg) (b : Bool) {e : Exn} (he : e ≠ .cancelled) :
    callLadder { cfg with isAsync := b } e = callLadder cfg e := by
  unfold callLadder
  simp only [he, decide_false, Bool.and_false, Bool.false_eq_true, if_false]
  rfl

theorem callLadder_cancelled (cfg : Cfg) (w : World) :
    ∃ w2, callLadder cfg .cancelled w = .error .cancelled w2 := by
  obtain ⟨w', h, _⟩ := callLadder_base (cfg := cfg) (e := .cancelled) rfl w
  exact ⟨w', h⟩

theorem noRetryLadder_async_ne (cfg : Cfg) (b inv : Bool) {e : Exn} (he : e ≠ .cancelled) :
    noRetryLadder { cfg with isAsync := b } inv e = noRetryLadder cfg inv e := by
  unfold noRetryLadder
  simp only [he, decide_false, Bool.and_false, Bool.false_eq_true, if_false]
  rfl

theorem noRetryLadder_cancelled (cfg : Cfg) (inv : Bool) (w : World) :
    ∃ w2, noRetryLadder cfg inv .cancelled w = .error .cancelled w2 := by
  unfold noRetryLadder
  cases ha : cfg.isAsync with
  | true =>
    refine ⟨cancelW cfg w, ?_⟩
    simp [Exn.isAbort, bind_run, recordCancel_run, throw_run]
  | false =>
    refine ⟨w, ?_⟩
    simp [Exn.isAbort, Exn.isKiSe, Exn.isException, throw_run]

/-- the retry loop never reads `cfg.isAsync` -/
theorem runCall_async (cfg : Cfg) (b : Bool) : runCall { cfg with isAsync := b } = runCall cfg := by
  unfold runCall
  rw [callLoop_congr (cfg' := { cfg with isAsync := b }) (cfg := cfg) (fun _ => rfl) rfl]

theorem runExecute_async (cfg : Cfg) (b : Bool) : runExecute { cfg with isAsync := b } = runExecute cfg := by
  unfold runExecute
  rw [execLoop_congr (cfg' := { cfg with isAsync := b }) (cfg := cfg) (fun _ => rfl) rfl]

theorem callMid_async (cfg : Cfg) (b : Bool) : AE (callMid { cfg with isAsync := b }) (callMid cfg) := by
  unfold callMid
  rw [runCall_async]
  exact AE.tryC (AE.refl _) (fun e he => AE.of_eq (callLadder_async_ne cfg b he)) (callLadder_cancelled cfg)

theorem callMidNR_async (cfg : Cfg) (b : Bool) : AE (callMidNR { cfg with isAsync := b }) (callMidNR cfg) := by
  unfold callMidNR
  exact AE.tryC (AE.refl _) (fun e he => AE.of_eq (callLadder_async_ne cfg b he)) (callLadder_cancelled cfg)

theorem callAdmitted_async (cfg : Cfg) (b : Bool) :
    AE (callAdmitted { cfg with isAsync := b }) (callAdmitted cfg) := by
  by_cases hret : cfg.hasRetry = true
  · rw [callAdmitted_hret (cfg := { cfg with isAsync := b }) hret, callAdmitted_hret hret]
    exact AE.bind (fun _ => callMid_async cfg b)
  · have hret' : cfg.hasRetry = false := by simpa using hret
    rw [callAdmitted_nr (cfg := { cfg with isAsync := b }) hret', callAdmitted_nr hret']
    unfold callPollNR
    exact AE.bind (fun _ => AE.bind (fun ab => AE.ite (AE.refl _) (callMidNR_async cfg b)))

theorem executeWithoutRetry_async (cfg : Cfg) (b : Bool) :
    AE (executeWithoutRetry { cfg with isAsync := b }) (executeWithoutRetry cfg) := by
  unfold executeWithoutRetry
  refine AE.bind2 ?_ (fun r0 => ?_)
  · refine AE.tryC (AE.refl _) (fun e he => ?_) (fun w1 => ?_)
    · rw [noRetryLadder_async_ne cfg b false he]
      exact AE.refl _
    · obtain ⟨w2, h⟩ := noRetryLadder_cancelled cfg false w1
      exact ⟨w2, by rw [bind_run, h]⟩
  · cases r0 with
    | some o => exact AE.refl _
    | none =>
      refine AE.bind2 ?_ (fun r => AE.refl _)
      refine AE.tryC (AE.refl _) (fun e he => ?_) (fun w1 => ?_)
      · rw [noRetryLadder_async_ne cfg b true he]
        exact AE.refl _
      · obtain ⟨w2, h⟩ := noRetryLadder_cancelled cfg true w1
        exact ⟨w2, by rw [bind_run, h]⟩

theorem execMid_async (cfg : Cfg) (b : Bool) : execMid { cfg with isAsync := b } = execMid cfg := by
  unfold execMid
  rw [runExecute_async]
  rfl

theorem executeAdmitted_async (cfg : Cfg) (b : Bool) :
    AE (executeAdmitted { cfg with isAsync := b }) (executeAdmitted cfg) := by
  have h2 : AE (executeAdmitted2 { cfg with isAsync := b }) (executeAdmitted2 cfg) := by
    by_cases hret : cfg.hasRetry = true
    · rw [executeAdmitted2_hret (cfg := { cfg with isAsync := b }) hret, executeAdmitted2_hret hret,
        execMid_async]
      exact AE.refl _
    · have hret' : cfg.hasRetry = false := by simpa using hret
      rw [executeAdmitted2_nr (cfg := { cfg with isAsync := b }) hret', executeAdmitted2_nr hret']
      unfold execPollNR
      exact AE.bind (fun ab => AE.ite (AE.refl _) (executeWithoutRetry_async cfg b))
  obtain ⟨cfg', hcfg'⟩ : ∃ c : Cfg, c = { cfg with isAsync := b } := ⟨_, rfl⟩
  rw [← hcfg'] at h2 ⊢
  have hbr : cfg'.breaker = cfg.breaker := by rw [hcfg']
  have hem : ∀ ev st, emitBreakerEvent cfg' ev st none = emitBreakerEvent cfg ev st none := by
    intro ev st; rw [hcfg']; rfl
  clear hcfg'
  unfold executeAdmitted
  rw [hbr]
  simp only [hem]
  cases cfg.breaker with
  | none => exact h2
  | some bc =>
    exact AE.bind (fun d => AE.bind (fun _ => AE.ite h2 (AE.refl _)))

end Redress
