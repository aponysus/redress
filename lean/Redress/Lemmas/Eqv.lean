/-
  Redress.Lemmas.Eqv — programs that commute with a change of world.

  `Commutes f x`: running `x` from `f w` gives exactly the `f`-image of running it from `w` — same value or
  exception, same final state up to `f`.  Two instances are used:
  * C15, "silence the observability hooks": `σ w` is the world `w` in the twin semantics (`silent := true`,
    and the log rewritten as if every `Exception` raised by a metric / log / before_sleep hook had been a
    normal return of the same duration); `Eqv x` is `Commutes σ x`.
  * C12, "the retry loop never looks at the policy's `ExecutionContext`" (`Lemmas/SimXc.lean`).
  Both changes are of the form `recast t s c` (rewrite the log, the twin flag, the `ExecutionContext`), and
  what the retry loop needs of one to commute with it is `Blind t s c`.
  The file opens with the run equations of the monad `M`, which every file of the C12 stack uses too.
-/
import Redress.Model.Run
import Redress.Model.Twin

namespace Redress

open Twin

/-- the log entry as the silent twin records it -/
def silenceX (x : Req × Ans) : Req × Ans := if isHook x.1 then (x.1, x.2.silenced) else x

/-- the world in the silent-hook twin semantics -/
def σ (w : World) : World := { w with silent := true, trace := w.trace.map silenceX }

def mapRes (f : World → World) : EStateM.Result Exn World α → EStateM.Result Exn World α
  | .ok a w => .ok a (f w)
  | .error e w => .error e (f w)

/-! ### run equations of `M`

What a primitive or a combinator of the monad does to a given world (`bind_run`, `tryCatch_run`, `ask_cons`, …),
the inversions of `>>=`, and how `runEntry` packages a result.  `Sim*.lean` reason from these as well. -/

theorem bind_run (x : M α) (f : α → M β) (w : World) :
    (x >>= f) w = (match x w with
      | .ok a w1 => f a w1
      | .error e w1 => .error e w1) := by
  show EStateM.bind x f w = _
  unfold EStateM.bind
  cases x w <;> rfl

theorem tryCatch_run (x : M α) (h : Exn → M α) (w : World) :
    (tryCatch x h : M α) w = (match x w with
      | .ok a w1 => .ok a w1
      | .error e w1 => h e w1) := by
  show EStateM.tryCatch x h w = _
  unfold EStateM.tryCatch
  simp only [EStateM.Backtrackable.save, EStateM.Backtrackable.restore]
  cases x w <;> rfl

theorem modify_run (f : World → World) (w : World) : (modify f : M PUnit) w = .ok ⟨⟩ (f w) := rfl

theorem get_run (w : World) : (get : M World) w = .ok w w := rfl

theorem set_run (w' w : World) : (set w' : M PUnit) w = .ok ⟨⟩ w' := rfl

theorem throw_run (e : Exn) (w : World) : (throw e : M α) w = .error e w := rfl
theorem pure_run (a : α) (w : World) : (Pure.pure a : M α) w = .ok a w := rfl

theorem setStop_run (s : StopReason) (w : World) :
    Retry.setStop s w = .ok ⟨⟩ { w with rs := { w.rs with lastStop := some s } } := rfl
theorem getRS_run (w : World) : getRS w = .ok w.rs w := rfl
theorem getAS_run (w : World) : getAS w = .ok w.as w := rfl
theorem elapsed_run (w : World) : elapsed w = .ok (w.now - w.rs.start) w := rfl
theorem modifyRS_run (f : RState → RState) (w : World) :
    modifyRS f w = .ok ⟨⟩ { w with rs := f w.rs } := rfl
theorem modifyAS_run (f : AState → AState) (w : World) :
    modifyAS f w = .ok ⟨⟩ { w with as := f w.as } := rfl

theorem ask_nil (r : Req) (w : World) (h : w.answers = []) :
    ask r w = .error .stuck { w with trace := (r, Ans.raise .stuck 0) :: w.trace } := by
  obtain ⟨answers, now, trace, rs, as, att, oc, tl, tls, bud, br, xc, sil⟩ := w
  subst h
  rfl

/-- what `ask r` does when the next answer is `a` -/
def askStep (r : Req) (w : World) (a : Ans) (rest : List Ans) : EStateM.Result Exn World Ans :=
  match a with
  | .raise e _ => .error e { w with answers := rest, now := w.now + a.dur, trace := (r, a) :: w.trace }
  | _ => .ok a { w with answers := rest, now := w.now + a.dur, trace := (r, a) :: w.trace }

theorem ask_cons (r : Req) (w : World) (a : Ans) (rest : List Ans) (h : w.answers = a :: rest) :
    ask r w = askStep r w a rest := by
  obtain ⟨answers, now, trace, rs, as, att, oc, tl, tls, bud, br, xc, sil⟩ := w
  simp only at h
  subst h
  cases a <;> rfl

/-- what `askHook r` does when the next answer is `a` -/
def askHookStep (r : Req) (w : World) (a : Ans) (rest : List Ans) : EStateM.Result Exn World Ans :=
  match (if w.silent then a.silenced else a) with
  | .raise e _ => .error e { w with answers := rest, now := w.now + a.dur,
                                    trace := (r, if w.silent then a.silenced else a) :: w.trace }
  | a' => .ok a' { w with answers := rest, now := w.now + a.dur,
                          trace := (r, if w.silent then a.silenced else a) :: w.trace }

theorem askHook_nil (r : Req) (w : World) (h : w.answers = []) :
    askHook r w = .error .stuck { w with trace := (r, Ans.raise .stuck 0) :: w.trace } := by
  obtain ⟨answers, now, trace, rs, as, att, oc, tl, tls, bud, br, xc, sil⟩ := w
  simp only at h
  subst h
  rfl

theorem askHook_cons (r : Req) (w : World) (a : Ans) (rest : List Ans) (h : w.answers = a :: rest) :
    askHook r w = askHookStep r w a rest := by
  obtain ⟨answers, now, trace, rs, as, att, oc, tl, tls, bud, br, xc, sil⟩ := w
  simp only at h
  subst h
  show askHook r _ = askHookStep r _ a rest
  unfold askHookStep askHook
  simp only [bind_run, get_run]
  generalize (if sil = true then a.silenced else a) = a'
  cases a' <;> rfl

theorem bind_ok {x : M α} {f : α → M β} {w : World} {b : β} {w' : World}
    (h : (x >>= f) w = .ok b w') : ∃ a w1, x w = .ok a w1 ∧ f a w1 = .ok b w' := by
  rw [bind_run] at h
  cases hx : x w with
  | ok a w1 => rw [hx] at h; exact ⟨a, w1, rfl, h⟩
  | error e w1 => rw [hx] at h; cases h

theorem bind_err {x : M α} {f : α → M β} {w : World} {e : Exn} {w' : World}
    (h : (x >>= f) w = .error e w') :
    x w = .error e w' ∨ ∃ a w1, x w = .ok a w1 ∧ f a w1 = .error e w' := by
  rw [bind_run] at h
  cases hx : x w with
  | ok a w1 => rw [hx] at h; exact Or.inr ⟨a, w1, rfl, h⟩
  | error e1 w1 => rw [hx] at h; cases h; exact Or.inl rfl

/-- after `X; raise e` -/
theorem seqThrow_run {α : Type} (x : M Unit) (e : Exn) (w : World) :
    (do x; throw e : M α) w = (match x w with
      | .ok _ w1 => .error e w1
      | .error e2 w1 => .error e2 w1) := by
  rw [bind_run]
  cases x w <;> rfl

open Retry in
theorem buildOutcome_run (ok : Bool) (value : Option Nat) (n : Nat) (ns : Option Nat) (w : World) :
    buildOutcome ok value n ns w = .ok
      { ok, value := if ok then value else none,
        stop := if ok then none else w.rs.lastStop,
        attempts := n,
        lastClass := if ok then none else w.rs.lastClass,
        lastExc := if !ok && w.rs.lastCause = some .exception then w.rs.lastExc.map Exn.ref else none,
        lastResult := if !ok && w.rs.lastCause = some .result then w.rs.lastResult else none,
        cause := if ok then none else w.rs.lastCause,
        elapsed := w.now - w.rs.start, nextSleep := ns } w := rfl

open Policy in
/-- `policyOutcome` only reads -/
theorem policyOutcome_run (ok : Bool) (value : Option Nat) (stop : Option StopReason) (n : Nat)
    (lc : Option EClass) (le : Option String) (c : Option Cause) (w : World) :
    policyOutcome ok value stop n lc le c w = .ok
      { ok, value := if ok then value else none, stop, attempts := n, lastClass := lc, lastExc := le,
        lastResult := none, cause := c, elapsed := w.now - w.xc.start, nextSleep := none } w := rfl

/-- how `runEntry` packages a result whose world went through `f` -/
theorem toRes_mapRes (f : World → World) (r : EStateM.Result Exn World Nat) :
    toRes (mapRes f r) = ((toRes r).1, f (toRes r).2) := by
  cases r <;> rfl

theorem toResO_mapRes (f : World → World) (hf : ∀ w, (f w).timeline = w.timeline) (tl : Bool)
    (r : EStateM.Result Exn World Outcome) : toResO tl (mapRes f r) = ((toResO tl r).1, f (toResO tl r).2) := by
  cases r with
  | ok o w => simp only [mapRes, toResO, hf]
  | error e w => rfl

/-! ### programs that commute with a change of world -/

/-- `x` commutes with the change of world `f` -/
structure Commutes (f : World → World) (x : M α) : Prop where
  eq : ∀ w, x (f w) = mapRes f (x w)

section
variable {f : World → World}

theorem Commutes.pure (a : α) : Commutes f (pure a : M α) := ⟨fun _ => rfl⟩

theorem Commutes.throw (e : Exn) : Commutes f (throw e : M α) := ⟨fun _ => rfl⟩

theorem Commutes.bind {x : M α} {g : α → M β} (hx : Commutes f x) (hg : ∀ a, Commutes f (g a)) :
    Commutes f (x >>= g) := by
  refine ⟨fun w => ?_⟩
  rw [bind_run, bind_run, hx.eq w]
  cases x w with
  | ok a w1 => exact (hg a).eq w1
  | error e w1 => rfl

theorem Commutes.tryC {x : M α} {h : Exn → M α} (hx : Commutes f x) (hh : ∀ e, Commutes f (h e)) :
    Commutes f (tryCatch x h : M α) := by
  refine ⟨fun w => ?_⟩
  rw [tryCatch_run, tryCatch_run, hx.eq w]
  cases x w with
  | ok a w1 => rfl
  | error e w1 => exact (hh e).eq w1

theorem Commutes.ite {c : Prop} [Decidable c] {x y : M α} (hx : Commutes f x) (hy : Commutes f y) :
    Commutes f (if c then x else y) := by
  split <;> assumption

/-- a state update that commutes with `f` -/
theorem Commutes.modify (g : World → World) (hg : ∀ w, g (f w) = f (g w)) : Commutes f (modify g : M PUnit) := by
  refine ⟨fun w => ?_⟩
  rw [modify_run, modify_run, hg]
  rfl

/-- anything of the form `get >>= k` where `k` is given the world: it commutes with `f` if `k (f w)` run
    from `f w` is the `f`-image of `k w` run from `w` -/
theorem Commutes.getThen (k : World → M α) (hk : ∀ w, k (f w) (f w) = mapRes f (k w w)) :
    Commutes f (get >>= k) := by
  refine ⟨fun w => ?_⟩
  rw [bind_run, bind_run, get_run, get_run]
  exact hk w

/-- `get >>= k` where `k` reads only what `f` leaves alone and commutes with `f` for every argument -/
theorem Commutes.getThen' (k : World → M α) (hk : ∀ w, k (f w) = k w) (he : ∀ w, Commutes f (k w)) :
    Commutes f (get >>= k) :=
  Commutes.getThen k (fun w => by rw [hk]; exact (he w).eq w)

/-- reading a projection that `f` does not change -/
theorem Commutes.read (g : World → α) (hg : ∀ w, g (f w) = g w) :
    Commutes f (get >>= fun w => (Pure.pure (g w) : M α)) :=
  Commutes.getThen _ (fun w => by show EStateM.Result.ok (g (f w)) (f w) = _; rw [hg]; rfl)

/-- `do let w ← get; set (g w); k w` where `g` commutes with `f` and `k` only reads what `f` leaves alone -/
theorem Commutes.getSetThen (g : World → World) (k : World → M α) (hg : ∀ w, g (f w) = f (g w))
    (hk : ∀ w, k (f w) = k w) (he : ∀ w, Commutes f (k w)) :
    Commutes f (get >>= fun w => (set (g w) : M PUnit) >>= fun _ => k w) := by
  apply Commutes.getThen
  intro w
  simp only [bind_run, set_run]
  rw [hg, hk]
  exact (he w).eq _

theorem swallow_comm (e : Exn) : Commutes f (swallowException e) := by
  unfold swallowException
  split
  · exact Commutes.pure _
  · exact Commutes.throw _

/-- a prefix that commutes with `f`, in front of a hook call site, both inside `except Exception: pass` -/
theorem Commutes.seqS {p : M Unit} {x : M Unit} (hp : Commutes f p)
    (hx : Commutes f (tryCatch x swallowException : M Unit)) :
    Commutes f (tryCatch (p >>= fun _ => x) swallowException : M Unit) := by
  refine ⟨fun w => ?_⟩
  have h2 := hx.eq
  simp only [tryCatch_run] at h2
  simp only [tryCatch_run, bind_run]
  rw [hp.eq w]
  cases p w with
  | ok a w1 => exact h2 w1
  | error e w1 => exact (swallow_comm e).eq w1

end

/-- rewrite the log, the twin flag and the `ExecutionContext` -/
def recast (t : List (Req × Ans) → List (Req × Ans)) (s : Bool → Bool) (c : XCtx → XCtx) (w : World) : World :=
  { w with trace := t w.trace, silent := s w.silent, xc := c w.xc }

/-- what makes `recast t s c` invisible to the retry loop: an exchange with anything but an observability hook
    is logged as it is, and a hook call inside its `except Exception: pass` commutes with it -/
structure Blind (t : List (Req × Ans) → List (Req × Ans)) (s : Bool → Bool) (c : XCtx → XCtx) : Prop where
  cons : ∀ r a l, isHook r = false → t ((r, a) :: l) = (r, a) :: t l
  site : ∀ r, isHook r = true →
    Commutes (recast t s c) (tryCatch (do let _ ← askHook r; Pure.pure ()) swallowException : M Unit)

/-- `ask` for a request that is not an observability hook -/
theorem Commutes.ask {t : List (Req × Ans) → List (Req × Ans)} {s : Bool → Bool} {c : XCtx → XCtx}
    (hf : Blind t s c) (r : Req) (h : isHook r = false) : Commutes (recast t s c) (ask r) := by
  refine ⟨fun w => ?_⟩
  cases hw : w.answers with
  | nil =>
    rw [ask_nil r w hw, ask_nil r (recast t s c w) hw]
    simp [recast, mapRes, hf.cons r _ _ h]
  | cons a rest =>
    rw [ask_cons r w a rest hw, ask_cons r (recast t s c w) a rest hw]
    cases a <;> simp [askStep, recast, mapRes, hf.cons r _ _ h]

/-! ### C15: equivariance under σ -/

@[simp] theorem silenced_idem (a : Ans) : a.silenced.silenced = a.silenced := by
  cases a with
  | raise e d => by_cases h : e.isException <;> simp [Ans.silenced, h]
  | _ => rfl

theorem σ_trace_cons (w : World) (x : Req × Ans) (h : isHook x.1 = false) :
    (σ { w with trace := x :: w.trace }) = { σ w with trace := x :: (σ w).trace } := by
  simp [σ, silenceX, h]

/-- `Commutes σ x`, as the structure C15 is stated with -/
structure Eqv (x : M α) : Prop where
  eq : ∀ w, x (σ w) = mapRes σ (x w)

theorem Eqv.dite {c : Prop} [Decidable c] {x : c → M α} {y : ¬c → M α} (hx : ∀ h, Eqv (x h))
    (hy : ∀ h, Eqv (y h)) : Eqv (if h : c then x h else y h) := by
  split
  · exact hx _
  · exact hy _

/-- `x` inside `try: x except Exception: pass` is equivariant -/
def EqvS (x : M Unit) : Prop := Eqv (tryCatch x swallowException : M Unit)

/-- the hook call itself: an `Exception` raised by the hook is swallowed, so it makes no difference
    whether the hook raised it or returned normally -/
theorem EqvS.askHook (r : Req) (hr : isHook r = true) :
    EqvS (do let _ ← askHook r; Pure.pure ()) := by
  refine ⟨fun w => ?_⟩
  simp only [tryCatch_run, bind_run]
  cases hw : w.answers with
  | nil =>
    rw [askHook_nil r w hw, askHook_nil r (σ w) (by simpa [σ] using hw)]
    simp [swallowException, Exn.isException, σ, mapRes, silenceX, hr, Ans.silenced, throw_run]
  | cons a rest =>
    rw [askHook_cons r w a rest hw, askHook_cons r (σ w) a rest (by simpa [σ] using hw)]
    cases a with
    | raise e d =>
      by_cases he : e.isException = true
      · cases hs : w.silent <;>
          simp [askHookStep, σ, hs, mapRes, silenceX, hr, Ans.silenced, swallowException, he, pure_run]
      · cases hs : w.silent <;>
          simp [askHookStep, σ, hs, mapRes, silenceX, hr, Ans.silenced, swallowException, he, throw_run]
    | _ =>
      cases hs : w.silent <;>
        simp [askHookStep, σ, hs, mapRes, silenceX, hr, Ans.silenced, pure_run]

theorem EqvS.ite {c : Prop} [Decidable c] {x y : M Unit} (hx : EqvS x) (hy : EqvS y) :
    EqvS (if c then x else y) := by
  split <;> assumption

/-- σ is a `recast` the retry loop does not see -/
theorem σ_blind : Blind (List.map silenceX) (fun _ => true) id where
  cons r a l h := by simp [silenceX, h]
  site r hr := ⟨(EqvS.askHook r hr).eq⟩

/-- what commutes with σ as a `recast` is equivariant -/
theorem Eqv.of_comm {x : M α} (h : Commutes (recast (List.map silenceX) (fun _ => true) id) x) : Eqv x := ⟨h.eq⟩

end Redress
