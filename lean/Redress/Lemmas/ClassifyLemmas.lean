/- Lemmas about the classifier model for C19; the last section shows that the specification
(`Classify.Spec`) and the model agree. -/
import Redress.Model.Classify

namespace Redress.Classify

open Redress

theorem ite_some_eq_none {α : Type} {c : Prop} [Decidable c] {a : α} {r : Option α} :
    (if c then some a else r) = none ↔ ¬ c ∧ r = none := by
  split <;> simp [*]

/-! ## substring test -/

/-- `pat in s` is the infix relation. -/
theorem hasInfix_iff (pat s : List Char) : hasInfix pat s = true ↔ pat <:+: s := by
  induction s with
  | nil => simp [hasInfix]
  | cons c cs ih =>
    simp only [hasInfix, Bool.or_eq_true, ih, List.isPrefixOf_iff_prefix, List.infix_cons_iff]

theorem hasInfix_eq_false (pat s : List Char) : hasInfix pat s = false ↔ ¬ pat <:+: s := by
  rw [← hasInfix_iff]; simp

/-! ## status tables -/

/-- membership in the documented table of `_classify` -/
def InCodeTable (z : Int) : Prop :=
  z = 401 ∨ z = 403 ∨ z = 400 ∨ z = 404 ∨ z = 422 ∨ z = 409 ∨ z = 408 ∨ z = 429 ∨
    (500 ≤ z ∧ z < 600)

/-- membership in the table of `http_classifier` (no 422) -/
def InHttpTable (z : Int) : Prop :=
  z = 401 ∨ z = 403 ∨ z = 400 ∨ z = 404 ∨ z = 409 ∨ z = 408 ∨ z = 429 ∨ (500 ≤ z ∧ z < 600)

theorem codeTable_401 : codeTable 401 = some .auth := by decide
theorem codeTable_403 : codeTable 403 = some .permission := by decide
theorem codeTable_400 : codeTable 400 = some .permanent := by decide
theorem codeTable_404 : codeTable 404 = some .permanent := by decide
theorem codeTable_422 : codeTable 422 = some .permanent := by decide
theorem codeTable_409 : codeTable 409 = some .concurrency := by decide
theorem codeTable_408 : codeTable 408 = some .transient := by decide
theorem codeTable_429 : codeTable 429 = some .rateLimit := by decide

theorem codeTable_5xx (z : Int) (h : 500 ≤ z ∧ z < 600) : codeTable z = some .serverError := by
  unfold codeTable; grind

theorem codeTable_eq_none (z : Int) : codeTable z = none ↔ ¬ InCodeTable z := by
  unfold codeTable InCodeTable; grind

theorem codeTable_isSome (z : Int) : (codeTable z).isSome = true ↔ InCodeTable z := by
  rw [← Option.ne_none_iff_isSome, Ne, codeTable_eq_none, Classical.not_not]

theorem httpTable_5xx (z : Int) (h : 500 ≤ z ∧ z < 600) : httpTable z = .serverError := by
  unfold httpTable; grind

theorem httpTable_outside (z : Int) (h : ¬ InHttpTable z) : httpTable z = .unknown := by
  unfold httpTable; unfold InHttpTable at h; grind

/-- On the rows both document, `http_classifier`'s table and `_classify`'s table agree. -/
theorem httpTable_eq_codeTable (z : Int) (h : InHttpTable z) : some (httpTable z) = codeTable z := by
  unfold httpTable codeTable; unfold InHttpTable at h; grind

/-! ## `_coerce_status` -/

/-- the second loop of `_coerce_status` is a `findSome?` -/
theorem firstStatusArg_eq (args : List PyVal) :
    firstStatusArg args = args.findSome? fun a => a.asInt.filter fun z => 100 ≤ z ∧ z ≤ 599 := by
  induction args with
  | nil => rfl
  | cons a rest ih =>
    rw [firstStatusArg, List.findSome?_cons, ih]
    cases a.asInt with
    | none => rfl
    | some z =>
      simp only [Option.filter_some, decide_eq_true_eq]
      split <;> rfl

/-! ## the regex matchers -/

/-- left context of a `\b…` match: at the very start (and the caller says no word character
precedes), or right after a non-word character -/
def LeftB (prevWord : Bool) (pre : List Char) : Prop :=
  (pre = [] ∧ prevWord = false) ∨ ∃ pre' x, pre = pre' ++ [x] ∧ isWord x = false

/-- right context of a `…\b` match: end of string, or a non-word character follows -/
def RightB (post : List Char) : Prop := post.head?.all (fun x => !isWord x) = true

theorem wordMatchHere_eq_some {s m : List Char} :
    wordMatchHere s = some m ↔
      ∃ post, s = m ++ post ∧ m.length = 5 ∧ m.all isCode = true ∧ RightB post := by
  unfold wordMatchHere RightB
  constructor
  · intro h
    simp only at h
    split at h
    · rename_i hc
      cases h
      exact ⟨s.drop 5, (List.take_append_drop 5 s).symm, hc.1, hc.2.1, hc.2.2⟩
    · cases h
  · rintro ⟨post, rfl, hl, hc, hr⟩
    simp [List.take_left' hl, List.drop_left' hl, hl, hc, hr]

theorem LeftB_cons {p : Bool} {c : Char} {pre : List Char} (h : LeftB (isWord c) pre) :
    LeftB p (c :: pre) := by
  rcases h with ⟨rfl, hc⟩ | ⟨pre', x, rfl, hx⟩
  · exact Or.inr ⟨[], c, rfl, hc⟩
  · exact Or.inr ⟨c :: pre', x, rfl, hx⟩

theorem LeftB_of_cons {p : Bool} {c : Char} {pre : List Char} (h : LeftB p (c :: pre)) :
    LeftB (isWord c) pre := by
  rcases h with ⟨h, -⟩ | ⟨pre'', y, h, hy⟩
  · cases h
  · cases pre'' with
    | nil =>
      cases h
      exact .inl ⟨rfl, hy⟩
    | cons z zs =>
      cases h
      exact .inr ⟨zs, y, rfl, hy⟩

/-- Soundness of the `\b([0-9A-Z]{5})\b` search: what it returns is a 5-character code that
stands in the string between word boundaries. -/
theorem searchWord_sound {s m : List Char} {p : Bool} (h : searchWord p s = some m) :
    ∃ pre post, s = pre ++ m ++ post ∧ m.length = 5 ∧ m.all isCode = true ∧ LeftB p pre ∧
      RightB post := by
  induction s generalizing p with
  | nil => simp [searchWord] at h
  | cons c cs ih =>
    unfold searchWord at h
    split at h
    · rename_i m' hm'
      cases h
      cases p with
      | true => simp at hm'
      | false =>
        simp only [Bool.false_eq_true, if_false] at hm'
        obtain ⟨post, hs, hl, hc, hr⟩ := wordMatchHere_eq_some.mp hm'
        exact ⟨[], post, by simpa using hs, hl, hc, Or.inl ⟨rfl, rfl⟩, hr⟩
    · obtain ⟨pre, post, hs, hl, hc, hL, hr⟩ := ih h
      exact ⟨c :: pre, post, by simp [hs], hl, hc, LeftB_cons hL, hr⟩

/-- A code standing at the very start is the one returned. -/
theorem searchWord_at_start {m post : List Char} (hl : m.length = 5) (hc : m.all isCode = true)
    (hr : RightB post) : searchWord false (m ++ post) = some m := by
  have hm : wordMatchHere (m ++ post) = some m :=
    wordMatchHere_eq_some.mpr ⟨post, rfl, hl, hc, hr⟩
  match m, hl with
  | a :: t, _ =>
    simp only [List.cons_append] at hm ⊢
    unfold searchWord
    simp [hm]

/-- Completeness: if a 5-character code stands anywhere between word boundaries, the search
finds a match (the leftmost one, which need not be this one). -/
theorem searchWord_complete {pre m post : List Char} {p : Bool} (hl : m.length = 5)
    (hc : m.all isCode = true) (hL : LeftB p pre) (hr : RightB post) :
    (searchWord p (pre ++ m ++ post)).isSome = true := by
  induction pre generalizing p with
  | nil =>
    rcases hL with ⟨-, rfl⟩ | ⟨pre', x, h, -⟩
    · simp [searchWord_at_start hl hc hr]
    · simp at h
  | cons x pre' ih =>
    simp only [List.cons_append]
    unfold searchWord
    split
    · simp
    · exact ih (LeftB_of_cons hL)

theorem bracketMatchHere_eq_some {s m : List Char} :
    bracketMatchHere s = some m ↔
      ∃ post, s = '[' :: m ++ ']' :: post ∧ m.length = 5 ∧ m.all isCode = true := by
  unfold bracketMatchHere
  constructor
  · intro h
    simp only at h
    split at h
    · rename_i hc
      cases h
      obtain ⟨h0, hl, hcode, h6⟩ := hc
      obtain ⟨cs, rfl⟩ := List.head?_eq_some_iff.mp h0
      obtain ⟨post, hpost⟩ := List.head?_eq_some_iff.mp h6
      refine ⟨post, ?_, hl, hcode⟩
      rw [List.drop_succ_cons] at hpost
      rw [List.drop_succ_cons, List.drop_zero, List.cons_append, ← hpost, List.take_append_drop]
    · cases h
  · rintro ⟨post, rfl, hl, hc⟩
    simp [List.take_left' hl, List.drop_left' hl, hl, hc]

theorem searchBracket_at_start {m post : List Char} (hl : m.length = 5)
    (hc : m.all isCode = true) : searchBracket ('[' :: m ++ ']' :: post) = some m := by
  have hm : bracketMatchHere ('[' :: m ++ ']' :: post) = some m :=
    bracketMatchHere_eq_some.mpr ⟨post, rfl, hl, hc⟩
  simp only [List.cons_append] at hm ⊢
  unfold searchBracket
  simp [hm]

/-! ## the SQLSTATE table -/

theorem sqlTable_40001 : sqlTable c40001 = .concurrency := by decide
theorem sqlTable_40P01 : sqlTable c40P01 = .concurrency := by decide
theorem sqlTable_HYT00 : sqlTable cHYT00 = .transient := by decide
theorem sqlTable_HYT01 : sqlTable cHYT01 = .transient := by decide
theorem sqlTable_08S01 : sqlTable c08S01 = .transient := by decide
theorem sqlTable_42000 : sqlTable c42000 = .permanent := by decide
theorem sqlTable_42P01 : sqlTable c42P01 = .permanent := by decide

/-- Justification of `opaqueStr`: the table looks at the first character first; any string that
does not start with `0`, `2`, `4` or `H` is UNKNOWN — in particular `str()` of bytes, lists,
tuples, dicts, sets, frozensets and plain objects (`b'…'`, `[…`, `(…`, `{…`, `frozenset(…`, `<…`),
as well as `"None"`, `"True"`, `"nan"`, `"inf"`, `"-inf"` and every negative number. -/
theorem sqlTable_of_head (c : Char) (rest : List Char)
    (h : c ≠ '0' ∧ c ≠ '2' ∧ c ≠ '4' ∧ c ≠ 'H') : sqlTable (c :: rest) = .unknown := by
  obtain ⟨h0, h2, h4, hH⟩ := h
  simp [sqlTable, c40001, c40P01, cHYT00, cHYT01, c08S01, c42000, c42P01, h0, h4, hH,
    Ne.symm h0, Ne.symm h2]

theorem sqlTable_opaque : sqlTable opaqueStr = .unknown := by decide

/-! ## the specification agrees with the model -/

theorem Spec.defaultRow_eq (z : Int) : Spec.defaultRow z = codeTable z := by
  unfold Spec.defaultRow Spec.statusRow codeTable; grind

theorem Spec.statusRow_http (z : Int) (k : EClass) (h : Spec.statusRow z = some k) :
    httpTable z = k := by
  unfold Spec.statusRow at h; unfold httpTable; grind

theorem Spec.numericCode_eq (e : PyExc) : Spec.numericCode e = (codeOf e).asInt := by
  unfold Spec.numericCode codeOf PyVal.or; split <;> rfl

/-- the documented precedence (markers, then the int code, then — with name heuristics — the name)
is the ladder of `_classify` -/
theorem Spec.classify_eq (u : Bool) (e : PyExc) :
    ((Spec.marker e).orElse fun _ => ((Spec.numericCode e).bind Spec.defaultRow).orElse fun _ =>
      if u then Spec.nameRow e.tname else none).getD .unknown = classify u e := by
  unfold classify
  rw [Spec.numericCode_eq, funext Spec.defaultRow_eq]
  show ((markerClass e).orElse fun _ => ((codeOf e).asInt.bind codeTable).orElse fun _ =>
      if u then nameClass e.tname else none).getD .unknown = _
  cases markerClass e <;> cases ((codeOf e).asInt.bind codeTable) <;>
    cases (if u then nameClass e.tname else none) <;> rfl

theorem Spec.dflt_eq (e : PyExc) : Spec.dflt e = default e := by
  rw [default, ← Spec.classify_eq true e, Spec.dflt, if_pos rfl]

theorem Spec.strict_eq (e : PyExc) : Spec.strict e = Redress.Classify.strict e := by
  rw [Redress.Classify.strict, ← Spec.classify_eq false e]
  unfold Spec.strict
  cases Spec.marker e <;> cases ((Spec.numericCode e).bind Spec.defaultRow) <;> rfl

theorem isPrefixOf_two_iff (a b : Char) (code : List Char) :
    [a, b].isPrefixOf code = true ↔ code.take 2 = [a, b] := by
  match code with
  | [] => simp
  | [x] => simp
  | x :: y :: rest =>
    simp only [List.isPrefixOf_cons_cons, Bool.and_eq_true, beq_iff_eq, List.isPrefixOf_nil_left,
      and_true, List.take_succ_cons, List.take_zero, List.cons.injEq]
    constructor <;> rintro ⟨rfl, rfl⟩ <;> exact ⟨rfl, rfl⟩

theorem Spec.sqlRow_sound (c : List Char) (k : EClass) (h : Spec.sqlRow c = some k) :
    sqlTable c = k := by
  unfold Spec.sqlRow at h
  unfold sqlTable
  have e1 : "40001".toList = c40001 := by decide
  have e2 : "40P01".toList = c40P01 := by decide
  have e3 : "HYT00".toList = cHYT00 := by decide
  have e4 : "HYT01".toList = cHYT01 := by decide
  have e5 : "08S01".toList = c08S01 := by decide
  have e6 : "42000".toList = c42000 := by decide
  have e7 : "42P01".toList = c42P01 := by decide
  have e8 : "08".toList = ['0', '8'] := by decide
  have e9 : "28".toList = ['2', '8'] := by decide
  rw [e1, e2, e3, e4, e5, e6, e7, e8, e9] at h
  simp only [isPrefixOf_two_iff]
  grind

theorem Spec.sqlCode_found (find : List Char → Option (List Char)) (e : PyExc) (c : List Char)
    (h : Spec.sqlCode find e = some c) : findSqlstate find e = .code c := by
  unfold Spec.sqlCode at h
  unfold findSqlstate
  split at h
  · split at h
    · cases h
      simp_all [PyVal.truthy, pyStr]
    · simp_all [PyVal.truthy]
  · split at h
    · cases h
    · simp_all

end Redress.Classify
