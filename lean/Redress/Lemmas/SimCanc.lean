/-
  Redress.Lemmas.SimCanc — an `asyncio.CancelledError` that leaves the retry loop was raised by a callback
  (it is in the log): the library never raises it itself and `_RetryState.last_exc` never holds it
  (C12, T4 for the policy entries; part of the C12 stack, hence the file name, but a unary property).
  `NC J amb x`: `x` keeps the invariant `J` of `_RetryState`, only adds to the log, and ends by raising
  CancelledError only if a callback raised it — or if `amb`, the exception an `except` handler was entered
  with, is one (`raise` re-raises it).  One lemma `foo_nc` per procedure, as in `EqvProcs.lean`, each for the
  most general invariant it keeps: any `J` if it never writes `_RetryState`; `JP P`, any property of the
  recorded cause and exception, if it does not record a failure; `JP PC` (= `JC`: the recorded exception is
  not a CancelledError) where the recorded exception is re-raised.  The general forms are what
  `SimFacts.lean` reads off as "leaves `_RetryState` / the recorded failure alone".
-/
import Redress.Lemmas.Eqv
import Redress.Lemmas.Hoare

namespace Redress
open Twin Retry

/-- some callback raised CancelledError -/
def HasC (t : List (Req × Ans)) : Prop := ∃ r d, (r, Ans.raise Exn.cancelled d) ∈ t

theorem HasC.mono {t t' : List (Req × Ans)} (h : HasC t) (hs : ∀ y ∈ t, y ∈ t') : HasC t' := by
  obtain ⟨r, d, hm⟩ := h
  exact ⟨r, d, hs _ hm⟩

/-- the recorded last exception is not a CancelledError -/
def JC (r : RState) : Prop := r.lastExc ≠ some .cancelled

/-- an invariant of `_RetryState` that looks only at what `record_failure` records: the cause and the
    exception; `JC` is `JP PC` -/
def JP (P : Option Cause → Option Exn → Prop) (r : RState) : Prop := P r.lastCause r.lastExc

abbrev PC : Option Cause → Option Exn → Prop := fun _ e => e ≠ some .cancelled

/-- `x` keeps the invariant `J` of `_RetryState`, only adds to the log, and raises CancelledError only if
    a callback did (or the exception `amb` it was handed is one) -/
structure NC (J : RState → Prop) (amb : Option Exn) (x : M α) : Prop where
  run : ∀ w, J w.rs → (∀ y ∈ w.trace, y ∈ (finalWorld (x w)).trace) ∧ J (finalWorld (x w)).rs ∧
    (∀ w', x w = .error .cancelled w' → HasC w'.trace ∨ amb = some .cancelled)

section
variable {J : RState → Prop} {amb : Option Exn}

theorem NC.pure (a : α) : NC J amb (pure a : M α) := ⟨fun _ hw => ⟨fun _ h => h, hw, fun _ h => by cases h⟩⟩

theorem NC.throw (e : Exn) (he : e ≠ .cancelled) : NC J amb (throw e : M α) :=
  ⟨fun _ hw => ⟨fun _ h => h, hw, fun _ h => by injection h with h1 _; exact absurd h1 he⟩⟩

theorem NC.rethrow (e : Exn) : NC J (some e) (MonadExcept.throw e : M α) :=
  ⟨fun _ hw => ⟨fun _ h => h, hw, fun _ h => by injection h with h1 _; exact Or.inr (by rw [h1])⟩⟩

theorem NC.bind {x : M α} {f : α → M β} (hx : NC J amb x) (hf : ∀ a, NC J amb (f a)) : NC J amb (x >>= f) := by
  refine ⟨fun w hw => ?_⟩
  obtain ⟨g1, j1, c1⟩ := hx.run w hw
  rw [bind_run]
  cases hxw : x w with
  | ok a w1 =>
    rw [hxw] at g1 j1
    obtain ⟨g2, j2, c2⟩ := (hf a).run w1 j1
    exact ⟨fun y hy => g2 y (g1 y hy), j2, c2⟩
  | error e w1 =>
    rw [hxw] at g1 j1
    refine ⟨g1, j1, fun w' h => ?_⟩
    simp only at h
    injection h with h1 h2
    subst h1 h2
    exact c1 w1 hxw

theorem NC.tryC {x : M α} {h : Exn → M α} (hx : NC J amb x) (hh : ∀ e, NC J (some e) (h e)) :
    NC J amb (tryCatch x h : M α) := by
  refine ⟨fun w hw => ?_⟩
  obtain ⟨g1, j1, c1⟩ := hx.run w hw
  rw [tryCatch_run]
  cases hxw : x w with
  | ok a w1 =>
    rw [hxw] at g1 j1
    exact ⟨g1, j1, fun w' h => by cases h⟩
  | error e w1 =>
    rw [hxw] at g1 j1
    obtain ⟨g2, j2, c2⟩ := (hh e).run w1 j1
    refine ⟨fun y hy => g2 y (g1 y hy), j2, fun w' hw' => ?_⟩
    simp only at hw'
    rcases c2 w' hw' with hc | hc
    · exact Or.inl hc
    · injection hc with hc
      subst hc
      rcases c1 w1 hxw with h1 | h1
      · left
        have : finalWorld (h Exn.cancelled w1) = w' := by rw [hw']; rfl
        rw [← this]
        exact h1.mono g2
      · exact Or.inr h1

theorem NC.ite {p : Prop} [Decidable p] {x y : M α} (hx : NC J amb x) (hy : NC J amb y) :
    NC J amb (if p then x else y) := by
  split <;> assumption

theorem NC.ask (r : Req) : NC J amb (ask r) := by
  refine ⟨fun w hw => ?_⟩
  cases hwa : w.answers with
  | nil =>
    rw [ask_nil r w hwa]
    exact ⟨fun _ h => List.mem_cons_of_mem _ h, hw, fun _ h => by cases h⟩
  | cons a rest =>
    rw [ask_cons r w a rest hwa]
    cases a with
    | raise e d =>
      refine ⟨fun _ h => List.mem_cons_of_mem _ h, hw, fun w' h => ?_⟩
      simp only [askStep] at h
      injection h with h1 h2
      subst h1 h2
      exact Or.inl ⟨r, d, List.mem_cons_self⟩
    | _ => exact ⟨fun _ h => List.mem_cons_of_mem _ h, hw, fun _ h => by cases h⟩

theorem NC.askHook (r : Req) : NC J amb (askHook r) := by
  refine ⟨fun w hw => ?_⟩
  have h := (NC.ask (J := J) (amb := amb) r).run (presil w)
  rw [presil_cases (fun w' => w'.trace = w.trace) w (fun _ => rfl),
    presil_cases (fun w' => w'.rs = w.rs) w (fun _ => rfl), ← askHook_eq] at h
  exact h hw

theorem NC.modify (f : World → World)
    (hf : ∀ w, (∀ y ∈ w.trace, y ∈ (f w).trace) ∧ (J w.rs → J (f w).rs)) :
    NC J amb (_root_.modify f : M PUnit) :=
  ⟨fun w hw => ⟨(hf w).1, (hf w).2 hw, fun _ h => by cases h⟩⟩

theorem NC.modifyRS (f : RState → RState) (hf : ∀ r, J r → J (f r)) : NC J amb (modifyRS f) :=
  NC.modify _ (fun _ => ⟨fun _ h => h, hf _⟩)

theorem NC.getThen (k : World → M α) (hk : ∀ w, NC J amb (k w)) : NC J amb (get >>= k) := by
  refine ⟨fun w hw => ?_⟩
  rw [bind_run, get_run]
  exact (hk w).run w hw

/-- `do let w ← get; set (g w); k w` -/
theorem NC.getSetThen (g : World → World) (k : World → M α)
    (hg : ∀ w, (∀ y ∈ w.trace, y ∈ (g w).trace) ∧ (J w.rs → J (g w).rs)) (hk : ∀ w, NC J amb (k w)) :
    NC J amb (get >>= fun w => (set (g w) : M PUnit) >>= fun _ => k w) := by
  refine ⟨fun w hw => ?_⟩
  simp only [bind_run, get_run, set_run]
  obtain ⟨g1, j1, c1⟩ := (hk w).run (g w) ((hg w).2 hw)
  exact ⟨fun y hy => g1 y ((hg w).1 y hy), j1, c1⟩

/-- a procedure that only reads -/
theorem NC.reader {x : M α} (hx : ∀ w, ∃ a, x w = .ok a w) : NC J amb x := by
  refine ⟨fun w hw => ?_⟩
  obtain ⟨a, h⟩ := hx w
  rw [h]
  exact ⟨fun _ h => h, hw, fun _ h => by cases h⟩

theorem swallow_nc (e : Exn) : NC J (some e) (swallowException e) := by
  unfold swallowException
  split
  · exact NC.pure _
  · exact NC.rethrow _

end

/-- structural steps of an `NC` proof; `ls` are the lemmas for the procedures called -/
syntax "nc" "[" ident,* "]" : tactic
macro_rules
  | `(tactic| nc [$ls,*]) => do
    let alts ← ls.getElems.mapM fun l => `(tacticSeq| with_reducible apply $l)
    `(tactic| repeat (first
        | (intro _)
        | assumption
        $[| $alts]*
        | with_reducible apply NC.bind
        | with_reducible apply NC.tryC
        | with_reducible apply NC.ite
        | with_reducible apply NC.getThen
        | with_reducible exact NC.pure _
        | (with_reducible apply NC.throw) <;> (intro h; exact Exn.noConfusion h)
        | with_reducible exact NC.rethrow _
        | with_reducible exact NC.ask _
        | with_reducible exact NC.askHook _
        | (with_reducible apply NC.modify) <;> (intro _; exact ⟨fun _ h => h, fun h => h⟩)
        | (with_reducible apply NC.modifyRS) <;> (intro _ h; exact h)
        | split))

section
variable {J : RState → Prop} {amb : Option Exn}

theorem callClassifier_nc (e : Exn) : NC J amb (callClassifier e) := by
  unfold callClassifier
  nc []

theorem invokeOp_nc (a : Nat) : NC J amb (invokeOp a) := by
  unfold invokeOp
  refine NC.bind (NC.modify _ (fun _ => ⟨fun _ h => h, fun h => h⟩)) (fun _ => ?_)
  apply NC.getThen
  intro w
  nc []

variable {P : Option Cause → Option Exn → Prop}

theorem getRS_nc : NC J amb getRS := NC.reader (fun _ => ⟨_, rfl⟩)

theorem getAS_nc : NC J amb getAS := NC.reader (fun _ => ⟨_, rfl⟩)

theorem getNow_nc : NC JC amb getNow := NC.reader (fun _ => ⟨_, rfl⟩)

theorem elapsed_nc : NC J amb elapsed := NC.reader (fun _ => ⟨_, rfl⟩)

theorem modifyAS_nc (f : AState → AState) : NC J amb (modifyAS f) :=
  NC.modify _ (fun _ => ⟨fun _ h => h, fun h => h⟩)

theorem setStop_nc (s : StopReason) : NC (JP P) amb (setStop s) := NC.modifyRS _ (fun _ h => h)

theorem recordTimeline_nc (ev : Event) (a s : Nat) (t : Tags) : NC J amb (recordTimeline ev a s t) :=
  NC.modify _ (fun _ => ⟨fun _ h => h, fun h => h⟩)

/-! ### state.py -/

theorem askMetric_nc (ev : Event) (a s : Nat) (t : Tags) : NC J amb (askMetric ev a s t) := by
  unfold askMetric
  nc []

theorem askLog_nc (ev : Event) (a s : Nat) (t : Tags) (ra : Option Int) : NC J amb (askLog ev a s t ra) := by
  unfold askLog
  nc []

theorem metricHook_nc (cfg : Cfg) (tl : Bool) (ev : Event) (a s : Nat) (t : Tags) :
    NC J amb (metricHook cfg tl ev a s t) := by
  unfold metricHook
  nc [recordTimeline_nc, askMetric_nc]

theorem emit_nc (cfg : Cfg) (tl : Bool) (ev : Event) (a s : Nat) (k : Option EClass) (e : Option Exn)
    (st : Option StopReason) (c : Option Cause) (cl : Option Classification) :
    NC J amb (emit cfg tl ev a s k e st c cl) := by
  unfold emit
  nc [metricHook_nc, swallow_nc, askLog_nc]

theorem checkAbort_nc (cfg : Cfg) (tl : Bool) (a : Nat) : NC (JP P) amb (checkAbort cfg tl a) := by
  unfold checkAbort
  nc [setStop_nc, emit_nc]

theorem retryRecordFailure_nc (c : Classification) (cause : Cause) (e : Option Exn) (r : Option Nat)
    (he : e ≠ some .cancelled) : NC (JP PC) amb (Retry.recordFailure c cause e r) := by
  refine NC.modifyRS _ (fun _ _ => ?_)
  show (if cause = .exception then e else none) ≠ some .cancelled
  split
  · exact he
  · intro h; cases h

theorem recordStrategySuccess_nc (cfg : Cfg) : NC J amb (recordStrategySuccess cfg) := by
  unfold recordStrategySuccess
  nc [getRS_nc]

theorem callStrategy_nc (key : SKey) (kind : SKind) (ctx : BackoffCtx)
    : NC J amb (callStrategy key kind ctx) := by
  unfold callStrategy
  nc []

theorem stratRecordFailure_nc (cfg : Cfg) (key : SKey) (k : EClass)
    : NC J amb (stratRecordFailure cfg key k) := by
  unfold stratRecordFailure
  nc []

theorem budgetConsume_nc (cfg : Cfg) : NC J amb (budgetConsume cfg) := by
  unfold budgetConsume
  split
  · exact NC.pure _
  · refine ⟨fun w hw => ?_⟩
    simp only [bind_run, get_run, set_run, pure_run]
    exact ⟨fun _ h => List.mem_cons_of_mem _ h, hw, fun _ h => by cases h⟩

theorem stopWith_nc (cfg : Cfg) (tl : Bool) (s : StopReason) (ev : Event) (a : Nat) (k : EClass)
    (e : Option Exn) (c : Cause) : NC (JP P) amb (stopWith cfg tl s ev a k e c) := by
  unfold stopWith
  nc [setStop_nc, emit_nc]

theorem grantRetry_nc (cfg : Cfg) (tl : Bool) (c : Classification) (a : Nat) (cause : Cause)
    (e : Option Exn) (key : SKey) (kind : SKind) (rem : Nat) :
    NC (JP P) amb (grantRetry cfg tl c a cause e key kind rem) := by
  unfold grantRetry
  nc [getRS_nc, callStrategy_nc, budgetConsume_nc, emit_nc, stopWith_nc]

theorem handleFailure2_nc (cfg : Cfg) (tl : Bool) (c : Classification) (a : Nat) (cause : Cause)
    (e : Option Exn) : NC (JP P) amb (handleFailure2 cfg tl c a cause e) := by
  unfold handleFailure2
  nc [elapsed_nc, stopWith_nc, stratRecordFailure_nc, grantRetry_nc]

theorem handleUnknown_nc (cfg : Cfg) (tl : Bool) (c : Classification) (a : Nat) (cause : Cause)
    (e : Option Exn) : NC (JP P) amb (handleUnknown cfg tl c a cause e) := by
  unfold handleUnknown
  nc [getRS_nc, stopWith_nc, handleFailure2_nc]

theorem handleFailure1_nc (cfg : Cfg) (tl : Bool) (c : Classification) (a : Nat) (cause : Cause)
    (e : Option Exn) : NC (JP P) amb (handleFailure1 cfg tl c a cause e) := by
  unfold handleFailure1
  nc [getRS_nc, stopWith_nc, handleUnknown_nc, handleFailure2_nc]

theorem handleFailure_nc (cfg : Cfg) (tl : Bool) (c : Classification) (a : Nat) (cause : Cause)
    (e : Option Exn) (r : Option Nat) (he : e ≠ some .cancelled) :
    NC (JP PC) amb (handleFailure cfg tl c a cause e r) := by
  unfold handleFailure
  have h2 := retryRecordFailure_nc (amb := amb) c cause e r he
  nc [h2, handleFailure1_nc]

theorem handleException_nc (cfg : Cfg) (tl : Bool) (e : Exn) (a : Nat) (he : e ≠ .cancelled) :
    NC (JP PC) amb (handleException cfg tl e a) := by
  unfold handleException
  have h2 : ∀ c, NC (JP PC) amb (handleFailure cfg tl c a .exception (some e) none) :=
    fun c => handleFailure_nc cfg tl c a .exception (some e) none (fun h => he (by injection h))
  nc [callClassifier_nc, h2]

/-! ### retry_helpers.py -/

theorem buildOutcome_nc (ok : Bool) (value : Option Nat) (n : Nat) (ns : Option Nat) :
    NC J amb (buildOutcome ok value n ns) := by
  unfold buildOutcome
  nc [getRS_nc, elapsed_nc]

theorem emitAbortedOnce_nc (cfg : Cfg) (tl : Bool) (a : Nat) : NC (JP P) amb (emitAbortedOnce cfg tl a) := by
  unfold emitAbortedOnce
  nc [getRS_nc, setStop_nc, emit_nc]

theorem abortOutcome_nc (cfg : Cfg) (tl : Bool) (a : Nat) : NC (JP P) amb (abortOutcome cfg tl a) := by
  unfold abortOutcome
  nc [emitAbortedOnce_nc, buildOutcome_nc]

theorem callAttemptStart_nc (cfg : Cfg) (a : Nat) : NC J amb (callAttemptStart cfg a) := by
  unfold callAttemptStart
  nc [elapsed_nc]

theorem callAttemptEnd_nc (cfg : Cfg) (a : Nat) (cls : Option Classification) (e : Option Exn)
    (r : Option Nat) (d : AttemptDecision) (st : Option StopReason) (c : Option Cause) (sl : Option Nat) :
    NC J amb (callAttemptEnd cfg a cls e r d st c sl) := by
  unfold callAttemptEnd
  nc [elapsed_nc]

theorem callAttemptEndFromOutcome_nc (cfg : Cfg) (a : Nat) (o : AOutcome) :
    NC J amb (callAttemptEndFromOutcome cfg a o) := by
  unfold callAttemptEndFromOutcome
  exact callAttemptEnd_nc _ _ _ _ _ _ _ _ _

theorem finalizeAttempt_nc (cfg : Cfg) (tl : Bool) (a : Nat) (d : Decision) (act : Option SleepDecision)
    (cls : Option Classification) (e : Option Exn) (r : Option Nat) (c : Option Cause) :
    NC (JP P) amb (finalizeAttempt cfg tl a d act cls e r c) := by
  unfold finalizeAttempt
  nc [getRS_nc, elapsed_nc, setStop_nc, emit_nc]

theorem handleSleepDecision_nc (cfg : Cfg) (tl : Bool) (act : SleepDecision) (a s : Nat) :
    NC (JP P) amb (handleSleepDecision cfg tl act a s) := by
  unfold handleSleepDecision
  nc [getRS_nc, setStop_nc, emit_nc, emitAbortedOnce_nc]

theorem callBeforeSleep_nc (cfg : Cfg) (ctx : BackoffCtx) (s : Nat) : NC J amb (callBeforeSleep cfg ctx s) := by
  unfold callBeforeSleep
  nc [swallow_nc]

theorem callSleeper_nc (cfg : Cfg) (s : Nat) : NC J amb (callSleeper cfg s) := by
  unfold callSleeper
  nc []

theorem callSleepHandler_nc (lvl : Lvl) (ctx : BackoffCtx) (s : Nat)
    : NC J amb (callSleepHandler lvl ctx s) := by
  unfold callSleepHandler
  nc []

theorem sleepAction_nc (cfg : Cfg) (tl : Bool) (a s : Nat) (ctx : BackoffCtx) :
    NC (JP P) amb (sleepAction cfg tl a s ctx) := by
  unfold sleepAction
  nc [callBeforeSleep_nc, callSleeper_nc, callSleepHandler_nc, handleSleepDecision_nc]

theorem failureOutcome_nc (cfg : Cfg) (tl : Bool) (a : Nat) (d : Decision) (cls : Option Classification)
    (e : Option Exn) (r : Option Nat) (c : Option Cause)
    : NC (JP P) amb (failureOutcome cfg tl a d cls e r c) := by
  unfold failureOutcome
  nc [finalizeAttempt_nc, sleepAction_nc]

/-! ### runner/logic.py, sync_core.py -/

theorem shouldClassifyResult_nc (cfg : Cfg) (v : Nat) : NC J amb (shouldClassifyResult cfg v) := by
  unfold shouldClassifyResult
  nc []

theorem handleSuccessAttemptEnd_nc (cfg : Cfg) (tl : Bool) (a v : Nat) :
    NC (JP P) amb (handleSuccessAttemptEnd cfg tl a v) := by
  unfold handleSuccessAttemptEnd
  nc [recordStrategySuccess_nc, emit_nc, callAttemptEnd_nc]

theorem handleAbortAttemptEnd_nc (cfg : Cfg) (a : Nat) (e : Exn)
    : NC J amb (handleAbortAttemptEnd cfg a e) := by
  unfold handleAbortAttemptEnd
  nc [getAS_nc, callAttemptEnd_nc, modifyAS_nc]

theorem emitMaxAttemptsExceeded_nc (cfg : Cfg) (tl : Bool)
    : NC (JP P) amb (emitMaxAttemptsExceeded cfg tl) := by
  unfold emitMaxAttemptsExceeded
  nc [getRS_nc, emit_nc, setStop_nc]

theorem raiseExhaustedCall_nc (cfg : Cfg) : NC (JP PC) amb (raiseExhaustedCall cfg) := by
  unfold raiseExhaustedCall
  refine NC.bind (emitMaxAttemptsExceeded_nc cfg false) (fun _ => ?_)
  refine ⟨fun w hw => ?_⟩
  rw [bind_run, getRS_run]
  simp only
  split
  · exact ⟨fun _ h => h, hw, fun w' h => by cases h⟩
  · cases hle : w.rs.lastExc with
    | none => exact ⟨fun _ h => h, hw, fun w' h => by cases h⟩
    | some e =>
      refine ⟨fun _ h => h, hw, fun w' h => ?_⟩
      injection h with h1 _
      subst h1
      exact absurd hle hw

theorem deliverCall_nc (act : Action) (orig : Option Exn) (fb : ExhaustedFields)
    (ho : orig ≠ some .cancelled) :
    NC J amb (deliverCall act orig fb) := by
  unfold deliverCall
  cases act with
  | continue_ => exact NC.pure _
  | abort => exact NC.throw _ (fun h => by cases h)
  | scheduled f => exact NC.throw _ (fun h => by cases h)
  | raise =>
    cases orig with
    | none => exact NC.throw _ (fun h => by cases h)
    | some e => exact NC.throw _ (fun h => ho (by rw [h]))

theorem callExceptionPath_nc (cfg : Cfg) (a : Nat) (e : Exn) (he : e ≠ .cancelled) :
    NC (JP PC) amb (callExceptionPath cfg a e) := by
  unfold callExceptionPath
  have h1 := handleException_nc (amb := amb) cfg false e a he
  have h2 : ∀ act fb, NC (JP PC) amb (deliverCall act (some e) fb) :=
    fun act fb => deliverCall_nc act (some e) fb (fun h => he (by injection h))
  nc [modifyAS_nc, checkAbort_nc, h1, getRS_nc, failureOutcome_nc,
    callAttemptEndFromOutcome_nc, h2]

theorem callOpHandler_nc (cfg : Cfg) (a : Nat) (e : Exn) : NC (JP PC) (some e) (callOpHandler cfg a e) := by
  unfold callOpHandler
  by_cases he : e = .cancelled
  · subst he
    simp only [Exn.isAbort, Bool.false_eq_true, if_false, if_true]
    exact NC.rethrow _
  · have h1 := callExceptionPath_nc (amb := some e) cfg a e he
    nc [handleAbortAttemptEnd_nc, emitAbortedOnce_nc, h1]

theorem callResultFailure_nc (cfg : Cfg) (a v : Nat) (c : Classification) :
    NC (JP PC) amb (callResultFailure cfg a v c) := by
  unfold callResultFailure
  have h1 := handleFailure_nc (amb := amb) cfg false c a .result none (some v) (fun h => by cases h)
  have h2 : ∀ act fb, NC (JP PC) amb (deliverCall act none fb) :=
    fun act fb => deliverCall_nc act none fb (fun h => by cases h)
  nc [modifyAS_nc, checkAbort_nc, h1, getRS_nc, failureOutcome_nc,
    callAttemptEndFromOutcome_nc, h2]

theorem callResultPath_nc (cfg : Cfg) (a v : Nat) : NC (JP PC) amb (callResultPath cfg a v) := by
  unfold callResultPath
  nc [shouldClassifyResult_nc, handleSuccessAttemptEnd_nc, callResultFailure_nc]

theorem callAttempt_nc (cfg : Cfg) (a : Nat) : NC (JP PC) amb (callAttempt cfg a) := by
  unfold callAttempt
  nc [checkAbort_nc, callAttemptStart_nc, modifyAS_nc, invokeOp_nc, callOpHandler_nc, callResultPath_nc]

theorem callLoop_nc (cfg : Cfg)
    : ∀ (fuel a : Nat), NC (JP PC) amb (callLoop cfg fuel a)
  | 0, a => by unfold callLoop; exact raiseExhaustedCall_nc cfg
  | fuel + 1, a => by
    unfold callLoop
    have ih := callLoop_nc cfg fuel
    nc [callAttempt_nc, ih]

/-! #### sync_core.py: `_run_sync_execute` -/

theorem deliverExecute_nc (cfg : Cfg) (tl : Bool) (act : Action) (o : AOutcome) :
    NC (JP P) amb (deliverExecute cfg tl act o) := by
  unfold deliverExecute
  apply NC.getThen
  · intro w
    nc [abortOutcome_nc, buildOutcome_nc]

theorem execResultFailure_nc (cfg : Cfg) (tl : Bool) (a v : Nat) (c : Classification) :
    NC (JP PC) amb (execResultFailure cfg tl a v c) := by
  unfold execResultFailure
  have h1 := handleFailure_nc (amb := amb) cfg tl c a .result none (some v) (fun h => by cases h)
  nc [modifyAS_nc, checkAbort_nc, h1, getRS_nc, failureOutcome_nc,
    callAttemptEndFromOutcome_nc, deliverExecute_nc]

theorem execPre_nc (cfg : Cfg) (tl : Bool) (a : Nat) : NC (JP P) amb (execPre cfg tl a) := by
  unfold execPre
  nc [checkAbort_nc, callAttemptStart_nc, modifyAS_nc, invokeOp_nc]

theorem execResultPath_nc (cfg : Cfg) (tl : Bool) (a v : Nat) : NC (JP PC) amb (execResultPath cfg tl a v) := by
  unfold execResultPath
  nc [shouldClassifyResult_nc, handleSuccessAttemptEnd_nc, buildOutcome_nc, execResultFailure_nc]

theorem execAbortExit_nc (cfg : Cfg) (tl : Bool) (a : Nat) (e : Exn)
    : NC (JP P) amb (execAbortExit cfg tl a e) := by
  unfold execAbortExit
  refine NC.bind (handleAbortAttemptEnd_nc _ _ _) (fun _ => ?_)
  apply NC.getThen
  · intro w
    nc [abortOutcome_nc]

theorem abortToTrue_nc (e : Exn) : NC J (some e) (abortToTrue e) := by
  unfold abortToTrue
  nc []

theorem checkAbortCaught_nc (cfg : Cfg) (tl : Bool) (a : Nat) : NC (JP P) amb (checkAbortCaught cfg tl a) := by
  unfold checkAbortCaught
  nc [checkAbort_nc, abortToTrue_nc]

theorem execExceptionPath3_nc (cfg : Cfg) (tl : Bool) (a : Nat) (e : Exn) (d : Decision) :
    NC (JP P) amb (execExceptionPath3 cfg tl a e d) := by
  unfold execExceptionPath3
  nc [getRS_nc, failureOutcome_nc, callAttemptEndFromOutcome_nc, modifyAS_nc, deliverExecute_nc]

theorem execExceptionPath2_nc (cfg : Cfg) (tl : Bool) (a : Nat) (e : Exn) (he : e ≠ .cancelled) :
    NC (JP PC) amb (execExceptionPath2 cfg tl a e) := by
  unfold execExceptionPath2
  have h1 := handleException_nc (amb := amb) cfg tl e a he
  nc [h1, getRS_nc, modifyAS_nc, execExceptionPath3_nc, checkAbortCaught_nc,
    execAbortExit_nc]

theorem execExceptionPath_nc (cfg : Cfg) (tl : Bool) (a : Nat) (e : Exn) (he : e ≠ .cancelled) :
    NC (JP PC) amb (execExceptionPath cfg tl a e) := by
  unfold execExceptionPath
  have h1 := execExceptionPath2_nc (amb := amb) cfg tl a e he
  nc [modifyAS_nc, checkAbortCaught_nc, execAbortExit_nc, h1]

theorem execHandler_nc (cfg : Cfg) (tl : Bool) (a : Nat) (e : Exn)
    : NC (JP PC) (some e) (execHandler cfg tl a e) := by
  unfold execHandler
  by_cases he : e = .cancelled
  · subst he
    simp only [Exn.isAbort, Bool.false_eq_true, if_false, if_true]
    exact NC.rethrow _
  · have h1 := execExceptionPath_nc (amb := some e) cfg tl a e he
    nc [execAbortExit_nc, h1]

theorem execReturnedHandler_nc (cfg : Cfg) (tl : Bool) (a : Nat) (e : Exn) :
    NC (JP P) (some e) (execReturnedHandler cfg tl a e) := by
  unfold execReturnedHandler
  nc [execAbortExit_nc]

theorem execAttempt_nc (cfg : Cfg) (tl : Bool) (a : Nat) : NC (JP PC) amb (execAttempt cfg tl a) := by
  unfold execAttempt
  nc [execPre_nc, execHandler_nc, execResultPath_nc, execReturnedHandler_nc]

theorem buildExhaustedOutcome_nc (cfg : Cfg) (tl : Bool) : NC (JP P) amb (buildExhaustedOutcome cfg tl) := by
  unfold buildExhaustedOutcome
  refine NC.bind (emitMaxAttemptsExceeded_nc _ _) (fun _ => ?_)
  apply NC.getThen
  · intro w
    exact buildOutcome_nc _ _ _ _

theorem execLoop_nc (cfg : Cfg) (tl : Bool)
    : ∀ (fuel a : Nat), NC (JP PC) amb (execLoop cfg tl fuel a)
  | 0, a => by unfold execLoop; exact buildExhaustedOutcome_nc cfg tl
  | fuel + 1, a => by
    unfold execLoop
    have ih := execLoop_nc cfg tl fuel
    nc [execAttempt_nc, ih]

/-! ### `runCall` / `runExecute`: no assumption on the `_RetryState` the world starts with -/

/-- the trivial invariant: `runCall` / `runExecute` reset `_RetryState` first, the policy layer never reads it -/
def JT (_ : RState) : Prop := True

theorem runCall_nc (cfg : Cfg) : NC JT amb (runCall cfg) := by
  refine ⟨fun w _ => ?_⟩
  unfold runCall initState
  rw [bind_run, modify_run]
  simp only
  obtain ⟨g, _, c⟩ := (callLoop_nc (amb := amb) cfg cfg.maxAttempts 1).run
    { w with rs := { start := w.now }, as := {}, attempts := 0 } (fun h => by cases h)
  exact ⟨g, trivial, c⟩

theorem runExecute_nc (cfg : Cfg) : NC JT amb (runExecute cfg) := by
  refine ⟨fun w _ => ?_⟩
  unfold runExecute initState
  rw [bind_run, modify_run]
  simp only
  rw [bind_run, modify_run]
  simp only
  obtain ⟨g, _, c⟩ := (execLoop_nc (amb := amb) cfg cfg.timeline cfg.maxAttempts 1).run
    { w with tlStart := w.now, timeline := [], rs := { start := w.now }, as := {}, attempts := 0 }
    (fun h => by cases h)
  exact ⟨g, trivial, c⟩

/-! ### policy.py -/
open Policy

theorem emitBreakerEvent_nc (cfg : Cfg) (ev : Option Event) (st : CState) (k : Option EClass) :
    NC J amb (emitBreakerEvent cfg ev st k) := by
  unfold emitBreakerEvent
  split
  · exact NC.pure _
  · dsimp only
    unfold askMetric askLog
    nc [swallow_nc]

theorem breakerAllow_nc (bc : Breaker.Cfg) : NC JT amb (breakerAllow bc) :=
  ⟨fun w hw => ⟨fun _ h => List.mem_cons_of_mem _ h, hw, fun _ h => by cases h⟩⟩

theorem checkBreaker_nc (cfg : Cfg) : NC JT amb (checkBreaker cfg) := by
  unfold checkBreaker
  nc [breakerAllow_nc, emitBreakerEvent_nc]

theorem recordSuccess_nc (cfg : Cfg) : NC JT amb (Policy.recordSuccess cfg) := by
  unfold Policy.recordSuccess
  split
  · exact NC.pure _
  · exact NC.getSetThen (fun w => _) (fun w => _) (fun _ => ⟨fun _ h => List.mem_cons_of_mem _ h, fun h => h⟩)
      (fun _ => emitBreakerEvent_nc ..)

theorem recordCancel_nc (cfg : Cfg) : NC JT amb (Policy.recordCancel cfg) := by
  unfold Policy.recordCancel
  split
  · exact NC.pure _
  · exact NC.modify _ (fun _ => ⟨fun _ h => List.mem_cons_of_mem _ h, fun h => h⟩)

theorem recordFailure_nc (cfg : Cfg) (k : EClass) : NC JT amb (Policy.recordFailure cfg k) := by
  unfold Policy.recordFailure
  split
  · exact NC.pure _
  · exact NC.getSetThen (fun w => _) (fun w => _) (fun _ => ⟨fun _ h => List.mem_cons_of_mem _ h, fun h => h⟩)
      (fun _ => emitBreakerEvent_nc ..)

theorem ensureSettled_nc (cfg : Cfg) : NC JT amb (ensureSettled cfg) := by
  unfold ensureSettled
  apply NC.getThen
  intro w
  nc [recordCancel_nc]

theorem classifyForBreaker_nc (cfg : Cfg) (e : Exn) : NC JT amb (classifyForBreaker cfg e) := by
  unfold classifyForBreaker
  nc [callClassifier_nc]

theorem checkAbortNoRetry_nc (cfg : Cfg) : NC JT amb (checkAbortNoRetry cfg) := by
  unfold checkAbortNoRetry
  nc [recordCancel_nc]

theorem xElapsed_nc : NC JT amb xElapsed := NC.reader (fun _ => ⟨_, rfl⟩)

theorem noRetryStartHook_nc (cfg : Cfg) : NC JT amb (noRetryStartHook cfg) := by
  unfold noRetryStartHook
  nc [xElapsed_nc]

theorem noRetryEndHook_nc (cfg : Cfg) (e : Option Exn) (r : Option Nat) (d : AttemptDecision)
    (st : Option StopReason) (c : Option Cause) : NC JT amb (noRetryEndHook cfg e r d st c) := by
  unfold noRetryEndHook
  nc [xElapsed_nc]

theorem callWithoutRetry_nc (cfg : Cfg) : NC JT amb (callWithoutRetry cfg) := by
  unfold callWithoutRetry
  nc [noRetryStartHook_nc, invokeOp_nc, noRetryEndHook_nc]

theorem handleAbortCall_nc (cfg : Cfg) (e : Exn) : NC JT amb (handleAbortCall cfg e) := by
  unfold handleAbortCall
  nc [noRetryEndHook_nc, recordCancel_nc]

theorem handleExhaustedCall_nc (cfg : Cfg) (e : Exn) : NC JT amb (handleExhaustedCall cfg e) := by
  unfold handleExhaustedCall
  exact recordFailure_nc _ _

theorem handleExceptionCall_nc (cfg : Cfg) (e : Exn) (b : Bool) : NC JT amb (handleExceptionCall cfg e b) := by
  unfold handleExceptionCall
  nc [noRetryEndHook_nc, classifyForBreaker_nc, recordFailure_nc]

theorem callLadder_nc (cfg : Cfg) (e : Exn) : NC JT (some e) (callLadder cfg e) := by
  unfold callLadder
  nc [recordCancel_nc, handleAbortCall_nc, handleExhaustedCall_nc, handleExceptionCall_nc]

theorem callAdmitted_nc (cfg : Cfg) : NC JT amb (callAdmitted cfg) := by
  unfold callAdmitted
  nc [checkBreaker_nc, checkAbortNoRetry_nc, runCall_nc, callWithoutRetry_nc, recordSuccess_nc,
    callLadder_nc]

theorem initCtx_nc : NC JT amb initCtx := NC.modify _ (fun _ => ⟨fun _ h => h, fun h => h⟩)

theorem withFinally_nc {x : M α} {fin : M Unit} (hx : NC JT amb x) (hf : ∀ amb', NC JT amb' fin) :
    NC JT amb (withFinally x fin) := by
  unfold withFinally
  have h1 := hf amb
  have h2 : ∀ e, NC JT (some e) (do fin; throw e : M α) := fun e => NC.bind (hf (some e)) (fun _ => NC.rethrow e)
  nc [hx, h1, h2]

theorem call_nc (cfg : Cfg) : NC JT amb (Policy.call cfg) := by
  unfold Policy.call
  exact NC.bind initCtx_nc (fun _ => withFinally_nc (callAdmitted_nc cfg) (fun _ => ensureSettled_nc cfg))

theorem policyOutcome_nc (ok : Bool) (value : Option Nat) (stop : Option StopReason) (n : Nat)
    (lc : Option EClass) (le : Option String) (c : Option Cause) :
    NC JT amb (policyOutcome ok value stop n lc le c) := by
  unfold policyOutcome
  nc [xElapsed_nc]

theorem executeLadder_nc (cfg : Cfg) (e : Exn) : NC JT (some e) (executeLadder cfg e) := by
  unfold executeLadder
  nc [handleExhaustedCall_nc, recordCancel_nc, handleExceptionCall_nc]

theorem executeWithRetry_nc (cfg : Cfg) : NC JT amb (executeWithRetry cfg) := by
  unfold executeWithRetry
  nc [runExecute_nc, executeLadder_nc, recordSuccess_nc, recordCancel_nc, recordFailure_nc]

theorem noRetryLadder_nc (cfg : Cfg) (b : Bool) (e : Exn) : NC JT (some e) (noRetryLadder cfg b e) := by
  unfold noRetryLadder
  nc [recordCancel_nc, noRetryEndHook_nc, policyOutcome_nc, recordFailure_nc]

theorem executeWithoutRetry_nc (cfg : Cfg) : NC JT amb (executeWithoutRetry cfg) := by
  unfold executeWithoutRetry
  nc [noRetryStartHook_nc, invokeOp_nc, noRetryLadder_nc, recordSuccess_nc, noRetryEndHook_nc,
    policyOutcome_nc]

theorem executeAdmitted2_nc (cfg : Cfg) : NC JT amb (executeAdmitted2 cfg) := by
  unfold executeAdmitted2
  nc [checkAbortNoRetry_nc, policyOutcome_nc, executeWithRetry_nc, executeWithoutRetry_nc]

theorem executeAdmitted_nc (cfg : Cfg) : NC JT amb (executeAdmitted cfg) := by
  unfold executeAdmitted
  nc [executeAdmitted2_nc, breakerAllow_nc, emitBreakerEvent_nc, policyOutcome_nc]

theorem execute_nc (cfg : Cfg) : NC JT amb (Policy.execute cfg) := by
  unfold Policy.execute
  exact NC.bind initCtx_nc (fun _ => withFinally_nc (executeAdmitted_nc cfg) (fun _ => ensureSettled_nc cfg))

end

end Redress
