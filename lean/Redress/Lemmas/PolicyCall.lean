/-
  Redress.Lemmas.PolicyCall — what `Policy.call` / `Policy.execute` do with the breaker once it has admitted the
  call: which `record_*` is made on which path, proved once for an abstract reading of "nothing recorded yet" /
  "`r` recorded" / "about to end with `res`" (`Records`).  C08, C09 and C09's at-most-once half supply the readings.

  Lemmas/PolicyFrame.lean has the shell's control flow as proof rules for assertions that each leaf of the shell
  keeps.  Here the assertions change at every `record_*` (the state after the inner computation is not the state
  after `record_success`), the `finally` turns `Q` into `F`, and `Q` depends on how the call ends: only the three
  `except` ladders are instances of those rules; the admitted parts and the `finally` are composed here by `mvcgen`
  over the model's procedures, for both flavours at once.  The theorems of `Records` carry the names of the model
  procedures they are about (`Records.callLadder` is about `Policy.callLadder`), which is why the proofs inside
  the namespace write `Policy.callLadder` for the program.
-/
import Redress.Lemmas.PolicyFrame
import Redress.Monitors

open Std.Do

namespace Redress
open Redress.Retry Redress.Policy

namespace Policy

/-- AbortRetryError, the cancellation kinds, a nested CircuitOpenError (and the model's `stuck`): what the
    breaker is to be told about with `record_cancel` -/
def cancelLike (e : Exn) : Bool := e.isCancelKind || e.isAbort || e.isCircuitOpen || e == .stuck

theorem kiSe_cancelLike {e : Exn} (h : e.isKiSe = true) : cancelLike e = true := by
  cases e <;> first | rfl | cases h

theorem cancelLike_of_arm {e : Exn} (h : e = .cancelled ∨ e.isKiSe = true) : cancelLike e = true :=
  h.elim (fun h => h ▸ rfl) kiSe_cancelLike

theorem abort_cancelLike {e : Exn} (h : e.isAbort = true) : cancelLike e = true := by
  cases e <;> first | rfl | cases h

theorem nonException_cancelLike {e : Exn} (h : ¬ e.isException = true) : cancelLike e = true := by
  cases e <;> first | rfl | exact absurd rfl h

theorem exhausted_not_cancelLike {e : Exn} (h : e.isExhausted = true) : cancelLike e = false := by
  cases e <;> simp_all [Exn.isExhausted, cancelLike, Exn.isCancelKind, Exn.isAbort, Exn.isCircuitOpen]

theorem exception_not_cancelLike {e : Exn} (h1 : e.isException = true) (h2 : e.isAbort = false)
    (h3 : e.isCircuitOpen = false) : cancelLike e = false := by
  cases e <;> simp_all [Exn.isException, cancelLike, Exn.isCancelKind, Exn.isAbort, Exn.isCircuitOpen]

/-- A reading of the breaker's part in one admitted call: `O` — admitted, nothing recorded yet; `C r` — exactly
    `r` recorded; `Q res` — what `ensure_settled` may find when the call is about to end with `res`. -/
structure Records (cfg : Cfg) (O : World → Prop) (C : Req → World → Prop) (Q : Res → World → Prop) : Prop where
  stable : ∀ w w', Ext loopK w w' → O w → O w'
  endHook : ∀ exc r d stop cause, ⦃fun w => ⌜O w⌝⦄ noRetryEndHook cfg exc r d stop cause
    ⦃post⟨fun _ w => ⌜O w⌝, fun e w => ⌜O w ∧ Q (.raised e) w⌝⟩⦄
  endHookC : ∀ rec exc r d stop cause, ⦃fun w => ⌜C rec w⌝⦄ noRetryEndHook cfg exc r d stop cause
    ⦃exits (fun _ => C rec) fun e => Q (.raised e)⦄
  abortIf : ⦃fun w => ⌜O w⌝⦄ ask .abortIf ⦃exits (fun _ => O) fun e => Q (.raised e)⦄
  emit : ∀ ev st k, ⦃fun w => ⌜O w⌝⦄ emitBreakerEvent cfg ev st k
    ⦃exits (fun _ => O) fun e => Q (.raised e)⦄
  cancel : ⦃fun w => ⌜O w⌝⦄ recordCancel cfg ⦃post⟨fun _ w => ⌜C .breakerCancel w⌝, fun _ _ => ⌜False⌝⟩⦄
  failure : ∀ k, ⦃fun w => ⌜O w⌝⦄ recordFailure cfg k
    ⦃post⟨fun _ w => ⌜C (.breakerFailure k) w⌝, fun e w => ⌜Q (.raised e) w⌝⟩⦄
  /-- `_handle_exception_call` is where the readings differ most (who classifies, what a raising classifier means) -/
  exception : ∀ e b, e.isException = true → e.isAbort = false → e.isExhausted = false →
    ⦃fun w => ⌜O w⌝⦄ handleExceptionCall cfg e b
    ⦃post⟨fun _ w => ⌜Q (.raised e) w⌝, fun e' w => ⌜Q (.raised e') w⌝⟩⦄
  q_open : ∀ e w, cancelLike e = true → O w → Q (.raised e) w
  q_cancel : ∀ e w, cancelLike e = true → C .breakerCancel w → Q (.raised e) w
  q_exhausted : ∀ e w, e.isExhausted = true → C (.breakerFailure (e.exhaustedClass.getD .unknown)) w →
    Q (.raised e) w
  q_outcome : ∀ (o : Outcome) w,
    C (if o.ok then .breakerSuccess else if o.stop == some .aborted then .breakerCancel
       else .breakerFailure (o.lastClass.getD .unknown)) w → Q (.outcome o []) w

/-- A reading that does not ask who raised what: `O` and every `C r` survive the exchanges of the loop and of
    the hooks, and `ensure_settled` may find either whatever the result.  Only the two `record_*` are left to show. -/
theorem Records.of_stable {cfg : Cfg} {O : World → Prop} {C : Req → World → Prop} {Q : World → Prop}
    (hO : ∀ w w', Ext loopK w w' → O w → O w') (hC : ∀ r w w', Ext loopK w w' → C r w → C r w')
    (oq : ∀ w, O w → Q w) (cq : ∀ r w, C r w → Q w)
    (cancel : ⦃fun w => ⌜O w⌝⦄ recordCancel cfg ⦃post⟨fun _ w => ⌜C .breakerCancel w⌝, fun _ _ => ⌜False⌝⟩⦄)
    (failure : ∀ k, ⦃fun w => ⌜O w⌝⦄ recordFailure cfg k
      ⦃post⟨fun _ w => ⌜C (.breakerFailure k) w⌝, fun _ w => ⌜C (.breakerFailure k) w⌝⟩⦄) :
    Records cfg O C (fun _ => Q) where
  stable := hO
  endHook exc r d stop cause :=
    triple_raise (inv_of_ext O (fun w0 => noRetryEndHook_ext loopK w0 rfl cfg exc r d stop cause) hO)
      fun _ w h => ⟨h, oq w h⟩
  endHookC rec exc r d stop cause :=
    triple_raise (inv_of_ext (C rec) (fun w0 => noRetryEndHook_ext loopK w0 rfl cfg exc r d stop cause) (hC rec))
      fun _ => cq rec
  abortIf := triple_raise (inv_of_ext O (fun w0 => abortIf_ext loopK w0 rfl) hO) fun _ => oq
  emit ev st k := triple_raise (inv_of_ext O (fun w0 => emitBreakerEvent_ext loopK w0 rfl rfl cfg ev st k) hO)
    fun _ => oq
  cancel := cancel
  failure k := triple_raise (failure k) fun _ => cq _
  exception e b _ _ _ := by
    have h1 := triple_raise (inv_of_ext O (fun w0 => noRetryEndHook_ext loopK w0 rfl cfg (some e) none .raise none
      (some .exception)) hO) fun _ => oq
    have h2 := fun k => triple_mono (failure k) (fun _ h => h) (fun _ => cq _) (fun _ => cq _)
    have h3 := triple_raise (inv_of_ext O (fun w0 => classifyForBreaker_ext loopK w0 rfl cfg e) hO) fun _ => oq
    mvcgen [handleExceptionCall, h1, h2, h3]
    exact oq _ (by assumption)
  q_open _ w _ := oq w
  q_cancel _ w _ := cq _ w
  q_exhausted _ w _ := cq _ w
  q_outcome _ w := cq _ w

namespace Records
variable {cfg : Cfg} {O : World → Prop} {C : Req → World → Prop} {Q : Res → World → Prop}
  (R : Records cfg O C Q)
include R

abbrev raisePost (Q : Res → World → Prop) : PostCond α (.except Exn (.arg World .pure)) :=
  post⟨fun _ _ => ⌜False⌝, fun e w => ⌜Q (.raised e) w⌝⟩

abbrev raisedArm (Q : Res → World → Prop) (e : Exn) : PostCond Unit (.except Exn (.arg World .pure)) :=
  armPost (fun e => Q (.raised e)) e

theorem cancel_arm (e : Exn) (hc : cancelLike e = true) :
    ⦃fun w => ⌜O w⌝⦄ recordCancel cfg ⦃raisedArm Q e⦄ :=
  triple_mono R.cancel (fun _ h => h) (fun _ w h => R.q_cancel e w hc h) (fun _ _ h => h.elim)

theorem handleAbortCall (e : Exn) (ha : e.isAbort = true) :
    ⦃fun w => ⌜O w⌝⦄ handleAbortCall cfg e ⦃raisedArm Q e⦄ := by
  have h1 := R.endHook
  have h2 := R.cancel_arm e (abort_cancelLike ha)
  mvcgen [Policy.handleAbortCall, h1, h2]
  exact fun _ h => h

theorem handleExhaustedCall (e : Exn) (he : e.isExhausted = true) :
    ⦃fun w => ⌜O w⌝⦄ handleExhaustedCall cfg e ⦃raisedArm Q e⦄ :=
  triple_mono (R.failure _) (fun _ h => h) (fun _ w h => R.q_exhausted e w he h) (fun _ _ h => h)

/-- the `except` ladder of `Policy.call` / `AsyncPolicy.call`; an arm that only re-raises records nothing, and
    `ensure_settled` will cancel -/
theorem callLadder {A : Nat → World → Prop} (e : Exn) :
    ⦃fun w => ⌜O w⌝⦄ callLadder cfg e ⦃exits A fun e => Q (.raised e)⦄ :=
  callLadder_rule e (fun h => R.cancel_arm e (cancelLike_of_arm h)) (R.handleAbortCall e) (R.handleExhaustedCall e)
    (R.exception e true) (fun h w => R.q_open e w (nonException_cancelLike h))

theorem executeLadder (e : Exn) : ⦃fun w => ⌜O w⌝⦄ executeLadder cfg e ⦃raisePost Q⦄ :=
  executeLadder_rule e (R.handleExhaustedCall e) (fun h => R.cancel_arm e (abort_cancelLike h))
    (R.exception e false) (fun h w => R.q_open e w (nonException_cancelLike h))

abbrev outPost (Q : Res → World → Prop) : PostCond Outcome (.except Exn (.arg World .pure)) :=
  post⟨fun o w => ⌜Q (.outcome o []) w⌝, fun e w => ⌜Q (.raised e) w⌝⟩

theorem q_ok {o : Outcome} {w : World} (h : o.ok = true) (hc : C .breakerSuccess w) : Q (.outcome o []) w :=
  R.q_outcome o w (by rw [if_pos h]; exact hc)

theorem q_aborted {o : Outcome} {w : World} (h : ¬ o.ok = true) (hs : o.stop = some .aborted)
    (hc : C .breakerCancel w) : Q (.outcome o []) w :=
  R.q_outcome o w (by rw [if_neg h, if_pos (by simp [hs])]; exact hc)

theorem q_failed {o : Outcome} {w : World} (h : ¬ o.ok = true) (hs : ¬ o.stop = some .aborted)
    (hc : C (.breakerFailure (o.lastClass.getD .unknown)) w) : Q (.outcome o []) w :=
  R.q_outcome o w (by rw [if_neg h, if_neg (by simpa using hs)]; exact hc)

/-- the outcome `execute()` returns after `rec` has been recorded -/
theorem outcome (rec : Req) (ok : Bool) (st : Option StopReason) (lc : Option EClass)
    (hrec : rec = if ok then .breakerSuccess else if st == some .aborted then .breakerCancel
      else .breakerFailure (lc.getD .unknown))
    (v : Option Nat) (n : Nat) (le : Option String) (cause : Option Cause) :
    ⦃fun w => ⌜C rec w⌝⦄ policyOutcome ok v st n lc le cause ⦃outPost Q⦄ := by
  have h := policyOutcome_keeps (C rec)
  mvcgen [h]
  intro hc e1 e2 _ e3 _
  exact R.q_outcome _ _ (by rw [e1, e2, e3, ← hrec]; exact hc)

/-- the `except` ladder of `_execute_without_retry`: it returns an outcome or re-raises -/
theorem noRetryLadder (b : Bool) (e : Exn) : ⦃fun w => ⌜O w⌝⦄ noRetryLadder cfg b e ⦃outPost Q⦄ :=
  noRetryLadder_rule (E := fun e => Q (.raised e)) (C := C .breakerCancel)
    (F := C (.breakerFailure (defaultClass e))) b e (fun _ => triple_raise R.cancel fun _ _ => False.elim)
    (R.endHookC .breakerCancel _ _ _ _ _) (fun _ w h => R.q_outcome _ w h)
    (fun h => R.cancel_arm e (cancelLike_of_arm h)) (fun _ _ => R.failure (defaultClass e))
    (R.endHookC (.breakerFailure (defaultClass e)) _ _ _ _ _) (fun _ _ w h => R.q_outcome _ w h)
    (fun h w => R.q_open e w (nonException_cancelLike h))

section execute
variable (bc : Breaker.Cfg) (hb : cfg.breaker = some bc)
  (hs : ⦃fun w => ⌜O w⌝⦄ recordSuccess cfg
    ⦃exits (fun _ => C .breakerSuccess) fun e => Q (.raised e)⦄)
include hb hs

theorem executeWithRetry : ⦃fun w => ⌜O w⌝⦄ executeWithRetry cfg ⦃outPost Q⦄ := by
  have h0 := inv_of_ext O (fun w0 => runExecute_ext w0 cfg) R.stable
  have h1 := R.cancel
  have h3 := R.failure
  have h4 := R.executeLadder
  unfold Policy.executeWithRetry
  simp only [hb]
  mvcgen [h0, h1, hs, h3, h4]
  · exact R.q_ok (by assumption) (by assumption)
  · exact R.q_aborted (by assumption) (by assumption) (by assumption)
  · exact R.q_failed (by assumption) (by assumption) (by assumption)

omit hb in
theorem executeWithoutRetry : ⦃fun w => ⌜O w⌝⦄ executeWithoutRetry cfg ⦃outPost Q⦄ := by
  have h0 := inv_of_ext O (fun w0 => noRetryStartHook_ext loopK w0 rfl cfg) R.stable
  have h1 := inv_of_ext O (fun w0 => invokeOp_ext w0 1) R.stable
  have h3 := R.noRetryLadder
  have h4 := R.endHookC .breakerSuccess
  have h5 := R.outcome .breakerSuccess true none none rfl
  mvcgen [Policy.executeWithoutRetry, h0, h1, hs, h3, h4, h5]

omit hb hs in
theorem checkAbortNoRetry : ⦃fun w => ⌜O w⌝⦄ checkAbortNoRetry cfg
    ⦃post⟨fun b w => ⌜if b then C .breakerCancel w else O w⌝, fun e w => ⌜Q (.raised e) w⌝⟩⦄ := by
  have h1 := R.abortIf
  have h2 := R.cancel
  mvcgen [Policy.checkAbortNoRetry, h1, h2]
  exact R.q_open .stuck _ rfl (by assumption)

/-- everything `execute()` does once the breaker has admitted the call -/
theorem executeAdmitted2 : ⦃fun w => ⌜O w⌝⦄ executeAdmitted2 cfg ⦃outPost Q⦄ := by
  have h0 := R.checkAbortNoRetry
  have h1 := R.executeWithRetry bc hb hs
  have h2 := R.executeWithoutRetry hs
  have h5 := R.outcome .breakerCancel false (some .aborted) none rfl
  mvcgen [Policy.executeAdmitted2, h0, h1, h2, h5]
  · rename_i hr _ h; exact (if_pos hr).mp h
  · rename_i hr _ _ h; exact (if_neg hr).mp h

/-- `execute()` from the breaker's answer on -/
theorem executeAdmitted {P0 : World → Prop}
    (ha : ⦃fun w => ⌜P0 w⌝⦄ breakerAllow bc ⦃post⟨fun d w => ⌜d.1 = true ∧ O w⌝, fun _ _ => ⌜False⌝⟩⦄) :
    ⦃fun w => ⌜P0 w⌝⦄ executeAdmitted cfg ⦃outPost Q⦄ := by
  have h2 := R.emit
  have h3 := R.executeAdmitted2 bc hb hs
  unfold Policy.executeAdmitted
  simp only [hb]
  mvcgen [ha, h2, h3]
  · rename_i h; exact h.2
  · rename_i h _ hn; exact absurd h.1 hn

end execute

/-- `_call_without_retry`: whatever raises, nothing has been recorded -/
theorem callWithoutRetry : ⦃fun w => ⌜O w⌝⦄ callWithoutRetry cfg ⦃keeps O⦄ := by
  have h0 := inv_of_ext O (fun w0 => noRetryStartHook_ext loopK w0 rfl cfg) R.stable
  have h1 := inv_of_ext O (fun w0 => invokeOp_ext w0 1) R.stable
  have h2 := R.endHook
  mvcgen [Policy.callWithoutRetry, h0, h1, h2]
  exact fun h _ => h

/-- `check_breaker` when the breaker admits -/
theorem checkBreaker {P0 : World → Prop} (bc : Breaker.Cfg) (hb : cfg.breaker = some bc)
    (ha : ⦃fun w => ⌜P0 w⌝⦄ breakerAllow bc ⦃post⟨fun d w => ⌜d.1 = true ∧ O w⌝, fun _ _ => ⌜False⌝⟩⦄) :
    ⦃fun w => ⌜P0 w⌝⦄ checkBreaker cfg ⦃exits (fun _ => O) fun e => Q (.raised e)⦄ := by
  have h2 := R.emit
  unfold Policy.checkBreaker
  simp only [hb]
  mvcgen [ha, h2]
  · rename_i h; exact h.2
  · rename_i h _ hn _ _; exact absurd h.1 hn

/-- `call()` from `check_breaker` on.  `S e`: what the body of the `try` leaves when it raises `e` — nothing
    recorded yet, or the `record_success` made and the hook reporting its event raising `e`. -/
theorem callAdmitted {P0 : World → Prop} {S : Exn → World → Prop} (hO : ∀ e w, O w → S e w)
    (hc : ⦃fun w => ⌜P0 w⌝⦄ Policy.checkBreaker cfg ⦃exits (fun _ => O) fun e => Q (.raised e)⦄)
    (hs : ∀ v, ⦃fun w => ⌜O w⌝⦄ recordSuccess cfg ⦃post⟨fun _ w => ⌜Q (.ret v) w⌝, fun e w => ⌜S e w⌝⟩⦄)
    (hl : ∀ e, ⦃fun w => ⌜S e w⌝⦄ Policy.callLadder cfg e
      ⦃exits (fun v => Q (.ret v)) fun e => Q (.raised e)⦄) :
    ⦃fun w => ⌜P0 w⌝⦄ callAdmitted cfg ⦃exits (fun v => Q (.ret v)) fun e => Q (.raised e)⦄ := by
  have h1 := R.checkAbortNoRetry
  have h2 := triple_raise (inv_of_ext O (fun w0 => runCall_ext w0 cfg) R.stable) hO
  have h3 := triple_raise R.callWithoutRetry hO
  mvcgen [Policy.callAdmitted, hc, h1, h2, h3, hs, hl]
  · rename_i hr _ h; exact R.q_cancel .libAbort _ rfl ((if_pos hr).mp h)
  · rename_i hr _ h _ _; exact (if_neg hr).mp h

end Records

/-! ### the three `record_*` and `ensure_settled` on a policy with a breaker: one step on the world, then the event -/

section record
variable {cfg : Cfg} {bc : Breaker.Cfg} (hb : cfg.breaker = some bc) {O C : World → Prop}
include hb

abbrev recorded (w : World) (r : Req) (ans : Ans) (st : Breaker.St) : World :=
  { w with breaker := st, xc := { w.xc with settled := true }, trace := (r, ans) :: w.trace }

theorem recordCancel_triple (h : ∀ w, O w → C (recorded w .breakerCancel
      (.recorded none (Breaker.recordCancel w.breaker).state) (Breaker.recordCancel w.breaker))) :
    ⦃fun w => ⌜O w⌝⦄ recordCancel cfg ⦃post⟨fun _ w => ⌜C w⌝, fun _ _ => ⌜False⌝⟩⦄ := by
  unfold recordCancel
  simp only [hb]
  mvcgen
  exact h _ (by assumption)

theorem recordSuccess_triple {E : Exn → World → Prop}
    (h : ∀ w, O w → C (recorded w .breakerSuccess
      (.recorded (Breaker.recordSuccess w.breaker).1 (Breaker.recordSuccess w.breaker).2.state)
      (Breaker.recordSuccess w.breaker).2))
    (he : ∀ ev st k, ⦃fun w => ⌜C w⌝⦄ emitBreakerEvent cfg ev st k ⦃exits (fun _ => C) E⦄) :
    ⦃fun w => ⌜O w⌝⦄ recordSuccess cfg ⦃exits (fun _ => C) E⦄ := by
  unfold recordSuccess
  simp only [hb]
  mvcgen [he]
  exact h _ (by assumption)

theorem recordFailure_triple {E : Exn → World → Prop} (k : EClass)
    (h : ∀ w, O w → C (recorded w (.breakerFailure k)
      (.recorded (Breaker.recordFailure bc w.breaker k w.now).1 (Breaker.recordFailure bc w.breaker k w.now).2.state)
      (Breaker.recordFailure bc w.breaker k w.now).2))
    (he : ∀ ev st k, ⦃fun w => ⌜C w⌝⦄ emitBreakerEvent cfg ev st k ⦃exits (fun _ => C) E⦄) :
    ⦃fun w => ⌜O w⌝⦄ recordFailure cfg k ⦃exits (fun _ => C) E⦄ := by
  unfold recordFailure
  simp only [hb]
  mvcgen [he]
  exact h _ (by assumption)

/-- `ensure_settled`: the cancel for an admitted call that has made no record, nothing otherwise -/
theorem ensureSettled_triple
    (hc : ∀ w, O w → (w.xc.admitted && !w.xc.settled) = true → C (recorded w .breakerCancel
      (.recorded none (Breaker.recordCancel w.breaker).state) (Breaker.recordCancel w.breaker)))
    (hi : ∀ w, O w → ¬ (w.xc.admitted && !w.xc.settled) = true → C w) :
    ⦃fun w => ⌜O w⌝⦄ ensureSettled cfg ⦃post⟨fun _ w => ⌜C w⌝, fun _ _ => ⌜False⌝⟩⦄ := by
  unfold ensureSettled recordCancel
  simp only [hb]
  mvcgen
  · exact hc _ (by assumption) (by assumption)
  · exact hi _ (by assumption) (by assumption)

end record

/-- the state in which the breaker is asked: a fresh log and a fresh execution context -/
def Start (b0 : Breaker.St) (now0 : Nat) (w : World) : Prop :=
  w.trace = [] ∧ w.breaker = b0 ∧ w.now = now0 ∧ w.xc.admitted = false ∧ w.xc.settled = false

theorem start_initCtx (w : World) :
    Start w.breaker w.now { startWorld w with xc := { start := (startWorld w).now } } :=
  ⟨rfl, rfl, rfl, rfl, rfl⟩

/-- …and this is what `breaker.allow()` makes of it: its exchange is the whole log, the breaker is as `allow` left
    it, the execution context has the decision and is unsettled -/
def Asked (bc : Breaker.Cfg) (b0 : Breaker.St) (now0 : Nat) (w : World) : Prop :=
  w.trace = [(.breakerAllow, .admit (Breaker.allow bc b0 now0).1.1 (Breaker.allow bc b0 now0).1.2.1
    (Breaker.allow bc b0 now0).1.2.2)] ∧
  w.breaker = (Breaker.allow bc b0 now0).2 ∧ w.xc.admitted = (Breaker.allow bc b0 now0).1.1 ∧ w.xc.settled = false

theorem breakerAllow_start (bc : Breaker.Cfg) (b0 : Breaker.St) (now0 : Nat) :
    ⦃fun w => ⌜Start b0 now0 w⌝⦄ breakerAllow bc
    ⦃post⟨fun d w => ⌜d = (Breaker.allow bc b0 now0).1 ∧ Asked bc b0 now0 w⌝, fun _ _ => ⌜False⌝⟩⦄ := by
  mvcgen [breakerAllow]
  rename_i h
  obtain ⟨h1, rfl, rfl, -, h4⟩ := h
  exact ⟨rfl, congrArg _ h1, rfl, rfl, h4⟩

/-- `Policy.call` / `AsyncPolicy.call`: a fresh execution context, the call, and `ensure_settled` in the `finally` -/
theorem call_triple {cfg : Cfg} {P0 : World → Prop} {Q F : Res → World → Prop}
    (h0 : ⦃fun w => ⌜P0 w⌝⦄ callAdmitted cfg ⦃exits (fun v => Q (.ret v)) fun e => Q (.raised e)⦄)
    (h1 : ∀ r, ⦃fun w => ⌜Q r w⌝⦄ ensureSettled cfg ⦃post⟨fun _ w => ⌜F r w⌝, fun _ _ => ⌜False⌝⟩⦄) :
    ⦃fun w => ⌜P0 { w with xc := { start := w.now } }⌝⦄ Policy.call cfg
    ⦃post⟨fun v w => ⌜F (.ret v) w⌝, fun e w => ⌜F (.raised e) w⌝⟩⦄ := by
  mvcgen [Policy.call, initCtx, withFinally, h0, h1]

/-- `Policy.execute` / `AsyncPolicy.execute`, likewise -/
theorem execute_triple {cfg : Cfg} {P0 : World → Prop} {Q F : Res → World → Prop}
    (h0 : ⦃fun w => ⌜P0 w⌝⦄ executeAdmitted cfg
      ⦃post⟨fun o w => ⌜Q (.outcome o []) w⌝, fun e w => ⌜Q (.raised e) w⌝⟩⦄)
    (h1 : ∀ r, ⦃fun w => ⌜Q r w⌝⦄ ensureSettled cfg ⦃post⟨fun _ w => ⌜F r w⌝, fun _ _ => ⌜False⌝⟩⦄) :
    ⦃fun w => ⌜P0 { w with xc := { start := w.now } }⌝⦄ Policy.execute cfg
    ⦃post⟨fun o w => ⌜F (.outcome o []) w⌝, fun e w => ⌜F (.raised e) w⌝⟩⦄ := by
  mvcgen [Policy.execute, initCtx, withFinally, h0, h1]

/-- `runEntry` at the two policy entry points, from the specs of `call()` / `execute()` between `initCtx` and the
    `finally` and of `ensure_settled` (the reading may depend on the entry point; an outcome's timeline is not looked at) -/
theorem runEntry_policy {cfg : Cfg} {Q F : Entry → Res → World → Prop} (e : Entry) (he : e.isPolicy = true)
    (w : World)
    (hc : ⦃fun w' => ⌜Start w.breaker w.now w'⌝⦄ callAdmitted cfg
      ⦃post⟨fun v w => ⌜Q .pcall (.ret v) w⌝, fun e w => ⌜Q .pcall (.raised e) w⌝⟩⦄)
    (hx : ⦃fun w' => ⌜Start w.breaker w.now w'⌝⦄ executeAdmitted cfg
      ⦃post⟨fun o w => ⌜Q .pexecute (.outcome o []) w⌝, fun e w => ⌜Q .pexecute (.raised e) w⌝⟩⦄)
    (hf : ∀ e r, ⦃fun w => ⌜Q e r w⌝⦄ ensureSettled cfg ⦃post⟨fun _ w => ⌜F e r w⌝, fun _ _ => ⌜False⌝⟩⦄)
    (htl : ∀ o tl w, F .pexecute (.outcome o []) w → F .pexecute (.outcome o tl) w) :
    F e (runEntry cfg e w).1 (runEntry cfg e w).2 := by
  cases e with
  | call => cases he
  | execute => cases he
  | pcall => exact toRes_of_triple (Q := F .pcall) (call_triple hc (hf .pcall)) _ (start_initCtx w)
  | pexecute =>
    exact toResO_of_triple (Q := F .pexecute) _
      (triple_mono (execute_triple hx (hf .pexecute)) (fun _ h => h) (fun _ _ h => htl _ _ _ h) (fun _ _ h => h))
      _ (start_initCtx w)

end Policy
end Redress
