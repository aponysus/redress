/-
  Redress.Lemmas.Sim — "the shared procedures of the retry loop do the same thing in call() mode and in
  execute() mode" (C12): the relation, its closure lemmas, and one lemma per shared procedure
  (`Sim (p cfg tl …) (p cfg false …)`: the execute flavour, with timeline collector `tl`, and the call flavour);
  `checkAbort_sim` needs `SimFacts` and is in `SimLock.lean`, the policy-level leaves are in `SimPolicy.lean`.

  `π w` forgets what only execute() writes (`timeline`, `tlStart`, `attempts`) and the per-attempt scratch
  state `as` (nothing but the attempt hooks reads it, and C12 is about runs without attempt hooks).
  `Sim x x'` (x = execute flavour, x' = call flavour): from π-equal worlds the two programs return the same
  value / raise the same exception and end in π-equal worlds; moreover `x` does not change `attempts`, and
  an `AbortRetryError` leaving `x'` was raised by a callback other than the operation (and is in the log)
  or is the library's own abort after a poll (`last_stop_reason = ABORTED`).
-/
import Redress.Lemmas.Eqv
import Redress.Lemmas.Hoare

namespace Redress

open Twin Retry

/-- forget what only execute() writes, and the attempt-local scratch state -/
def π (w : World) : World :=
  { w with timeline := [], tlStart := 0, attempts := 0, as := {} }

theorem π_iff (we wc : World) : π we = π wc ↔
    (we.answers = wc.answers ∧ we.now = wc.now ∧ we.trace = wc.trace ∧ we.rs = wc.rs ∧
     we.opCalls = wc.opCalls ∧ we.budget = wc.budget ∧ we.breaker = wc.breaker ∧ we.xc = wc.xc ∧
     we.silent = wc.silent) := by
  cases we; cases wc; simp [π]

theorem π_answers {we wc : World} (h : π we = π wc) : we.answers = wc.answers := ((π_iff _ _).mp h).1
theorem π_now {we wc : World} (h : π we = π wc) : we.now = wc.now := ((π_iff _ _).mp h).2.1
theorem π_trace {we wc : World} (h : π we = π wc) : we.trace = wc.trace := ((π_iff _ _).mp h).2.2.1
theorem π_rs {we wc : World} (h : π we = π wc) : we.rs = wc.rs := ((π_iff _ _).mp h).2.2.2.1
theorem π_opCalls {we wc : World} (h : π we = π wc) : we.opCalls = wc.opCalls := ((π_iff _ _).mp h).2.2.2.2.1
theorem π_budget {we wc : World} (h : π we = π wc) : we.budget = wc.budget := ((π_iff _ _).mp h).2.2.2.2.2.1

/-- one logged exchange on both sides -/
theorem π_exchange {we wc : World} (h : π we = π wc) (rest : List Ans) (d : Nat) (x : Req × Ans) :
    π { we with answers := rest, now := we.now + d, trace := x :: we.trace }
      = π { wc with answers := rest, now := wc.now + d, trace := x :: wc.trace } := by
  obtain ⟨h1, h2, h3, h4, h5, h6, h7, h8, h9⟩ := (π_iff _ _).mp h
  exact (π_iff _ _).mpr ⟨rfl, by rw [h2], by rw [h3], h4, h5, h6, h7, h8, h9⟩

theorem π_logged {we wc : World} (h : π we = π wc) (x : Req × Ans) :
    π { we with trace := x :: we.trace } = π { wc with trace := x :: wc.trace } := by
  obtain ⟨h1, h2, h3, h4, h5, h6, h7, h8, h9⟩ := (π_iff _ _).mp h
  exact (π_iff _ _).mpr ⟨h1, h2, by rw [h3], h4, h5, h6, h7, h8, h9⟩

/-- the operation itself, as opposed to the callbacks and hooks -/
def isOp : Req → Bool
  | .op _ => true
  | _ => false

/-- where an abort-kind exception leaving a shared procedure comes from -/
def AbSrc (e : Exn) (w : World) : Prop :=
  (∃ r d, (r, Ans.raise e d) ∈ w.trace ∧ isOp r = false) ∨ (e = .libAbort ∧ w.rs.lastStop = some .aborted)

/-- if `e`, leaving a shared procedure in world `w`, is of an abort kind, it has one of the two sources `AbSrc` -/
def AbOK (e : Exn) (w : World) : Prop := e.isAbort = true → AbSrc e w

theorem AbOK.of_not_abort {e : Exn} (w : World) (h : e.isAbort = false) : AbOK e w := by
  intro h'; rw [h] at h'; cases h'

theorem AbOK.of_not_exception {e : Exn} (w : World) (h : e.isException = false) : AbOK e w := by
  apply AbOK.of_not_abort
  cases e <;> simp_all [Exn.isException, Exn.isAbort]

theorem AbSrc.congr {e : Exn} {w w' : World} (ht : w'.trace = w.trace) (hr : w'.rs = w.rs)
    (h : AbSrc e w) : AbSrc e w' := by
  unfold AbSrc at *
  rw [ht, hr]; exact h

theorem AbOK.of_pi {e : Exn} {w w' : World} (h : π w = π w') (ha : AbOK e w) : AbOK e w' := by
  intro he
  have ht : w'.trace = w.trace := (π_trace h).symm
  have hr : w'.rs = w.rs := (π_rs h).symm
  exact AbSrc.congr ht hr (ha he)

/-- how the results of the two flavours correspond; `n` = the execute side's `attempts` before -/
def SimRes (n : Nat) (re rc : EStateM.Result Exn World α) : Prop :=
  match re, rc with
  | .ok a we', .ok a' wc' => a = a' ∧ π we' = π wc' ∧ we'.attempts = n
  | .error e we', .error e' wc' => e = e' ∧ π we' = π wc' ∧ we'.attempts = n ∧ AbOK e wc'
  | _, _ => False

/-- `x` (execute flavour) and `x'` (call flavour) do the same thing up to π -/
structure Sim (x x' : M α) : Prop where
  run : ∀ we wc, π we = π wc → SimRes we.attempts (x we) (x' wc)

/-- the case analysis a lock-step proof needs -/
theorem Sim.step {x x' : M α} (h : Sim x x') {we wc : World} (hπ : π we = π wc) :
    (∃ a we1 wc1, x we = .ok a we1 ∧ x' wc = .ok a wc1 ∧ π we1 = π wc1 ∧ we1.attempts = we.attempts) ∨
    (∃ e we1 wc1, x we = .error e we1 ∧ x' wc = .error e wc1 ∧ π we1 = π wc1 ∧
      we1.attempts = we.attempts ∧ AbOK e wc1) := by
  have := h.run we wc hπ
  cases hxe : x we with
  | ok a we1 =>
    cases hxc : x' wc with
    | ok a' wc1 =>
      rw [hxe, hxc] at this
      obtain ⟨rfl, h2, h3⟩ := this
      exact Or.inl ⟨a, we1, wc1, rfl, rfl, h2, h3⟩
    | error e wc1 => rw [hxe, hxc] at this; exact this.elim
  | error e we1 =>
    cases hxc : x' wc with
    | ok a' wc1 => rw [hxe, hxc] at this; exact this.elim
    | error e' wc1 =>
      rw [hxe, hxc] at this
      obtain ⟨rfl, h2, h3, h4⟩ := this
      exact Or.inr ⟨e, we1, wc1, rfl, rfl, h2, h3, h4⟩

theorem Sim.pure (a : α) : Sim (pure a : M α) (pure a) := ⟨fun _ _ h => ⟨rfl, h, rfl⟩⟩

theorem Sim.throw (e : Exn) (he : e.isAbort = false) : Sim (throw e : M α) (throw e) :=
  ⟨fun _ wc h => ⟨rfl, h, rfl, AbOK.of_not_abort wc he⟩⟩

theorem Sim.bind {x x' : M α} {f f' : α → M β} (hx : Sim x x') (hf : ∀ a, Sim (f a) (f' a)) :
    Sim (x >>= f) (x' >>= f') := by
  refine ⟨fun we wc h => ?_⟩
  rw [bind_run, bind_run]
  rcases hx.step h with ⟨a, we1, wc1, h1, h2, h3, h4⟩ | ⟨e, we1, wc1, h1, h2, h3, h4, h5⟩
  · rw [h1, h2]
    have := (hf a).run we1 wc1 h3
    rw [h4] at this
    exact this
  · rw [h1, h2]
    exact ⟨rfl, h3, h4, h5⟩

theorem Sim.tryC {x x' : M α} {h h' : Exn → M α} (hx : Sim x x') (hh : ∀ e, Sim (h e) (h' e)) :
    Sim (tryCatch x h : M α) (tryCatch x' h' : M α) := by
  refine ⟨fun we wc hπ => ?_⟩
  rw [tryCatch_run, tryCatch_run]
  rcases hx.step hπ with ⟨a, we1, wc1, h1, h2, h3, h4⟩ | ⟨e, we1, wc1, h1, h2, h3, h4, h5⟩
  · rw [h1, h2]
    exact ⟨rfl, h3, h4⟩
  · rw [h1, h2]
    have := (hh e).run we1 wc1 h3
    rw [h4] at this
    exact this

theorem Sim.ite {c : Prop} [Decidable c] {x x' y y' : M α} (hx : Sim x x') (hy : Sim y y') :
    Sim (if c then x else y) (if c then x' else y') := by
  split <;> assumption

/-! ### primitives -/

theorem Sim.ask (r : Req) (hr : isOp r = false) : Sim (ask r) (ask r) := by
  refine ⟨fun we wc h => ?_⟩
  have ha : we.answers = wc.answers := π_answers h
  cases hw : wc.answers with
  | nil =>
    rw [ask_nil r wc hw, ask_nil r we (ha.trans hw)]
    exact ⟨rfl, π_logged h _, rfl, AbOK.of_not_abort _ rfl⟩
  | cons a rest =>
    rw [ask_cons r wc a rest hw, ask_cons r we a rest (ha.trans hw)]
    have hw' := π_exchange h rest a.dur (r, a)
    cases a with
    | raise e d =>
      refine ⟨rfl, hw', rfl, ?_⟩
      intro _
      exact Or.inl ⟨r, d, List.mem_cons_self, hr⟩
    | _ => exact ⟨rfl, hw', rfl⟩

theorem isHook_not_op (r : Req) (h : isHook r = true) : isOp r = false := by
  cases r <;> simp_all [isHook, isOp]

theorem π_presil {we wc : World} (h : π we = π wc) : π (presil we) = π (presil wc) := by
  obtain ⟨h1, h2, h3, h4, h5, h6, h7, h8, h9⟩ := (π_iff _ _).mp h
  unfold presil
  rw [h9, h1]
  split
  · exact (π_iff _ _).mpr ⟨rfl, h2, h3, h4, h5, h6, h7, h8, rfl⟩
  · exact h

theorem Sim.askHook (r : Req) (hr : isOp r = false) : Sim (askHook r) (askHook r) := by
  refine ⟨fun we wc h => ?_⟩
  rw [askHook_eq, askHook_eq, ← presil_cases (fun w => w.attempts = we.attempts) we (fun _ => rfl)]
  exact (Sim.ask r hr).run _ _ (π_presil h)

/-- a state update that commutes with π and leaves `attempts` alone -/
theorem Sim.modify (f : World → World) (hf : ∀ w, π (f w) = π (f (π w)))
    (ha : ∀ w, (f w).attempts = w.attempts) : Sim (_root_.modify f : M PUnit) (_root_.modify f) := by
  refine ⟨fun we wc h => ?_⟩
  rw [modify_run, modify_run]
  refine ⟨rfl, ?_, ha we⟩
  rw [hf we, hf wc, h]

/-- two different state updates with the same effect up to π -/
theorem Sim.modify2 (f f' : World → World) (hf : ∀ w, π (f w) = π (f' (π w)))
    (hf' : ∀ w, π (f' w) = π (f' (π w)))
    (ha : ∀ w, (f w).attempts = w.attempts) : Sim (_root_.modify f : M PUnit) (_root_.modify f') := by
  refine ⟨fun we wc h => ?_⟩
  rw [modify_run, modify_run]
  refine ⟨rfl, ?_, ha we⟩
  rw [hf we, hf' wc, h]

/-- `get >>= k` where the continuations read only what π keeps -/
theorem Sim.getThen (k k' : World → M α) (hk : ∀ w, k w = k (π w)) (hk' : ∀ w, k' w = k' (π w))
    (he : ∀ w, Sim (k w) (k' w)) : Sim (get >>= k) (get >>= k') := by
  refine ⟨fun we wc h => ?_⟩
  rw [bind_run, bind_run, get_run, get_run]
  show SimRes we.attempts (k we we) (k' wc wc)
  rw [hk we, hk' wc, h]
  exact (he (π wc)).run we wc h

/-- reading a projection that π keeps -/
theorem Sim.read (g : World → α) (hg : ∀ w, g w = g (π w)) :
    Sim (get >>= fun w => (Pure.pure (g w) : M α)) (get >>= fun w => (Pure.pure (g w) : M α)) :=
  Sim.getThen _ _ (fun w => by rw [hg]) (fun w => by rw [hg]) (fun _ => Sim.pure _)

theorem swallow_sim (e : Exn) : Sim (swallowException e) (swallowException e) := by
  unfold swallowException
  by_cases h : e.isException = true
  · simp only [h, if_true]; exact Sim.pure _
  · simp only [h]
    have h' : e.isException = false := by simpa using h
    refine ⟨fun we wc hπ => ?_⟩
    exact ⟨rfl, hπ, rfl, AbOK.of_not_exception wc h'⟩

/-- a step that only touches what π forgets (and not `attempts`) can be skipped on the execute side -/
theorem Sim.skipL {p : M PUnit} {x x' : M α}
    (hp : ∀ w, ∃ w', p w = .ok ⟨⟩ w' ∧ π w' = π w ∧ w'.attempts = w.attempts) (hx : Sim x x') :
    Sim (p >>= fun _ => x) x' := by
  refine ⟨fun we wc h => ?_⟩
  obtain ⟨w', h1, h2, h3⟩ := hp we
  rw [bind_run, h1]
  have := hx.run w' wc (h2.trans h)
  rw [h3] at this
  exact this

/-- structural steps of a simulation proof; `ls` are the lemmas for the procedures called -/
syntax "sim" "[" ident,* "]" : tactic
macro_rules
  | `(tactic| sim [$ls,*]) => do
    let alts ← ls.getElems.mapM fun l => `(tacticSeq| with_reducible apply $l)
    `(tactic| repeat (first
        | (intro _)
        | assumption
        $[| $alts]*
        | with_reducible apply Sim.bind
        | with_reducible apply Sim.tryC
        | with_reducible apply Sim.ite
        | with_reducible exact Sim.pure _
        | (with_reducible apply Sim.throw) <;> rfl
        | (with_reducible apply Sim.ask) <;> rfl
        | (with_reducible apply Sim.askHook) <;> rfl
        | (with_reducible apply Sim.modify) <;> (intro _; rfl)
        | split))

/-! ## one lemma per shared procedure -/

theorem getRS_sim : Sim getRS getRS := Sim.read (fun w => w.rs) (fun _ => rfl)
theorem getNow_sim : Sim getNow getNow := Sim.read (fun w => w.now) (fun _ => rfl)
theorem elapsed_sim : Sim elapsed elapsed := Sim.read (fun w => w.now - w.rs.start) (fun _ => rfl)
theorem modifyRS_sim (f : RState → RState) : Sim (modifyRS f) (modifyRS f) :=
  Sim.modify _ (fun _ => rfl) (fun _ => rfl)
theorem modifyAS_sim (f : AState → AState) : Sim (modifyAS f) (modifyAS f) :=
  Sim.modify _ (fun _ => rfl) (fun _ => rfl)

theorem setStop_sim (s : StopReason) : Sim (setStop s) (setStop s) := modifyRS_sim _

/-! ### state.py -/

theorem askMetric_sim (ev : Event) (a s : Nat) (t : Tags) : Sim (askMetric ev a s t) (askMetric ev a s t) := by
  unfold askMetric
  sim []

theorem askLog_sim (ev : Event) (a s : Nat) (t : Tags) (ra : Option Int) :
    Sim (askLog ev a s t ra) (askLog ev a s t ra) := by
  unfold askLog
  sim []

/-- the one place where the flavours differ: the timeline collector -/
theorem metricHook_sim (cfg : Cfg) (tl : Bool) (ev : Event) (a s : Nat) (t : Tags) :
    Sim (metricHook cfg tl ev a s t) (metricHook cfg false ev a s t) := by
  cases tl
  · unfold metricHook
    simp only [Bool.false_eq_true, if_false]
    sim [askMetric_sim]
  · unfold metricHook
    simp only [if_true, Bool.false_eq_true, if_false]
    apply Sim.skipL
    · intro w
      exact ⟨_, rfl, rfl, rfl⟩
    · sim [askMetric_sim]

theorem emit_sim (cfg : Cfg) (tl : Bool) (ev : Event) (a s : Nat) (k : Option EClass) (e : Option Exn)
    (st : Option StopReason) (c : Option Cause) (cl : Option Classification) :
    Sim (emit cfg tl ev a s k e st c cl) (emit cfg false ev a s k e st c cl) := by
  unfold emit
  sim [metricHook_sim, swallow_sim, askLog_sim]

theorem retryRecordFailure_sim (c : Classification) (cause : Cause) (e : Option Exn) (r : Option Nat) :
    Sim (Retry.recordFailure c cause e r) (Retry.recordFailure c cause e r) := modifyRS_sim _

theorem recordStrategySuccess_sim (cfg : Cfg)
    : Sim (recordStrategySuccess cfg) (recordStrategySuccess cfg) := by
  unfold recordStrategySuccess
  sim [getRS_sim]

theorem callStrategy_sim (key : SKey) (kind : SKind) (ctx : BackoffCtx) :
    Sim (callStrategy key kind ctx) (callStrategy key kind ctx) := by
  unfold callStrategy
  sim []

theorem stratRecordFailure_sim (cfg : Cfg) (key : SKey) (k : EClass) :
    Sim (stratRecordFailure cfg key k) (stratRecordFailure cfg key k) := by
  unfold stratRecordFailure
  sim []

theorem budgetConsume_sim (cfg : Cfg) : Sim (budgetConsume cfg) (budgetConsume cfg) := by
  unfold budgetConsume
  split
  · exact Sim.pure _
  · refine ⟨fun we wc h => ?_⟩
    simp only [bind_run, get_run, set_run, pure_run]
    obtain ⟨h1, h2, h3, h4, h5, h6, h7, h8, h9⟩ := (π_iff _ _).mp h
    refine ⟨by rw [h2, h6], ?_, rfl⟩
    exact (π_iff _ _).mpr ⟨h1, h2, by rw [h2, h6, h3], h4, h5, by rw [h2, h6], h7, h8, h9⟩

theorem stopWith_sim (cfg : Cfg) (tl : Bool) (s : StopReason) (ev : Event) (a : Nat) (k : EClass)
    (e : Option Exn) (c : Cause) : Sim (stopWith cfg tl s ev a k e c) (stopWith cfg false s ev a k e c) := by
  unfold stopWith
  sim [setStop_sim, emit_sim]

theorem grantRetry_sim (cfg : Cfg) (tl : Bool) (c : Classification) (a : Nat) (cause : Cause)
    (e : Option Exn) (key : SKey) (kind : SKind) (rem : Nat) :
    Sim (grantRetry cfg tl c a cause e key kind rem) (grantRetry cfg false c a cause e key kind rem) := by
  unfold grantRetry
  sim [getRS_sim, callStrategy_sim, budgetConsume_sim, modifyRS_sim, emit_sim, stopWith_sim]

theorem handleFailure2_sim (cfg : Cfg) (tl : Bool) (c : Classification) (a : Nat) (cause : Cause)
    (e : Option Exn) : Sim (handleFailure2 cfg tl c a cause e) (handleFailure2 cfg false c a cause e) := by
  unfold handleFailure2
  sim [elapsed_sim, stopWith_sim, modifyRS_sim, stratRecordFailure_sim, grantRetry_sim]

theorem handleUnknown_sim (cfg : Cfg) (tl : Bool) (c : Classification) (a : Nat) (cause : Cause)
    (e : Option Exn) : Sim (handleUnknown cfg tl c a cause e) (handleUnknown cfg false c a cause e) := by
  unfold handleUnknown
  sim [getRS_sim, modifyRS_sim, stopWith_sim, handleFailure2_sim]

theorem handleFailure1_sim (cfg : Cfg) (tl : Bool) (c : Classification) (a : Nat) (cause : Cause)
    (e : Option Exn) : Sim (handleFailure1 cfg tl c a cause e) (handleFailure1 cfg false c a cause e) := by
  unfold handleFailure1
  sim [getRS_sim, stopWith_sim, handleUnknown_sim, handleFailure2_sim]

theorem handleFailure_sim (cfg : Cfg) (tl : Bool) (c : Classification) (a : Nat) (cause : Cause)
    (e : Option Exn) (r : Option Nat) :
    Sim (handleFailure cfg tl c a cause e r) (handleFailure cfg false c a cause e r) := by
  unfold handleFailure
  sim [retryRecordFailure_sim, modifyRS_sim, handleFailure1_sim]

theorem callClassifier_sim (e : Exn) : Sim (callClassifier e) (callClassifier e) := by
  unfold callClassifier
  sim []

theorem handleException_sim (cfg : Cfg) (tl : Bool) (e : Exn) (a : Nat) :
    Sim (handleException cfg tl e a) (handleException cfg false e a) := by
  unfold handleException
  sim [callClassifier_sim, handleFailure_sim]

/-! ### retry_helpers.py -/

theorem buildOutcome_sim (ok : Bool) (value : Option Nat) (n : Nat) (ns : Option Nat) :
    Sim (buildOutcome ok value n ns) (buildOutcome ok value n ns) := by
  unfold buildOutcome
  sim [getRS_sim, elapsed_sim]

theorem emitAbortedOnce_sim (cfg : Cfg) (tl : Bool) (a : Nat) :
    Sim (emitAbortedOnce cfg tl a) (emitAbortedOnce cfg false a) := by
  unfold emitAbortedOnce
  sim [getRS_sim, setStop_sim, emit_sim]

theorem callAttemptStart_sim (cfg : Cfg) (a : Nat) : Sim (callAttemptStart cfg a) (callAttemptStart cfg a) := by
  unfold callAttemptStart
  sim [elapsed_sim]

theorem callAttemptEnd_sim (cfg : Cfg) (a : Nat) (cls : Option Classification) (e : Option Exn)
    (r : Option Nat) (d : AttemptDecision) (st : Option StopReason) (c : Option Cause) (sl : Option Nat) :
    Sim (callAttemptEnd cfg a cls e r d st c sl) (callAttemptEnd cfg a cls e r d st c sl) := by
  unfold callAttemptEnd
  sim [elapsed_sim]

theorem callAttemptEndFromOutcome_sim (cfg : Cfg) (a : Nat) (o : AOutcome) :
    Sim (callAttemptEndFromOutcome cfg a o) (callAttemptEndFromOutcome cfg a o) := by
  unfold callAttemptEndFromOutcome
  exact callAttemptEnd_sim _ _ _ _ _ _ _ _ _

theorem finalizeAttempt_sim (cfg : Cfg) (tl : Bool) (a : Nat) (d : Decision) (act : Option SleepDecision)
    (cls : Option Classification) (e : Option Exn) (r : Option Nat) (c : Option Cause) :
    Sim (finalizeAttempt cfg tl a d act cls e r c) (finalizeAttempt cfg false a d act cls e r c) := by
  unfold finalizeAttempt
  sim [getRS_sim, elapsed_sim, setStop_sim, emit_sim]

theorem handleSleepDecision_sim (cfg : Cfg) (tl : Bool) (act : SleepDecision) (a s : Nat) :
    Sim (handleSleepDecision cfg tl act a s) (handleSleepDecision cfg false act a s) := by
  unfold handleSleepDecision
  sim [getRS_sim, setStop_sim, emit_sim, emitAbortedOnce_sim]

theorem callBeforeSleep_sim (cfg : Cfg) (ctx : BackoffCtx) (s : Nat) :
    Sim (callBeforeSleep cfg ctx s) (callBeforeSleep cfg ctx s) := by
  unfold callBeforeSleep
  sim [swallow_sim]

theorem callSleeper_sim (cfg : Cfg) (s : Nat) : Sim (callSleeper cfg s) (callSleeper cfg s) := by
  unfold callSleeper
  sim []

theorem callSleepHandler_sim (lvl : Lvl) (ctx : BackoffCtx) (s : Nat) :
    Sim (callSleepHandler lvl ctx s) (callSleepHandler lvl ctx s) := by
  unfold callSleepHandler
  sim []

theorem sleepAction_sim (cfg : Cfg) (tl : Bool) (a s : Nat) (ctx : BackoffCtx) :
    Sim (sleepAction cfg tl a s ctx) (sleepAction cfg false a s ctx) := by
  unfold sleepAction
  sim [callBeforeSleep_sim, callSleeper_sim, callSleepHandler_sim, handleSleepDecision_sim]

theorem failureOutcome_sim (cfg : Cfg) (tl : Bool) (a : Nat) (d : Decision) (cls : Option Classification)
    (e : Option Exn) (r : Option Nat) (c : Option Cause) :
    Sim (failureOutcome cfg tl a d cls e r c) (failureOutcome cfg false a d cls e r c) := by
  unfold failureOutcome
  sim [finalizeAttempt_sim, sleepAction_sim]

/-! ### runner/logic.py -/

theorem shouldClassifyResult_sim (cfg : Cfg) (v : Nat) :
    Sim (shouldClassifyResult cfg v) (shouldClassifyResult cfg v) := by
  unfold shouldClassifyResult
  sim []

theorem handleSuccessAttemptEnd_sim (cfg : Cfg) (tl : Bool) (a v : Nat) :
    Sim (handleSuccessAttemptEnd cfg tl a v) (handleSuccessAttemptEnd cfg false a v) := by
  unfold handleSuccessAttemptEnd
  sim [recordStrategySuccess_sim, emit_sim, callAttemptEnd_sim]

theorem emitMaxAttemptsExceeded_sim (cfg : Cfg) (tl : Bool) :
    Sim (emitMaxAttemptsExceeded cfg tl) (emitMaxAttemptsExceeded cfg false) := by
  unfold emitMaxAttemptsExceeded
  sim [getRS_sim, emit_sim, setStop_sim]

end Redress
