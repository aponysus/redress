/-
  Redress.Lemmas.Footprint — what the procedures of the model can touch (property independent).

  Four relations between the world a computation started in (the origin `w0`) and the world it is in now.
  Two speak of request KINDS and are the same on both exits:
  * `Foot K` (of `Hoare.lean`, the one most properties use): the log grew by exchanges of kinds in `K`, time did
    not run backwards, `rs` changed at most in `lastStop`, the attempt counters and `as.returned` are the same;
  * `Ext K`: the log grew by exchanges of kinds in `K`, and `xc` and `breaker` are the same — what `Foot` leaves
    open, for the whole retry loop.
  Two speak of the REQUESTS themselves, keep exact time, and say on the exceptional exit how the procedure failed;
  they differ in what else they keep and in what they say about the failure, and neither implies the other:
  * `FootQ R` / `FootE R e`: every answer so far was quiet (no raise, or a raise that the library swallows), the
    attempt counters and `as.returned` are the same; on failure, the newest exchange is the `raise e`.  For
    properties that follow a leaf exchange by exchange.
  * `FX.FootX Q` / `FX.FootXS Q` with `FX.ExcX` / `FX.ExcS`: nothing about quietness or the counters (so they
    also fit procedures that go on after a callback failed), but the exception that leaves is traced to its
    source (`Prov`: a callback since `w0`, not where it would have been swallowed; or one of the procedure's
    own raises).  For properties about time and about which exception a call ends with.
  `FootQ` comes first in the file because the `Foot K` lemma of most leaves is a corollary of its `FootQ` lemma.

  One lemma per procedure and relation, all of one form: if the relation holds from `w0` before, it holds from
  `w0` afterwards.  A procedure's lemma is proved from its callees' lemmas TAKEN AT THE SAME ORIGIN `w0`
  (`have := callee_lemma … w0`, then `mvcgen [proc, *]`): the callees' postconditions then are the caller's as
  they stand and most VCs vanish.  (Registered with `@[spec]`, a lemma would be used with the current world as
  origin, and every VC would need a chain of transitivity steps.)  `ask` is never unfolded: each relation's
  lemma for it is an instance of `ask_triple`.
-/
import Redress.Lemmas.Hoare

open Std.Do

namespace Redress
open Retry Policy

/-! ## The events of the embedded breaker

Facts about `Model/Breaker.lean` that the policy-level lemmas below need: what `allow`, `record_success` and
`record_failure` announce is one of the four circuit events. -/

/-- the events a breaker announces -/
def Event.isCircuit : Event → Bool
  | .circuitOpened | .circuitHalfOpen | .circuitClosed | .circuitRejected => true
  | _ => false

theorem Breaker.allow_ev (c : Breaker.Cfg) (s : Breaker.St) (now : Nat) (ev : Event)
    (h : (Breaker.allow c s now).1.2.2 = some ev) : ev.isCircuit = true := by
  unfold Breaker.allow at h
  split at h <;> (try simp +zeta only [] at h) <;> (try split at h) <;> simp at h <;> subst h <;> rfl

theorem Breaker.recordSuccess_ev (s : Breaker.St) (ev : Event)
    (h : (Breaker.recordSuccess s).1 = some ev) : ev.isCircuit = true := by
  unfold Breaker.recordSuccess at h
  split at h <;> simp at h; subst h; rfl

theorem Breaker.recordFailure_ev (c : Breaker.Cfg) (s : Breaker.St) (k : EClass) (now : Nat) (ev : Event)
    (h : (Breaker.recordFailure c s k now).1 = some ev) : ev.isCircuit = true := by
  unfold Breaker.recordFailure at h
  split at h <;> (try simp +zeta only [] at h) <;> (try split at h) <;> (try split at h) <;>
    (try split at h) <;> simp at h <;> subst h <;> rfl

/-! ## `FootQ` / `FootE`: quiet exchanges, exact time, and how a leaf fails

`FootQ R w w'`: `w'` arises from `w` by appending exchanges whose REQUESTS satisfy `R` and whose
answers are *quiet* (not a `raise`, or a `raise` of an `Exception` by an observability hook, which the
library swallows); the clock advanced by exactly the durations of those answers; `rs` is unchanged
(procedures that set `last_stop_reason` are not leaves in this sense).  `FootE R e w w'`: the same, except
that the procedure failed with `e` because the newest exchange is the `raise e` (all earlier ones quiet). -/

/-- total duration of a list of exchanges -/
def dsum : List (Req × Ans) → Nat
  | [] => 0
  | x :: t => x.2.dur + dsum t

theorem dsum_append (a b : List (Req × Ans)) : dsum (a ++ b) = dsum a + dsum b := by
  induction a with
  | nil => simp [dsum]
  | cons x a ih => simp [dsum, ih]; omega

/-- hooks whose `Exception`s the library swallows -/
def swallowedReq : Req → Bool
  | .metric .. | .log .. | .beforeSleep .. => true
  | _ => false

/-- an exchange after which the procedure that made it goes on -/
def quietX (x : Req × Ans) : Bool :=
  match x.2 with
  | .raise e _ => swallowedReq x.1 && e.isException
  | _ => true

def QuietAll (R : Req → Bool) (δ : List (Req × Ans)) : Prop := ∀ x ∈ δ, R x.1 = true ∧ quietX x = true

structure FootQ (R : Req → Bool) (w w' : World) : Prop where
  trace : ∃ δ, w'.trace = δ ++ w.trace ∧ QuietAll R δ ∧ w'.now = w.now + dsum δ
  rs : w'.rs = w.rs
  attempts : w'.attempts = w.attempts
  opCalls : w'.opCalls = w.opCalls
  returned : w'.as.returned = w.as.returned

structure FootE (R : Req → Bool) (e : Exn) (w w' : World) : Prop where
  trace : ∃ δ, w'.trace = δ ++ w.trace ∧ w'.now = w.now + dsum δ ∧
    ∃ r d δ', δ = (r, Ans.raise e d) :: δ' ∧ R r = true ∧ QuietAll R δ'
  rs : w'.rs = w.rs
  attempts : w'.attempts = w.attempts
  opCalls : w'.opCalls = w.opCalls
  returned : w'.as.returned = w.as.returned

theorem QuietAll.nil (R : Req → Bool) : QuietAll R [] := by intro x hx; cases hx

theorem QuietAll.append {R : Req → Bool} {a b : List (Req × Ans)} (ha : QuietAll R a) (hb : QuietAll R b) :
    QuietAll R (a ++ b) := by
  intro x hx
  rcases List.mem_append.mp hx with h | h
  · exact ha x h
  · exact hb x h

theorem FootQ.refl (R : Req → Bool) (w : World) : FootQ R w w :=
  ⟨⟨[], by simp, QuietAll.nil R, by simp [dsum]⟩, rfl, rfl, rfl, rfl⟩

theorem FootQ.trans {R : Req → Bool} {w₁ w₂ w₃ : World} (h₁ : FootQ R w₁ w₂) (h₂ : FootQ R w₂ w₃) :
    FootQ R w₁ w₃ := by
  obtain ⟨δ₁, e₁, q₁, t₁⟩ := h₁.trace
  obtain ⟨δ₂, e₂, q₂, t₂⟩ := h₂.trace
  refine ⟨⟨δ₂ ++ δ₁, by simp [e₂, e₁], q₂.append q₁, by rw [t₂, t₁, dsum_append]; omega⟩, ?_, ?_, ?_, ?_⟩
  · rw [h₂.rs, h₁.rs]
  · rw [h₂.attempts, h₁.attempts]
  · rw [h₂.opCalls, h₁.opCalls]
  · rw [h₂.returned, h₁.returned]

theorem FootE.trans_left {R : Req → Bool} {e : Exn} {w₁ w₂ w₃ : World} (h₁ : FootQ R w₁ w₂)
    (h₂ : FootE R e w₂ w₃) : FootE R e w₁ w₃ := by
  obtain ⟨δ₁, e₁, q₁, t₁⟩ := h₁.trace
  obtain ⟨δ₂, e₂, t₂, c⟩ := h₂.trace
  refine ⟨⟨δ₂ ++ δ₁, by simp [e₂, e₁], by rw [t₂, t₁, dsum_append]; omega, ?_⟩, ?_, ?_, ?_, ?_⟩
  · obtain ⟨r, d, δ', hd, hr, q'⟩ := c
    exact ⟨r, d, δ' ++ δ₁, by simp [hd], hr, q'.append q₁⟩
  · rw [h₂.rs, h₁.rs]
  · rw [h₂.attempts, h₁.attempts]
  · rw [h₂.opCalls, h₁.opCalls]
  · rw [h₂.returned, h₁.returned]

theorem FootQ.mono {R R' : Req → Bool} {w w' : World} (h : FootQ R w w')
    (hr : ∀ r, R r = true → R' r = true) : FootQ R' w w' := by
  obtain ⟨δ, e, q, t⟩ := h.trace
  exact ⟨⟨δ, e, fun x hx => ⟨hr _ (q x hx).1, (q x hx).2⟩, t⟩, h.rs, h.attempts, h.opCalls, h.returned⟩

theorem FootE.mono {R R' : Req → Bool} {e : Exn} {w w' : World} (h : FootE R e w w')
    (hr : ∀ r, R r = true → R' r = true) : FootE R' e w w' := by
  obtain ⟨δ, e₁, t, c⟩ := h.trace
  refine ⟨⟨δ, e₁, t, ?_⟩, h.rs, h.attempts, h.opCalls, h.returned⟩
  obtain ⟨r, d, δ', hd, hr', q'⟩ := c
  exact ⟨r, d, δ', hd, hr _ hr', fun x hx => ⟨hr _ (q' x hx).1, (q' x hx).2⟩⟩

/-- an `Exception` raised by a hook whose exceptions are swallowed: the procedure goes on -/
theorem FootE.swallow {R : Req → Bool} {e : Exn} {w w' : World} (h : FootE R e w w')
    (hs : ∀ r, R r = true → swallowedReq r = true) (he : e.isException = true) : FootQ R w w' := by
  obtain ⟨δ, e₁, t, c⟩ := h.trace
  refine ⟨⟨δ, e₁, ?_, t⟩, h.rs, h.attempts, h.opCalls, h.returned⟩
  obtain ⟨r, d, δ', hd, hr', q'⟩ := c
  subst hd
  intro x hx
  rcases List.mem_cons.mp hx with rfl | hx
  · exact ⟨hr', by simp [quietX, hs r hr', he]⟩
  · exact q' x hx

/-- one quiet exchange -/
theorem FootQ.exchange {R : Req → Bool} (w : World) (r : Req) (a : Ans) (rest : List Ans)
    (hr : R r = true) (hq : quietX (r, a) = true) :
    FootQ R w { w with answers := rest, now := w.now + a.dur, trace := (r, a) :: w.trace } :=
  ⟨⟨[(r, a)], rfl, by intro x hx; simp at hx; subst hx; exact ⟨hr, hq⟩, by simp [dsum]⟩, rfl, rfl, rfl, rfl⟩

/-- one exchange answered by a raise -/
theorem FootE.exchange {R : Req → Bool} (w : World) (r : Req) (e : Exn) (d : Nat) (rest : List Ans)
    (hr : R r = true) :
    FootE R e w { w with answers := rest, now := w.now + (Ans.raise e d).dur, trace := (r, Ans.raise e d) :: w.trace } :=
  ⟨⟨[(r, Ans.raise e d)], rfl, by simp [dsum], ⟨r, d, [], rfl, hr, QuietAll.nil R⟩⟩, rfl, rfl, rfl, rfl⟩

/-- changes outside the footprint's concern -/
theorem FootQ.frame {R : Req → Bool} (w : World) (as : AState)
    (tl : List TimelineEv) (tls : Nat) (bud : Budget.St) (br : Breaker.St) (xc : XCtx)
    (has : as.returned = w.as.returned) :
    FootQ R w { w with as := as, timeline := tl, tlStart := tls, budget := bud, breaker := br, xc := xc } :=
  ⟨⟨[], rfl, QuietAll.nil R, by simp [dsum]⟩, rfl, rfl, rfl, has⟩

/-- an interaction with an embedded component, logged without consuming an oracle answer -/
theorem FootQ.internal {R : Req → Bool} (w : World) (r : Req) (a : Ans) (bud : Budget.St)
    (br : Breaker.St) (xc : XCtx) (hr : R r = true) (hq : quietX (r, a) = true) (hd : a.dur = 0) :
    FootQ R w { w with trace := (r, a) :: w.trace, budget := bud, breaker := br, xc := xc } :=
  ⟨⟨[(r, a)], rfl, by intro x hx; simp at hx; subst hx; exact ⟨hr, hq⟩, by simp [dsum, hd]⟩, rfl, rfl, rfl, rfl⟩

abbrev fqPost (R : Req → Bool) (w0 : World) : PostCond α (.except Exn (.arg World .pure)) :=
  post⟨fun _ w => ⌜FootQ R w0 w⌝, fun e w => ⌜FootE R e w0 w⌝⟩

theorem quietX_of_not_raise (r : Req) (a : Ans) (h : ∀ e d, a = Ans.raise e d → False) :
    quietX (r, a) = true := by
  cases a <;> simp_all [quietX]

section
variable (R : Req → Bool) (w0 : World)

/-- `ask r`: one exchange for `r`; it fails exactly when the answer is a `raise` -/
theorem ask_fq (r : Req) (hr : R r = true) :
    ⦃fun w => ⌜FootQ R w0 w⌝⦄ ask r ⦃fqPost R w0⦄ :=
  ask_triple r (fun _ _ h ha => FootQ.trans h (FootQ.exchange _ _ _ _ hr (quietX_of_not_raise _ _ ha)))
    fun _ _ _ h => FootE.trans_left h (FootE.exchange _ _ _ _ _ hr)

/-- postcondition of a hook whose `Exception`s its caller sWallows (hence the `W` in `ask_fqW`, `askHook_fqW`,
    and in `FX.ask_fxW`, `FX.askHook_fxW`): such a failure is a quiet step -/
abbrev fqPostW (R : Req → Bool) (w0 : World) : PostCond α (.except Exn (.arg World .pure)) :=
  post⟨fun _ w => ⌜FootQ R w0 w⌝, fun e w => ⌜FootE R e w0 w ∧ (e.isException = true → FootQ R w0 w)⌝⟩

theorem ask_fqW (r : Req) (hr : R r = true) (hs : swallowedReq r = true) :
    ⦃fun w => ⌜FootQ R w0 w⌝⦄ ask r ⦃fqPostW R w0⦄ :=
  ask_triple r (fun _ _ h ha => FootQ.trans h (FootQ.exchange _ _ _ _ hr (quietX_of_not_raise _ _ ha)))
    fun _ _ _ h => ⟨FootE.trans_left h (FootE.exchange _ _ _ _ _ hr),
      fun he => FootQ.trans h (FootQ.exchange _ _ _ _ hr (by simp [quietX, hs, he]))⟩

theorem askHook_fqW (r : Req) (hr : R r = true) (hs : swallowedReq r = true) :
    ⦃fun w => ⌜FootQ R w0 w⌝⦄ askHook r ⦃fqPostW R w0⦄ :=
  askHook_triple r (ask_fqW R w0 r hr hs)
    (fun w h => presil_cases (FootQ R w0) w (fun _ => ⟨h.1, h.2, h.3, h.4, h.5⟩))

theorem metricHook_fq (cfg : Cfg) (tl : Bool) (ev : Event) (a s : Nat) (t : Tags)
    (hm : R (.metric ev a s t) = true) :
    ⦃fun w => ⌜FootQ R w0 w⌝⦄ metricHook cfg tl ev a s t ⦃fqPostW R w0⦄ := by
  have := askHook_fqW R w0 _ hm rfl
  mvcgen [metricHook, recordTimeline, askMetric, *]
  all_goals exact FootQ.trans ‹_› (FootQ.frame _ _ _ _ _ _ _ rfl)

/-- The VCs of `try: hook() except Exception: pass` once the hook's spec is in place: the normal exit is as
    it stands, a swallowed `Exception` is the quiet step the hook's spec says it is, anything else is the
    hook's failure. -/
macro "fq_swallow" : tactic =>
  `(tactic| all_goals first | exact id | exact ‹_ ∧ (_ → _)›.2 ‹_› | exact ‹_ ∧ _›.1)

/-- `emit`: requests only the metric / log hook for this event, and fails only when one of them
    raises something that is not an `Exception` -/
theorem emit_fq (cfg : Cfg) (tl : Bool) (ev : Event)
    (attempt sleep : Nat) (klass : Option EClass) (exc : Option Exn) (stop : Option StopReason)
    (cause : Option Cause) (cls : Option Classification)
    (hm : ∀ t, R (.metric ev attempt sleep t) = true) (hl : ∀ t ra, R (.log ev attempt sleep t ra) = true) :
    ⦃fun w => ⌜FootQ R w0 w⌝⦄ emit cfg tl ev attempt sleep klass exc stop cause cls ⦃fqPost R w0⦄ := by
  have := fun t => metricHook_fq R w0 cfg tl ev attempt sleep t (hm t)
  have := fun t ra => askHook_fqW R w0 _ (hl t ra) rfl
  mvcgen [emit, askLog, swallowException, *]
  fq_swallow

theorem recordStrategySuccess_fq (cfg : Cfg) (hs : ∀ k, R (.stratRecordSuccess k) = true) :
    ⦃fun w => ⌜FootQ R w0 w⌝⦄ recordStrategySuccess cfg ⦃fqPost R w0⦄ := by
  have := fun k => ask_fq R w0 _ (hs k)
  mvcgen [recordStrategySuccess, getRS, *]

theorem stratRecordFailure_fq (cfg : Cfg) (key : SKey) (k : EClass) (hs : R (.stratRecordFailure key k) = true) :
    ⦃fun w => ⌜FootQ R w0 w⌝⦄ stratRecordFailure cfg key k ⦃fqPost R w0⦄ := by
  have := ask_fq R w0 _ hs
  mvcgen [stratRecordFailure, *]

theorem callAttemptStart_fq (cfg : Cfg) (attempt : Nat) (hs : ∀ c, R (.attemptStart c) = true) :
    ⦃fun w => ⌜FootQ R w0 w⌝⦄ callAttemptStart cfg attempt ⦃fqPost R w0⦄ := by
  have := fun c => ask_fq R w0 _ (hs c)
  mvcgen [callAttemptStart, elapsed, *]

theorem callAttemptEnd_fq (cfg : Cfg) (attempt : Nat) (cls : Option Classification) (exc : Option Exn)
    (result : Option Nat) (d : AttemptDecision) (stop : Option StopReason) (cause : Option Cause)
    (sleep : Option Nat) (he : ∀ c, R (.attemptEnd c) = true) :
    ⦃fun w => ⌜FootQ R w0 w⌝⦄ callAttemptEnd cfg attempt cls exc result d stop cause sleep
    ⦃fqPost R w0⦄ := by
  have := fun c => ask_fq R w0 _ (he c)
  mvcgen [callAttemptEnd, elapsed, *]

theorem callAttemptEndFromOutcome_fq (cfg : Cfg) (attempt : Nat) (o : AOutcome)
    (he : ∀ c, R (.attemptEnd c) = true) :
    ⦃fun w => ⌜FootQ R w0 w⌝⦄ callAttemptEndFromOutcome cfg attempt o ⦃fqPost R w0⦄ := by
  have := fun a b c d e f g => callAttemptEnd_fq R w0 cfg attempt a b c d e f g he
  mvcgen [callAttemptEndFromOutcome, *]

theorem callBeforeSleep_fq (cfg : Cfg) (ctx : BackoffCtx) (sleep : Nat)
    (hb : ∀ lvl, R (.beforeSleep lvl ctx sleep) = true) :
    ⦃fun w => ⌜FootQ R w0 w⌝⦄ callBeforeSleep cfg ctx sleep ⦃fqPost R w0⦄ := by
  have := fun lvl => askHook_fqW R w0 _ (hb lvl) rfl
  mvcgen [callBeforeSleep, swallowException, *]
  fq_swallow

theorem buildOutcome_fq (ok : Bool) (value : Option Nat) (attempts : Nat) (ns : Option Nat) :
    ⦃fun w => ⌜FootQ R w0 w⌝⦄ buildOutcome ok value attempts ns ⦃fqPost R w0⦄ := by
  mvcgen [buildOutcome, getRS, elapsed]

theorem handleAbortAttemptEnd_fq (cfg : Cfg) (attempt : Nat) (e : Exn) (he : ∀ c, R (.attemptEnd c) = true) :
    ⦃fun w => ⌜FootQ R w0 w⌝⦄ handleAbortAttemptEnd cfg attempt e ⦃fqPost R w0⦄ := by
  have := fun a b c d e f g => callAttemptEnd_fq R w0 cfg attempt a b c d e f g he
  mvcgen [handleAbortAttemptEnd, getAS, modifyAS, *]
  exact FootQ.trans ‹_› (FootQ.frame _ _ _ _ _ _ _ rfl)

/-- `_emit_breaker_event`: the metric / log hook for that event only -/
theorem emitBreakerEvent_fq (cfg : Cfg) (ev : Option Event) (st : CState)
    (k : Option EClass)
    (hm : ∀ ev', ev = some ev' → ∀ t, R (.metric ev' 0 0 t) = true)
    (hl : ∀ ev', ev = some ev' → ∀ t, R (.log ev' 0 0 t none) = true) :
    ⦃fun w => ⌜FootQ R w0 w⌝⦄ emitBreakerEvent cfg ev st k ⦃fqPost R w0⦄ := by
  have := fun ev' t h => askHook_fqW R w0 _ (hm ev' h t) rfl
  have := fun ev' t h => askHook_fqW R w0 _ (hl ev' h t) rfl
  mvcgen [emitBreakerEvent, askMetric, askLog, swallowException, *]
  fq_swallow

theorem breakerAllow_fq (bc : Breaker.Cfg) (ha : R .breakerAllow = true) :
    ⦃fun w => ⌜FootQ R w0 w⌝⦄ breakerAllow bc ⦃fqPost R w0⦄ := by
  mvcgen [breakerAllow]
  exact FootQ.trans ‹_› (FootQ.internal _ _ _ _ _ _ ha rfl rfl)

theorem initCtx_fq : ⦃fun w => ⌜FootQ R w0 w⌝⦄ initCtx ⦃fqPost R w0⦄ := by
  mvcgen [initCtx]
  exact FootQ.trans ‹_› (FootQ.frame _ _ _ _ _ _ _ rfl)

theorem policyOutcome_fq (ok : Bool) (value : Option Nat) (stop : Option StopReason) (attempts : Nat)
    (lc : Option EClass) (le : Option String) (cause : Option Cause) :
    ⦃fun w => ⌜FootQ R w0 w⌝⦄ policyOutcome ok value stop attempts lc le cause ⦃fqPost R w0⦄ := by
  mvcgen [policyOutcome, xElapsed]

theorem recordCancel_fq (cfg : Cfg) (hc : R .breakerCancel = true) :
    ⦃fun w => ⌜FootQ R w0 w⌝⦄ Policy.recordCancel cfg ⦃fqPost R w0⦄ := by
  mvcgen [Policy.recordCancel]
  exact FootQ.trans ‹_› (FootQ.internal _ _ _ _ _ _ hc rfl rfl)

theorem noRetryEndHook_fq (cfg : Cfg) (exc : Option Exn) (result : Option Nat) (d : AttemptDecision)
    (stop : Option StopReason) (cause : Option Cause) (he : ∀ c, R (.attemptEnd c) = true) :
    ⦃fun w => ⌜FootQ R w0 w⌝⦄ noRetryEndHook cfg exc result d stop cause ⦃fqPost R w0⦄ := by
  have := fun c => ask_fq R w0 _ (he c)
  mvcgen [noRetryEndHook, xElapsed, *]
end

theorem handleSuccessAttemptEnd_fq (R : Req → Bool) (w0 : World) (cfg : Cfg) (tl : Bool) (attempt v : Nat)
    (hm : ∀ t, R (.metric .success attempt 0 t) = true) (hl : ∀ t ra, R (.log .success attempt 0 t ra) = true)
    (hs : ∀ k, R (.stratRecordSuccess k) = true) (he : ∀ c, R (.attemptEnd c) = true) :
    ⦃fun w => ⌜FootQ R w0 w⌝⦄ handleSuccessAttemptEnd cfg tl attempt v ⦃fqPost R w0⦄ := by
  have := recordStrategySuccess_fq R w0 cfg hs
  have := fun a b c d e => emit_fq R w0 cfg tl .success attempt 0 a b c d e hm hl
  have := fun a b c d e f g => callAttemptEnd_fq R w0 cfg attempt a b c d e f g he
  mvcgen [handleSuccessAttemptEnd, *]

section
variable (R : Req → Bool) (w0 : World)
  (hbm : ∀ ev, ev.isCircuit = true → ∀ t, R (.metric ev 0 0 t) = true)
  (hbl : ∀ ev, ev.isCircuit = true → ∀ t, R (.log ev 0 0 t none) = true)
include hbm hbl

/-- `check_breaker` fails either because a hook of `_emit_breaker_event` did (`FootE`), or with the library's own
    `CircuitOpenError` after exchanges that were all quiet (`FootQ`: no callback raised it) -/
theorem checkBreaker_fq (cfg : Cfg) (ha : R .breakerAllow = true) :
    ⦃fun w => ⌜FootQ R w0 w⌝⦄ checkBreaker cfg
    ⦃post⟨fun _ w => ⌜FootQ R w0 w⌝, fun e w => ⌜FootE R e w0 w ∨ FootQ R w0 w⌝⟩⦄ := by
  have := emitBreakerEvent_fq R w0 cfg
  mvcgen [checkBreaker, breakerAllow, *]
  · exact fun ev h => hbm ev (Breaker.allow_ev _ _ _ _ h)
  · exact fun ev h => hbl ev (Breaker.allow_ev _ _ _ _ h)
  · exact FootQ.trans ‹_› (FootQ.internal _ _ _ _ _ _ ha rfl rfl)
  · exact .inr ‹_›
  · exact .inl

theorem recordSuccess_fq (cfg : Cfg) (hs : R .breakerSuccess = true) :
    ⦃fun w => ⌜FootQ R w0 w⌝⦄ Policy.recordSuccess cfg ⦃fqPost R w0⦄ := by
  have := emitBreakerEvent_fq R w0 cfg
  mvcgen [Policy.recordSuccess, *]
  · exact fun ev h => hbm ev (Breaker.recordSuccess_ev _ _ h)
  · exact fun ev h => hbl ev (Breaker.recordSuccess_ev _ _ h)
  · exact FootQ.trans ‹_› (FootQ.internal _ _ _ _ _ _ hs rfl rfl)

theorem recordFailure_fq (cfg : Cfg) (k : EClass) (hf : ∀ k, R (.breakerFailure k) = true) :
    ⦃fun w => ⌜FootQ R w0 w⌝⦄ Policy.recordFailure cfg k ⦃fqPost R w0⦄ := by
  have := emitBreakerEvent_fq R w0 cfg
  mvcgen [Policy.recordFailure, *]
  · exact fun ev h => hbm ev (Breaker.recordFailure_ev _ _ _ _ _ h)
  · exact fun ev h => hbl ev (Breaker.recordFailure_ev _ _ _ _ _ h)
  · exact FootQ.trans ‹_› (FootQ.internal _ _ _ _ _ _ (hf k) rfl rfl)

omit hbm hbl in

omit hbm hbl in
theorem handleAbortCall_fq (cfg : Cfg) (e : Exn) (he : ∀ c, R (.attemptEnd c) = true)
    (hc : R .breakerCancel = true) :
    ⦃fun w => ⌜FootQ R w0 w⌝⦄ handleAbortCall cfg e ⦃fqPost R w0⦄ := by
  have := recordCancel_fq R w0 cfg hc
  have := fun a b c d f => noRetryEndHook_fq R w0 cfg a b c d f he
  mvcgen [handleAbortCall, *]

theorem handleExhaustedCall_fq (cfg : Cfg) (e : Exn) (hf : ∀ k, R (.breakerFailure k) = true) :
    ⦃fun w => ⌜FootQ R w0 w⌝⦄ handleExhaustedCall cfg e ⦃fqPost R w0⦄ := by
  have := fun k => recordFailure_fq R w0 hbm hbl cfg k hf
  mvcgen [handleExhaustedCall, *]
end

/-! ### from a `FootQ` lemma to a spec about a view or a predicate -/

/-- From a `FootQ`/`FootE` lemma to "this view of the world is unchanged on success; on failure
    whatever `FootE` implies about it". -/
theorem view_of_fq {α V : Type} {x : M α} {R : Req → Bool} (view : World → V)
    (Ex : V → Exn → World → Prop)
    (hx : ∀ w0, ⦃fun w => ⌜FootQ R w0 w⌝⦄ x ⦃fqPost R w0⦄)
    (hv : ∀ w w', FootQ R w w' → view w' = view w)
    (he : ∀ e w w', FootE R e w w' → Ex (view w) e w') (v : V) :
    ⦃fun w => ⌜view w = v⌝⦄ x ⦃post⟨fun _ w => ⌜view w = v⌝, fun e w => ⌜Ex v e w⌝⟩⦄ :=
  triple_of_rel hx (FootQ.refl _) (fun _ _ _ hw t => (hv _ _ t).trans hw) fun _ _ _ hw t => hw ▸ he _ _ _ t

/-- From a `FootQ`/`FootE` lemma to "this predicate on worlds is preserved". -/
theorem inv_of_fq {α : Type} {x : M α} {R : Req → Bool} (I : World → Prop) (J : Exn → World → Prop)
    (hx : ∀ w0, ⦃fun w => ⌜FootQ R w0 w⌝⦄ x ⦃fqPost R w0⦄)
    (hI : ∀ w w', FootQ R w w' → I w → I w')
    (hJ : ∀ e w w', FootE R e w w' → I w → J e w') :
    ⦃fun w => ⌜I w⌝⦄ x ⦃post⟨fun _ w => ⌜I w⌝, fun e w => ⌜J e w⌝⟩⦄ :=
  triple_of_rel hx (FootQ.refl _) (fun _ _ _ hw t => hI _ _ t hw) fun _ _ _ hw t => hJ _ _ _ t hw

end Redress

/-! ## `Foot K` for the leaf procedures

One lemma per procedure: if the footprint from an origin `w0` is within the kind set `K` before, it is
within `K` afterwards (on both exits), for every `K` containing the kinds of the requests the procedure
can make.  Where the leaf has a `FootQ` lemma, this is that lemma read at the request set
`fun r => K r.kind` (`foot_of_fq`).  The others are done directly from their callees' `Foot` lemmas: the
procedures that set `last_stop_reason` (`FootQ` keeps `rs`), those that go on after a callback has failed, and
a few for which no property has needed the `FootQ` form. -/

namespace Redress
open Retry Policy

/-- postcondition "the footprint from `w0` is within `K`", on both exits -/
abbrev footPost (K : Kind → Bool) (w0 : World) : PostCond α (.except Exn (.arg World .pure)) :=
  post⟨fun _ w => ⌜Foot K w0 w⌝, fun _ w => ⌜Foot K w0 w⌝⟩

theorem FootQ.foot {R : Req → Bool} {K : Kind → Bool} {w w' : World} (h : FootQ R w w')
    (hk : ∀ r, R r = true → K r.kind = true) : Foot K w w' := by
  obtain ⟨δ, e, q, t⟩ := h.trace
  exact ⟨⟨δ, e, fun x hx => hk _ (q x hx).1⟩, by rw [h.rs], h.attempts, h.opCalls, h.returned, by omega⟩

theorem FootE.foot {R : Req → Bool} {K : Kind → Bool} {e : Exn} {w w' : World} (h : FootE R e w w')
    (hk : ∀ r, R r = true → K r.kind = true) : Foot K w w' := by
  obtain ⟨δ, e₁, t, r, d, δ', hd, hr, q⟩ := h.trace
  refine ⟨⟨δ, e₁, fun x hx => ?_⟩, by rw [h.rs], h.attempts, h.opCalls, h.returned, by omega⟩
  subst hd
  rcases List.mem_cons.mp hx with rfl | hx
  · exact hk _ hr
  · exact hk _ (q x hx).1

theorem foot_of_fq {α : Type} {x : M α} {K : Kind → Bool}
    (h : ∀ w0, ⦃fun w => ⌜FootQ (fun r => K r.kind) w0 w⌝⦄ x ⦃fqPost (fun r => K r.kind) w0⦄) (w0 : World) :
    ⦃fun w => ⌜Foot K w0 w⌝⦄ x ⦃footPost K w0⦄ :=
  triple_of_rel h (FootQ.refl _) (fun _ _ _ hw t => hw.trans (t.foot fun _ h => h))
    (fun _ _ _ hw t => hw.trans (t.foot fun _ h => h))

section
variable (K : Kind → Bool) (w0 : World)

/-- `ask r` touches nothing but one exchange for `r` -/
theorem ask_foot (r : Req) (hk : K r.kind = true) :
    ⦃fun w => ⌜Foot K w0 w⌝⦄ ask r ⦃footPost K w0⦄ :=
  foot_of_fq (fun w => ask_fq _ w r hk) w0

theorem setStop_foot (s : StopReason) :
    ⦃fun w => ⌜Foot K w0 w⌝⦄ setStop s ⦃footPost K w0⦄ := by
  mvcgen [setStop, modifyRS]
  exact Foot.trans ‹_› (Foot.frame _ _ _ _ _ _ _ _ rfl)

theorem emit_foot (hm : K .metric = true) (hl : K .log = true) (cfg : Cfg) (tl : Bool) (ev : Event)
    (attempt sleep : Nat) (klass : Option EClass) (exc : Option Exn) (stop : Option StopReason)
    (cause : Option Cause) (cls : Option Classification) :
    ⦃fun w => ⌜Foot K w0 w⌝⦄ emit cfg tl ev attempt sleep klass exc stop cause cls ⦃footPost K w0⦄ :=
  foot_of_fq (fun w => emit_fq _ w cfg tl ev attempt sleep klass exc stop cause cls (fun _ => hm) fun _ _ => hl) w0

theorem checkAbort_foot (hm : K .metric = true) (hl : K .log = true) (ha : K .abortIf = true)
    (cfg : Cfg) (tl : Bool) (attempt : Nat) :
    ⦃fun w => ⌜Foot K w0 w⌝⦄ checkAbort cfg tl attempt ⦃footPost K w0⦄ := by
  have := ask_foot K w0 .abortIf ha
  have := setStop_foot K w0
  have := emit_foot K w0 hm hl
  mvcgen [checkAbort, *]

theorem stopWith_foot (hm : K .metric = true) (hl : K .log = true) (cfg : Cfg) (tl : Bool)
    (s : StopReason) (ev : Event) (attempt : Nat) (k : EClass) (exc : Option Exn) (cause : Cause) :
    ⦃fun w => ⌜Foot K w0 w⌝⦄ stopWith cfg tl s ev attempt k exc cause
    ⦃post⟨fun d w => ⌜d = .raise ∧ Foot K w0 w⌝, fun _ w => ⌜Foot K w0 w⌝⟩⦄ := by
  have := setStop_foot K w0
  have := emit_foot K w0 hm hl
  mvcgen [stopWith, *]

theorem recordStrategySuccess_foot (hs : K .stratRecordSuccess = true) (cfg : Cfg) :
    ⦃fun w => ⌜Foot K w0 w⌝⦄ recordStrategySuccess cfg ⦃footPost K w0⦄ :=
  foot_of_fq (fun w => recordStrategySuccess_fq _ w cfg fun _ => hs) w0

theorem stratRecordFailure_foot (hs : K .stratRecordFailure = true) (cfg : Cfg) (key : SKey) (k : EClass) :
    ⦃fun w => ⌜Foot K w0 w⌝⦄ stratRecordFailure cfg key k ⦃footPost K w0⦄ :=
  foot_of_fq (fun w => stratRecordFailure_fq _ w cfg key k hs) w0

theorem callStrategy_foot (hs : K .strategy = true) (key : SKey) (kind : SKind) (ctx : BackoffCtx) :
    ⦃fun w => ⌜Foot K w0 w⌝⦄ callStrategy key kind ctx ⦃footPost K w0⦄ := by
  have := ask_foot K w0 (.strategy key kind ctx) hs
  mvcgen [callStrategy, *]

theorem callClassifier_foot (hc : K .classify = true) (e : Exn) :
    ⦃fun w => ⌜Foot K w0 w⌝⦄ callClassifier e ⦃footPost K w0⦄ := by
  have := ask_foot K w0 (.classify e.ref) hc
  mvcgen [callClassifier, *]

theorem shouldClassifyResult_foot (hc : K .resultClassify = true) (cfg : Cfg) (v : Nat) :
    ⦃fun w => ⌜Foot K w0 w⌝⦄ shouldClassifyResult cfg v ⦃footPost K w0⦄ := by
  have := ask_foot K w0 (.resultClassify v) hc
  mvcgen [shouldClassifyResult, *]

theorem callAttemptStart_foot (hs : K .attemptStart = true) (cfg : Cfg) (attempt : Nat) :
    ⦃fun w => ⌜Foot K w0 w⌝⦄ callAttemptStart cfg attempt ⦃footPost K w0⦄ :=
  foot_of_fq (fun w => callAttemptStart_fq _ w cfg attempt fun _ => hs) w0

theorem callAttemptEndFromOutcome_foot (he : K .attemptEnd = true) (cfg : Cfg) (attempt : Nat)
    (o : AOutcome) :
    ⦃fun w => ⌜Foot K w0 w⌝⦄ callAttemptEndFromOutcome cfg attempt o ⦃footPost K w0⦄ :=
  foot_of_fq (fun w => callAttemptEndFromOutcome_fq _ w cfg attempt o fun _ => he) w0

theorem callBeforeSleep_foot (hb : K .beforeSleep = true) (cfg : Cfg) (ctx : BackoffCtx) (sleep : Nat) :
    ⦃fun w => ⌜Foot K w0 w⌝⦄ callBeforeSleep cfg ctx sleep ⦃footPost K w0⦄ :=
  foot_of_fq (fun w => callBeforeSleep_fq _ w cfg ctx sleep fun _ => hb) w0

theorem callSleeper_foot (hs : K .sleeper = true) (cfg : Cfg) (sleep : Nat) :
    ⦃fun w => ⌜Foot K w0 w⌝⦄ callSleeper cfg sleep ⦃footPost K w0⦄ := by
  have := ask_foot K w0 (.sleeper cfg.sleeper sleep) hs
  mvcgen [callSleeper, *]

theorem callSleepHandler_foot (hs : K .sleepHandler = true) (lvl : Lvl) (ctx : BackoffCtx) (sleep : Nat) :
    ⦃fun w => ⌜Foot K w0 w⌝⦄ callSleepHandler lvl ctx sleep ⦃footPost K w0⦄ := by
  have := ask_foot K w0 (.sleepHandler lvl ctx sleep) hs
  mvcgen [callSleepHandler, *]

theorem buildOutcome_foot (ok : Bool) (value : Option Nat) (attempts : Nat) (ns : Option Nat) :
    ⦃fun w => ⌜Foot K w0 w⌝⦄ buildOutcome ok value attempts ns ⦃footPost K w0⦄ :=
  foot_of_fq (fun w => buildOutcome_fq _ w ok value attempts ns) w0

theorem emitAbortedOnce_foot (hm : K .metric = true) (hl : K .log = true) (cfg : Cfg) (tl : Bool)
    (attempt : Nat) :
    ⦃fun w => ⌜Foot K w0 w⌝⦄ emitAbortedOnce cfg tl attempt ⦃footPost K w0⦄ := by
  have := setStop_foot K w0
  have := emit_foot K w0 hm hl
  mvcgen [emitAbortedOnce, getRS, *]

theorem abortOutcome_foot (hm : K .metric = true) (hl : K .log = true) (cfg : Cfg) (tl : Bool)
    (attempts : Nat) :
    ⦃fun w => ⌜Foot K w0 w⌝⦄ abortOutcome cfg tl attempts ⦃footPost K w0⦄ := by
  have := emitAbortedOnce_foot K w0 hm hl
  have := buildOutcome_foot K w0
  mvcgen [abortOutcome, *]

theorem handleSleepDecision_foot (hm : K .metric = true) (hl : K .log = true) (cfg : Cfg) (tl : Bool)
    (action : SleepDecision) (attempt sleep : Nat) :
    ⦃fun w => ⌜Foot K w0 w⌝⦄ handleSleepDecision cfg tl action attempt sleep
    ⦃post⟨fun r w => ⌜(r = action ∧ action ≠ .other) ∧ Foot K w0 w⌝, fun _ w => ⌜Foot K w0 w⌝⟩⦄ := by
  have := setStop_foot K w0
  have := emit_foot K w0 hm hl
  have := emitAbortedOnce_foot K w0 hm hl
  mvcgen [handleSleepDecision, getRS, *]

theorem handleSuccessAttemptEnd_foot (hm : K .metric = true) (hl : K .log = true)
    (hs : K .stratRecordSuccess = true) (he : K .attemptEnd = true) (cfg : Cfg) (tl : Bool)
    (attempt v : Nat) :
    ⦃fun w => ⌜Foot K w0 w⌝⦄ handleSuccessAttemptEnd cfg tl attempt v ⦃footPost K w0⦄ :=
  foot_of_fq (fun w => handleSuccessAttemptEnd_fq _ w cfg tl attempt v (fun _ => hm) (fun _ _ => hl)
    (fun _ => hs) fun _ => he) w0

theorem handleAbortAttemptEnd_foot (he : K .attemptEnd = true) (cfg : Cfg) (attempt : Nat) (e : Exn) :
    ⦃fun w => ⌜Foot K w0 w⌝⦄ handleAbortAttemptEnd cfg attempt e ⦃footPost K w0⦄ :=
  foot_of_fq (fun w => handleAbortAttemptEnd_fq _ w cfg attempt e fun _ => he) w0

theorem emitMaxAttemptsExceeded_foot (hm : K .metric = true) (hl : K .log = true) (cfg : Cfg)
    (tl : Bool) :
    ⦃fun w => ⌜Foot K w0 w⌝⦄ emitMaxAttemptsExceeded cfg tl ⦃footPost K w0⦄ := by
  have := emit_foot K w0 hm hl
  have := setStop_foot K w0
  mvcgen [emitMaxAttemptsExceeded, getRS, *]

theorem raiseExhaustedCall_foot (hm : K .metric = true) (hl : K .log = true) (cfg : Cfg) :
    ⦃fun w => ⌜Foot K w0 w⌝⦄ raiseExhaustedCall cfg ⦃footPost K w0⦄ := by
  have := emitMaxAttemptsExceeded_foot K w0 hm hl
  mvcgen [raiseExhaustedCall, getRS, *]

theorem buildExhaustedOutcome_foot (hm : K .metric = true) (hl : K .log = true) (cfg : Cfg)
    (tl : Bool) :
    ⦃fun w => ⌜Foot K w0 w⌝⦄ buildExhaustedOutcome cfg tl ⦃footPost K w0⦄ := by
  have := emitMaxAttemptsExceeded_foot K w0 hm hl
  have := buildOutcome_foot K w0
  mvcgen [buildExhaustedOutcome, *]

theorem deliverCall_foot (act : Action) (orig : Option Exn) (fb : ExhaustedFields) :
    ⦃fun w => ⌜Foot K w0 w⌝⦄ deliverCall act orig fb
    ⦃post⟨fun r w => ⌜(r = none ∧ act = .continue_) ∧ Foot K w0 w⌝, fun _ w => ⌜Foot K w0 w⌝⟩⦄ := by
  mvcgen [deliverCall]

theorem deliverExecute_foot (hm : K .metric = true) (hl : K .log = true) (cfg : Cfg) (tl : Bool)
    (act : Action) (o : AOutcome) :
    ⦃fun w => ⌜Foot K w0 w⌝⦄ deliverExecute cfg tl act o
    ⦃post⟨fun r w => ⌜(r = none → act = .continue_) ∧ Foot K w0 w⌝, fun _ w => ⌜Foot K w0 w⌝⟩⦄ := by
  have := abortOutcome_foot K w0 hm hl
  have := buildOutcome_foot K w0
  mvcgen [deliverExecute, *]
  · exact ⟨trivial, ‹_›⟩
  · exact ⟨nofun, ‹_›⟩
  · exact ⟨nofun, ‹_›⟩

/-! ### policy level (`policy.py`, `execution.py`) -/

theorem emitBreakerEvent_foot (hm : K .metric = true) (hl : K .log = true) (cfg : Cfg)
    (ev : Option Event) (st : CState) (k : Option EClass) :
    ⦃fun w => ⌜Foot K w0 w⌝⦄ emitBreakerEvent cfg ev st k ⦃footPost K w0⦄ :=
  foot_of_fq (fun w => emitBreakerEvent_fq _ w cfg ev st k (fun _ _ _ => hm) fun _ _ _ => hl) w0

theorem breakerAllow_foot (ha : K .breakerAllow = true) (bc : Breaker.Cfg) :
    ⦃fun w => ⌜Foot K w0 w⌝⦄ breakerAllow bc ⦃footPost K w0⦄ :=
  foot_of_fq (fun w => breakerAllow_fq _ w bc ha) w0

theorem checkBreaker_foot (hm : K .metric = true) (hl : K .log = true) (ha : K .breakerAllow = true)
    (cfg : Cfg) :
    ⦃fun w => ⌜Foot K w0 w⌝⦄ checkBreaker cfg ⦃footPost K w0⦄ := by
  have := breakerAllow_foot K w0 ha
  have := emitBreakerEvent_foot K w0 hm hl cfg
  mvcgen [checkBreaker, *]

theorem recordSuccess_foot (hm : K .metric = true) (hl : K .log = true) (hs : K .breakerSuccess = true)
    (cfg : Cfg) :
    ⦃fun w => ⌜Foot K w0 w⌝⦄ Policy.recordSuccess cfg ⦃footPost K w0⦄ :=
  foot_of_fq (fun w => recordSuccess_fq _ w (fun _ _ _ => hm) (fun _ _ _ => hl) cfg hs) w0

theorem recordCancel_foot (hc : K .breakerCancel = true) (cfg : Cfg) :
    ⦃fun w => ⌜Foot K w0 w⌝⦄ Policy.recordCancel cfg ⦃footPost K w0⦄ :=
  foot_of_fq (fun w => recordCancel_fq _ w cfg hc) w0

theorem recordFailure_foot (hm : K .metric = true) (hl : K .log = true) (hf : K .breakerFailure = true)
    (cfg : Cfg) (k : EClass) :
    ⦃fun w => ⌜Foot K w0 w⌝⦄ Policy.recordFailure cfg k ⦃footPost K w0⦄ :=
  foot_of_fq (fun w => recordFailure_fq _ w (fun _ _ _ => hm) (fun _ _ _ => hl) cfg k fun _ => hf) w0

theorem checkAbortNoRetry_foot (ha : K .abortIf = true) (hc : K .breakerCancel = true) (cfg : Cfg) :
    ⦃fun w => ⌜Foot K w0 w⌝⦄ checkAbortNoRetry cfg ⦃footPost K w0⦄ := by
  have := ask_foot K w0 .abortIf ha
  have := recordCancel_foot K w0 hc
  mvcgen [checkAbortNoRetry, *]

theorem noRetryStartHook_foot (hs : K .attemptStart = true) (cfg : Cfg) :
    ⦃fun w => ⌜Foot K w0 w⌝⦄ noRetryStartHook cfg ⦃footPost K w0⦄ := by
  have := fun c => ask_foot K w0 (.attemptStart c) hs
  mvcgen [noRetryStartHook, xElapsed, *]

theorem noRetryEndHook_foot (he : K .attemptEnd = true) (cfg : Cfg) (exc : Option Exn)
    (result : Option Nat) (d : AttemptDecision) (stop : Option StopReason) (cause : Option Cause) :
    ⦃fun w => ⌜Foot K w0 w⌝⦄ noRetryEndHook cfg exc result d stop cause ⦃footPost K w0⦄ :=
  foot_of_fq (fun w => noRetryEndHook_fq _ w cfg exc result d stop cause fun _ => he) w0

theorem policyOutcome_foot (ok : Bool) (value : Option Nat) (stop : Option StopReason) (attempts : Nat)
    (lc : Option EClass) (le : Option String) (cause : Option Cause) :
    ⦃fun w => ⌜Foot K w0 w⌝⦄ policyOutcome ok value stop attempts lc le cause ⦃footPost K w0⦄ :=
  foot_of_fq (fun w => policyOutcome_fq _ w ok value stop attempts lc le cause) w0

theorem initCtx_foot :
    ⦃fun w => ⌜Foot K w0 w⌝⦄ initCtx ⦃footPost K w0⦄ :=
  foot_of_fq (fun w => initCtx_fq _ w) w0

theorem handleAbortCall_foot (he : K .attemptEnd = true) (hc : K .breakerCancel = true) (cfg : Cfg)
    (e : Exn) :
    ⦃fun w => ⌜Foot K w0 w⌝⦄ handleAbortCall cfg e ⦃footPost K w0⦄ :=
  foot_of_fq (fun w => handleAbortCall_fq _ w cfg e (fun _ => he) hc) w0

theorem handleExhaustedCall_foot (hm : K .metric = true) (hl : K .log = true)
    (hf : K .breakerFailure = true) (cfg : Cfg) (e : Exn) :
    ⦃fun w => ⌜Foot K w0 w⌝⦄ handleExhaustedCall cfg e ⦃footPost K w0⦄ :=
  foot_of_fq (fun w => handleExhaustedCall_fq _ w (fun _ _ _ => hm) (fun _ _ _ => hl) cfg e fun _ => hf) w0

theorem handleExceptionCall_foot (hm : K .metric = true) (hl : K .log = true)
    (hf : K .breakerFailure = true) (he : K .attemptEnd = true) (hc : K .classify = true) (cfg : Cfg)
    (e : Exn) (onEnd : Bool) :
    ⦃fun w => ⌜Foot K w0 w⌝⦄ handleExceptionCall cfg e onEnd ⦃footPost K w0⦄ := by
  have := noRetryEndHook_foot K w0 he cfg
  have := callClassifier_foot K w0 hc
  have := recordFailure_foot K w0 hm hl hf cfg
  mvcgen [handleExceptionCall, classifyForBreaker, *]

end
end Redress

/-! ## `Ext`: what does not touch the policy's `ExecutionContext` or the embedded breaker

`Foot` does not constrain `World.xc` / `World.breaker`.  `Ext K w w'` says: the log grew by exchanges
whose request kinds satisfy `K`, and `xc` and `breaker` are the same (everything else is free; it is
stated on these three projections, so an update of any other field keeps it by unfolding).  It is proved
below for the WHOLE retry loop, procedure by procedure up to `runCall` / `runExecute` (a few straight-line
ones inside their callers), with `K = loopK` (every request kind but the breaker's four): the loop never
talks to the breaker and never touches the execution context — only the `Policy.*` procedures do.  So a
property about the breaker or the execution context sees a whole `Retry` run as one step that appends to
the log. -/

namespace Redress
open Retry

def loopK : Kind → Bool
  | .breakerAllow | .breakerSuccess | .breakerFailure | .breakerCancel => false
  | _ => true

/-- `Ext` on the projections: the log grew by exchanges of kinds in `K`; execution context and
    embedded breaker are the same -/
structure ExtP (K : Kind → Bool) (tr : List (Req × Ans)) (xc : XCtx) (br : Breaker.St)
    (tr' : List (Req × Ans)) (xc' : XCtx) (br' : Breaker.St) : Prop where
  trace : ∃ δ, tr' = δ ++ tr ∧ ∀ x ∈ δ, K x.1.kind = true
  xc : xc' = xc
  breaker : br' = br

/-- `w'` arises from `w` by appending exchanges whose request kinds satisfy `K` (and anything that
    does not touch the log, the policy's `ExecutionContext` or the embedded breaker) -/
def Ext (K : Kind → Bool) (w w' : World) : Prop :=
  ExtP K w.trace w.xc w.breaker w'.trace w'.xc w'.breaker

theorem ExtP.refl (K : Kind → Bool) (tr : List (Req × Ans)) (xc : XCtx) (br : Breaker.St) :
    ExtP K tr xc br tr xc br := ⟨⟨[], by simp, by simp⟩, rfl, rfl⟩

theorem ExtP.trans {K : Kind → Bool} {t₁ t₂ t₃ : List (Req × Ans)} {x₁ x₂ x₃ : XCtx}
    {b₁ b₂ b₃ : Breaker.St} (h₁ : ExtP K t₁ x₁ b₁ t₂ x₂ b₂) (h₂ : ExtP K t₂ x₂ b₂ t₃ x₃ b₃) :
    ExtP K t₁ x₁ b₁ t₃ x₃ b₃ := by
  obtain ⟨δ₁, e₁, k₁⟩ := h₁.trace
  obtain ⟨δ₂, e₂, k₂⟩ := h₂.trace
  refine ⟨⟨δ₂ ++ δ₁, by simp [e₂, e₁], ?_⟩, by rw [h₂.xc, h₁.xc], by rw [h₂.breaker, h₁.breaker]⟩
  intro x hx
  rcases List.mem_append.mp hx with h | h
  · exact k₂ x h
  · exact k₁ x h

/-- one exchange logged -/
theorem ExtP.cons {K : Kind → Bool} (r : Req) (a : Ans) (tr : List (Req × Ans)) (xc : XCtx)
    (br : Breaker.St) (hk : K r.kind = true) : ExtP K tr xc br ((r, a) :: tr) xc br :=
  ⟨⟨[(r, a)], by simp, by simp [hk]⟩, rfl, rfl⟩

theorem Ext.refl (K : Kind → Bool) (w : World) : Ext K w w := ExtP.refl ..

theorem Ext.trans {K : Kind → Bool} {w₁ w₂ w₃ : World} (h₁ : Ext K w₁ w₂) (h₂ : Ext K w₂ w₃) :
    Ext K w₁ w₃ := ExtP.trans h₁ h₂

theorem Ext.mono {K K' : Kind → Bool} {w w' : World} (h : Ext K w w')
    (hk : ∀ k, K k = true → K' k = true) : Ext K' w w' := by
  obtain ⟨δ, e, k⟩ := h.trace
  exact ⟨⟨δ, e, fun x hx => hk _ (k x hx)⟩, h.xc, h.breaker⟩

abbrev extPost (K : Kind → Bool) (w0 : World) : PostCond α (.except Exn (.arg World .pure)) :=
  post⟨fun _ w => ⌜Ext K w0 w⌝, fun _ w => ⌜Ext K w0 w⌝⟩

/-- `Ext`: the log only grows -/
theorem Ext.grows {K : Kind → Bool} {w w' : World} (h : Ext K w w') : ∃ δ, w'.trace = δ ++ w.trace := by
  obtain ⟨δ, e, _⟩ := h.trace
  exact ⟨δ, e⟩

/-- From an `Ext` lemma to "a predicate that survives growth of the log is preserved" (both exits). -/
theorem inv_of_ext {α : Type} {x : M α} {K : Kind → Bool} (I : World → Prop)
    (hx : ∀ w0, ⦃fun w => ⌜Ext K w0 w⌝⦄ x ⦃extPost K w0⦄)
    (hI : ∀ w w', Ext K w w' → I w → I w') :
    ⦃fun w => ⌜I w⌝⦄ x ⦃post⟨fun _ w => ⌜I w⌝, fun _ w => ⌜I w⌝⟩⦄ :=
  triple_of_rel hx (Ext.refl _) (fun _ _ _ hw t => hI _ _ t hw) fun _ _ _ hw t => hI _ _ t hw

section
variable (K : Kind → Bool) (w0 : World)

theorem ask_ext (r : Req) (hk : K r.kind = true) :
    ⦃fun w => ⌜Ext K w0 w⌝⦄ ask r ⦃extPost K w0⦄ :=
  ask_triple r (fun _ _ h _ => ExtP.trans h (ExtP.cons _ _ _ _ _ hk))
    fun _ _ _ h => ExtP.trans h (ExtP.cons _ _ _ _ _ hk)

theorem askHook_ext (r : Req) (hk : K r.kind = true) :
    ⦃fun w => ⌜Ext K w0 w⌝⦄ askHook r ⦃extPost K w0⦄ :=
  askHook_triple r (ask_ext K w0 r hk) (fun w h => presil_cases (Ext K w0) w (fun _ => h))

theorem abortIf_ext (ha : K .abortIf = true) :
    ⦃fun w => ⌜Ext K w0 w⌝⦄ ask .abortIf ⦃extPost K w0⦄ := ask_ext K w0 _ ha

/-! the policy-level leaves that touch neither the execution context nor the breaker -/
open Policy

theorem emitBreakerEvent_ext (hm : K .metric = true) (hl : K .log = true) (cfg : Cfg)
    (ev : Option Event) (st : CState) (k : Option EClass) :
    ⦃fun w => ⌜Ext K w0 w⌝⦄ emitBreakerEvent cfg ev st k ⦃extPost K w0⦄ := by
  have := fun ev t => askHook_ext K w0 (.metric ev 0 0 t) hm
  have := fun ev t => askHook_ext K w0 (.log ev 0 0 t none) hl
  mvcgen [emitBreakerEvent, askMetric, askLog, swallowException, *]
  -- what is left is the normal exit of each `try`, an entailment between identical assertions
  all_goals exact id

theorem noRetryStartHook_ext (hs : K .attemptStart = true) (cfg : Cfg) :
    ⦃fun w => ⌜Ext K w0 w⌝⦄ noRetryStartHook cfg ⦃extPost K w0⦄ := by
  have := fun c => ask_ext K w0 (.attemptStart c) hs
  mvcgen [noRetryStartHook, xElapsed, *]

theorem noRetryEndHook_ext (he : K .attemptEnd = true) (cfg : Cfg) (exc : Option Exn)
    (result : Option Nat) (d : AttemptDecision) (stop : Option StopReason) (cause : Option Cause) :
    ⦃fun w => ⌜Ext K w0 w⌝⦄ noRetryEndHook cfg exc result d stop cause ⦃extPost K w0⦄ := by
  have := fun c => ask_ext K w0 (.attemptEnd c) he
  mvcgen [noRetryEndHook, xElapsed, *]

theorem classifyForBreaker_ext (hc : K .classify = true) (cfg : Cfg) (e : Exn) :
    ⦃fun w => ⌜Ext K w0 w⌝⦄ classifyForBreaker cfg e ⦃extPost K w0⦄ := by
  have := ask_ext K w0 (.classify e.ref) hc
  mvcgen [classifyForBreaker, callClassifier, *]

end

section
variable (w0 : World)

theorem setStop_ext (s : StopReason) :
    ⦃fun w => ⌜Ext loopK w0 w⌝⦄ setStop s ⦃extPost loopK w0⦄ := by
  mvcgen [setStop, modifyRS]

theorem metricHook_ext (cfg : Cfg) (tl : Bool) (ev : Event) (a s : Nat) (t : Tags) :
    ⦃fun w => ⌜Ext loopK w0 w⌝⦄ metricHook cfg tl ev a s t ⦃extPost loopK w0⦄ := by
  have := askHook_ext loopK w0
  mvcgen [metricHook, recordTimeline, askMetric, *]

theorem emit_ext (cfg : Cfg) (tl : Bool) (ev : Event) (attempt sleep : Nat) (klass : Option EClass) (exc : Option Exn) (stop : Option StopReason) (cause : Option Cause) (cls : Option Classification) :
    ⦃fun w => ⌜Ext loopK w0 w⌝⦄ emit cfg tl ev attempt sleep klass exc stop cause cls ⦃extPost loopK w0⦄ := by
  have := metricHook_ext w0
  have := askHook_ext loopK w0
  mvcgen [emit, askLog, swallowException, *]
  -- the normal exit of each `try`
  all_goals exact id

theorem checkAbort_ext (cfg : Cfg) (tl : Bool) (attempt : Nat) :
    ⦃fun w => ⌜Ext loopK w0 w⌝⦄ checkAbort cfg tl attempt ⦃extPost loopK w0⦄ := by
  have := ask_ext loopK w0
  have := setStop_ext w0
  have := emit_ext w0
  mvcgen [checkAbort, *]

theorem recordStrategySuccess_ext (cfg : Cfg) :
    ⦃fun w => ⌜Ext loopK w0 w⌝⦄ recordStrategySuccess cfg ⦃extPost loopK w0⦄ := by
  have := ask_ext loopK w0
  mvcgen [recordStrategySuccess, getRS, *]

theorem stratRecordFailure_ext (cfg : Cfg) (key : SKey) (k : EClass) :
    ⦃fun w => ⌜Ext loopK w0 w⌝⦄ stratRecordFailure cfg key k ⦃extPost loopK w0⦄ := by
  have := ask_ext loopK w0
  mvcgen [stratRecordFailure, *]

theorem budgetConsume_ext (cfg : Cfg) :
    ⦃fun w => ⌜Ext loopK w0 w⌝⦄ budgetConsume cfg ⦃extPost loopK w0⦄ := by
  mvcgen [budgetConsume]
  exact ExtP.trans ‹_› (ExtP.cons _ _ _ _ _ rfl)

theorem stopWith_ext (cfg : Cfg) (tl : Bool) (s : StopReason) (ev : Event) (attempt : Nat) (k : EClass) (exc : Option Exn) (cause : Cause) :
    ⦃fun w => ⌜Ext loopK w0 w⌝⦄ stopWith cfg tl s ev attempt k exc cause ⦃extPost loopK w0⦄ := by
  have := setStop_ext w0
  have := emit_ext w0
  mvcgen [stopWith, *]

theorem grantRetry_ext (cfg : Cfg) (tl : Bool) (c : Classification) (a : Nat) (cause : Cause) (e : Option Exn) (key : SKey) (kind : SKind) (rem : Nat) :
    ⦃fun w => ⌜Ext loopK w0 w⌝⦄ grantRetry cfg tl c a cause e key kind rem ⦃extPost loopK w0⦄ := by
  have := ask_ext loopK w0
  have := budgetConsume_ext w0
  have := emit_ext w0
  have := stopWith_ext w0
  mvcgen [grantRetry, callStrategy, getRS, modifyRS, *]

theorem handleFailure2_ext (cfg : Cfg) (tl : Bool) (c : Classification) (a : Nat) (cause : Cause) (e : Option Exn) :
    ⦃fun w => ⌜Ext loopK w0 w⌝⦄ handleFailure2 cfg tl c a cause e ⦃extPost loopK w0⦄ := by
  have := stopWith_ext w0
  have := stratRecordFailure_ext w0
  have := grantRetry_ext w0
  mvcgen [handleFailure2, elapsed, modifyRS, *]

theorem handleUnknown_ext (cfg : Cfg) (tl : Bool) (c : Classification) (a : Nat) (cause : Cause) (e : Option Exn) :
    ⦃fun w => ⌜Ext loopK w0 w⌝⦄ handleUnknown cfg tl c a cause e ⦃extPost loopK w0⦄ := by
  have := stopWith_ext w0
  have := handleFailure2_ext w0
  mvcgen [handleUnknown, getRS, modifyRS, *]

theorem handleFailure1_ext (cfg : Cfg) (tl : Bool) (c : Classification) (a : Nat) (cause : Cause) (e : Option Exn) :
    ⦃fun w => ⌜Ext loopK w0 w⌝⦄ handleFailure1 cfg tl c a cause e ⦃extPost loopK w0⦄ := by
  have := stopWith_ext w0
  have := handleUnknown_ext w0
  have := handleFailure2_ext w0
  mvcgen [handleFailure1, getRS, *]

theorem handleFailure_ext (cfg : Cfg) (tl : Bool) (c : Classification) (a : Nat) (cause : Cause) (e : Option Exn) (r : Option Nat) :
    ⦃fun w => ⌜Ext loopK w0 w⌝⦄ handleFailure cfg tl c a cause e r ⦃extPost loopK w0⦄ := by
  have := handleFailure1_ext w0
  mvcgen [handleFailure, Retry.recordFailure, modifyRS, *]

theorem handleException_ext (cfg : Cfg) (tl : Bool) (e : Exn) (a : Nat) :
    ⦃fun w => ⌜Ext loopK w0 w⌝⦄ handleException cfg tl e a ⦃extPost loopK w0⦄ := by
  have := ask_ext loopK w0
  have := handleFailure_ext w0
  mvcgen [handleException, callClassifier, *]

theorem buildOutcome_ext (ok : Bool) (value : Option Nat) (n : Nat) (ns : Option Nat) :
    ⦃fun w => ⌜Ext loopK w0 w⌝⦄ buildOutcome ok value n ns ⦃extPost loopK w0⦄ := by
  mvcgen [buildOutcome, getRS, elapsed]

theorem emitAbortedOnce_ext (cfg : Cfg) (tl : Bool) (a : Nat) :
    ⦃fun w => ⌜Ext loopK w0 w⌝⦄ emitAbortedOnce cfg tl a ⦃extPost loopK w0⦄ := by
  have := setStop_ext w0
  have := emit_ext w0
  mvcgen [emitAbortedOnce, getRS, *]

theorem abortOutcome_ext (cfg : Cfg) (tl : Bool) (a : Nat) :
    ⦃fun w => ⌜Ext loopK w0 w⌝⦄ abortOutcome cfg tl a ⦃extPost loopK w0⦄ := by
  have := emitAbortedOnce_ext w0
  have := buildOutcome_ext w0
  mvcgen [abortOutcome, *]

theorem callAttemptStart_ext (cfg : Cfg) (a : Nat) :
    ⦃fun w => ⌜Ext loopK w0 w⌝⦄ callAttemptStart cfg a ⦃extPost loopK w0⦄ := by
  have := ask_ext loopK w0
  mvcgen [callAttemptStart, elapsed, *]

theorem callAttemptEnd_ext (cfg : Cfg) (attempt : Nat) (cls : Option Classification) (exc : Option Exn) (result : Option Nat) (d : AttemptDecision) (stop : Option StopReason) (cause : Option Cause) (sleep : Option Nat) :
    ⦃fun w => ⌜Ext loopK w0 w⌝⦄ callAttemptEnd cfg attempt cls exc result d stop cause sleep ⦃extPost loopK w0⦄ := by
  have := ask_ext loopK w0
  mvcgen [callAttemptEnd, elapsed, *]

theorem callAttemptEndFromOutcome_ext (cfg : Cfg) (a : Nat) (o : AOutcome) :
    ⦃fun w => ⌜Ext loopK w0 w⌝⦄ callAttemptEndFromOutcome cfg a o ⦃extPost loopK w0⦄ := by
  have := callAttemptEnd_ext w0
  mvcgen [callAttemptEndFromOutcome, *]

theorem finalizeAttempt_ext (cfg : Cfg) (tl : Bool) (a : Nat) (d : Decision) (act : Option SleepDecision) (cls : Option Classification) (e : Option Exn) (r : Option Nat) (c : Option Cause) :
    ⦃fun w => ⌜Ext loopK w0 w⌝⦄ finalizeAttempt cfg tl a d act cls e r c ⦃extPost loopK w0⦄ := by
  have := setStop_ext w0
  have := emit_ext w0
  mvcgen [finalizeAttempt, getRS, elapsed, *]

theorem handleSleepDecision_ext (cfg : Cfg) (tl : Bool) (act : SleepDecision) (a s : Nat) :
    ⦃fun w => ⌜Ext loopK w0 w⌝⦄ handleSleepDecision cfg tl act a s ⦃extPost loopK w0⦄ := by
  have := setStop_ext w0
  have := emit_ext w0
  have := emitAbortedOnce_ext w0
  mvcgen [handleSleepDecision, getRS, *]

theorem callBeforeSleep_ext (cfg : Cfg) (ctx : BackoffCtx) (s : Nat) :
    ⦃fun w => ⌜Ext loopK w0 w⌝⦄ callBeforeSleep cfg ctx s ⦃extPost loopK w0⦄ := by
  have := askHook_ext loopK w0
  mvcgen [callBeforeSleep, swallowException, *]

theorem sleepAction_ext (cfg : Cfg) (tl : Bool) (a s : Nat) (ctx : BackoffCtx) :
    ⦃fun w => ⌜Ext loopK w0 w⌝⦄ sleepAction cfg tl a s ctx ⦃extPost loopK w0⦄ := by
  have := callBeforeSleep_ext w0
  have := ask_ext loopK w0
  have := handleSleepDecision_ext w0
  mvcgen [sleepAction, callSleepHandler, callSleeper, *]

theorem failureOutcome_ext (cfg : Cfg) (tl : Bool) (a : Nat) (d : Decision) (cls : Option Classification) (e : Option Exn) (r : Option Nat) (c : Option Cause) :
    ⦃fun w => ⌜Ext loopK w0 w⌝⦄ failureOutcome cfg tl a d cls e r c ⦃extPost loopK w0⦄ := by
  have := finalizeAttempt_ext w0
  have := sleepAction_ext w0
  mvcgen [failureOutcome, *]

theorem shouldClassifyResult_ext (cfg : Cfg) (x : Nat) :
    ⦃fun w => ⌜Ext loopK w0 w⌝⦄ shouldClassifyResult cfg x ⦃extPost loopK w0⦄ := by
  have := ask_ext loopK w0
  mvcgen [shouldClassifyResult, *]

theorem handleSuccessAttemptEnd_ext (cfg : Cfg) (tl : Bool) (a x : Nat) :
    ⦃fun w => ⌜Ext loopK w0 w⌝⦄ handleSuccessAttemptEnd cfg tl a x ⦃extPost loopK w0⦄ := by
  have := recordStrategySuccess_ext w0
  have := emit_ext w0
  have := callAttemptEnd_ext w0
  mvcgen [handleSuccessAttemptEnd, *]

theorem handleAbortAttemptEnd_ext (cfg : Cfg) (a : Nat) (e : Exn) :
    ⦃fun w => ⌜Ext loopK w0 w⌝⦄ handleAbortAttemptEnd cfg a e ⦃extPost loopK w0⦄ := by
  have := callAttemptEnd_ext w0
  mvcgen [handleAbortAttemptEnd, getAS, modifyAS, *]

theorem emitMaxAttemptsExceeded_ext (cfg : Cfg) (tl : Bool) :
    ⦃fun w => ⌜Ext loopK w0 w⌝⦄ emitMaxAttemptsExceeded cfg tl ⦃extPost loopK w0⦄ := by
  have := emit_ext w0
  have := setStop_ext w0
  mvcgen [emitMaxAttemptsExceeded, getRS, *]

theorem raiseExhaustedCall_ext (cfg : Cfg) :
    ⦃fun w => ⌜Ext loopK w0 w⌝⦄ raiseExhaustedCall cfg ⦃extPost loopK w0⦄ := by
  have := emitMaxAttemptsExceeded_ext w0
  mvcgen [raiseExhaustedCall, getRS, *]

theorem invokeOp_ext (a : Nat) :
    ⦃fun w => ⌜Ext loopK w0 w⌝⦄ invokeOp a ⦃extPost loopK w0⦄ := by
  have := ask_ext loopK w0
  mvcgen [invokeOp, *]

theorem deliverCall_ext (act : Action) (orig : Option Exn) (fb : ExhaustedFields) :
    ⦃fun w => ⌜Ext loopK w0 w⌝⦄ deliverCall act orig fb ⦃extPost loopK w0⦄ := by
  mvcgen [deliverCall]

theorem callExceptionPath_ext (cfg : Cfg) (a : Nat) (e : Exn) :
    ⦃fun w => ⌜Ext loopK w0 w⌝⦄ callExceptionPath cfg a e ⦃extPost loopK w0⦄ := by
  have := checkAbort_ext w0
  have := handleException_ext w0
  have := failureOutcome_ext w0
  have := callAttemptEndFromOutcome_ext w0
  have := deliverCall_ext w0
  mvcgen [callExceptionPath, getRS, modifyAS, *]

theorem callOpHandler_ext (cfg : Cfg) (a : Nat) (e : Exn) :
    ⦃fun w => ⌜Ext loopK w0 w⌝⦄ callOpHandler cfg a e ⦃extPost loopK w0⦄ := by
  have := handleAbortAttemptEnd_ext w0
  have := emitAbortedOnce_ext w0
  have := callExceptionPath_ext w0
  mvcgen [callOpHandler, *]

theorem callResultFailure_ext (cfg : Cfg) (a x : Nat) (c : Classification) :
    ⦃fun w => ⌜Ext loopK w0 w⌝⦄ callResultFailure cfg a x c ⦃extPost loopK w0⦄ := by
  have := checkAbort_ext w0
  have := handleFailure_ext w0
  have := failureOutcome_ext w0
  have := callAttemptEndFromOutcome_ext w0
  have := deliverCall_ext w0
  mvcgen [callResultFailure, getRS, modifyAS, *]

theorem callResultPath_ext (cfg : Cfg) (a x : Nat) :
    ⦃fun w => ⌜Ext loopK w0 w⌝⦄ callResultPath cfg a x ⦃extPost loopK w0⦄ := by
  have := shouldClassifyResult_ext w0
  have := handleSuccessAttemptEnd_ext w0
  have := callResultFailure_ext w0
  mvcgen [callResultPath, *]

theorem callAttempt_ext (cfg : Cfg) (a : Nat) :
    ⦃fun w => ⌜Ext loopK w0 w⌝⦄ callAttempt cfg a ⦃extPost loopK w0⦄ := by
  have := checkAbort_ext w0
  have := callAttemptStart_ext w0
  have := invokeOp_ext w0
  have := callOpHandler_ext w0
  have := callResultPath_ext w0
  mvcgen [callAttempt, modifyAS, *]

theorem callLoop_ext (cfg : Cfg) : ∀ (fuel a : Nat),
    ⦃fun w => ⌜Ext loopK w0 w⌝⦄ callLoop cfg fuel a ⦃extPost loopK w0⦄ := by
  intro fuel
  induction fuel with
  | zero =>
    intro a
    have := raiseExhaustedCall_ext w0
    mvcgen [callLoop, *]
  | succ f ih =>
    intro a
    have := ih (a + 1)
    have := callAttempt_ext w0
    have := raiseExhaustedCall_ext w0
    mvcgen [callLoop, *]

theorem initState_ext :
    ⦃fun w => ⌜Ext loopK w0 w⌝⦄ initState ⦃extPost loopK w0⦄ := by
  mvcgen [initState]

theorem runCall_ext (cfg : Cfg) :
    ⦃fun w => ⌜Ext loopK w0 w⌝⦄ runCall cfg ⦃extPost loopK w0⦄ := by
  have := initState_ext w0
  have := callLoop_ext w0
  mvcgen [runCall, *]

theorem deliverExecute_ext (cfg : Cfg) (tl : Bool) (act : Action) (o : AOutcome) :
    ⦃fun w => ⌜Ext loopK w0 w⌝⦄ deliverExecute cfg tl act o ⦃extPost loopK w0⦄ := by
  have := abortOutcome_ext w0
  have := buildOutcome_ext w0
  mvcgen [deliverExecute, *]

theorem execResultFailure_ext (cfg : Cfg) (tl : Bool) (a x : Nat) (c : Classification) :
    ⦃fun w => ⌜Ext loopK w0 w⌝⦄ execResultFailure cfg tl a x c ⦃extPost loopK w0⦄ := by
  have := checkAbort_ext w0
  have := handleFailure_ext w0
  have := failureOutcome_ext w0
  have := callAttemptEndFromOutcome_ext w0
  have := deliverExecute_ext w0
  mvcgen [execResultFailure, getRS, modifyAS, *]

theorem execPre_ext (cfg : Cfg) (tl : Bool) (a : Nat) :
    ⦃fun w => ⌜Ext loopK w0 w⌝⦄ execPre cfg tl a ⦃extPost loopK w0⦄ := by
  have := checkAbort_ext w0
  have := callAttemptStart_ext w0
  have := invokeOp_ext w0
  mvcgen [execPre, modifyAS, *]

theorem execResultPath_ext (cfg : Cfg) (tl : Bool) (a x : Nat) :
    ⦃fun w => ⌜Ext loopK w0 w⌝⦄ execResultPath cfg tl a x ⦃extPost loopK w0⦄ := by
  have := shouldClassifyResult_ext w0
  have := handleSuccessAttemptEnd_ext w0
  have := buildOutcome_ext w0
  have := execResultFailure_ext w0
  mvcgen [execResultPath, *]

theorem execAbortExit_ext (cfg : Cfg) (tl : Bool) (a : Nat) (e : Exn) :
    ⦃fun w => ⌜Ext loopK w0 w⌝⦄ execAbortExit cfg tl a e ⦃extPost loopK w0⦄ := by
  have := handleAbortAttemptEnd_ext w0
  have := abortOutcome_ext w0
  mvcgen [execAbortExit, *]

theorem checkAbortCaught_ext (cfg : Cfg) (tl : Bool) (a : Nat) :
    ⦃fun w => ⌜Ext loopK w0 w⌝⦄ checkAbortCaught cfg tl a ⦃extPost loopK w0⦄ := by
  have := checkAbort_ext w0
  mvcgen [checkAbortCaught, abortToTrue, *]

theorem execExceptionPath3_ext (cfg : Cfg) (tl : Bool) (a : Nat) (e : Exn) (d : Decision) :
    ⦃fun w => ⌜Ext loopK w0 w⌝⦄ execExceptionPath3 cfg tl a e d ⦃extPost loopK w0⦄ := by
  have := failureOutcome_ext w0
  have := callAttemptEndFromOutcome_ext w0
  have := deliverExecute_ext w0
  mvcgen [execExceptionPath3, getRS, modifyAS, *]

theorem execExceptionPath2_ext (cfg : Cfg) (tl : Bool) (a : Nat) (e : Exn) :
    ⦃fun w => ⌜Ext loopK w0 w⌝⦄ execExceptionPath2 cfg tl a e ⦃extPost loopK w0⦄ := by
  have := handleException_ext w0
  have := execExceptionPath3_ext w0
  have := checkAbortCaught_ext w0
  have := execAbortExit_ext w0
  mvcgen [execExceptionPath2, getRS, modifyAS, *]

theorem execExceptionPath_ext (cfg : Cfg) (tl : Bool) (a : Nat) (e : Exn) :
    ⦃fun w => ⌜Ext loopK w0 w⌝⦄ execExceptionPath cfg tl a e ⦃extPost loopK w0⦄ := by
  have := checkAbortCaught_ext w0
  have := execAbortExit_ext w0
  have := execExceptionPath2_ext w0
  mvcgen [execExceptionPath, modifyAS, *]

theorem execHandler_ext (cfg : Cfg) (tl : Bool) (a : Nat) (e : Exn) :
    ⦃fun w => ⌜Ext loopK w0 w⌝⦄ execHandler cfg tl a e ⦃extPost loopK w0⦄ := by
  have := execAbortExit_ext w0
  have := execExceptionPath_ext w0
  mvcgen [execHandler, *]

theorem execReturnedHandler_ext (cfg : Cfg) (tl : Bool) (a : Nat) (e : Exn) :
    ⦃fun w => ⌜Ext loopK w0 w⌝⦄ execReturnedHandler cfg tl a e ⦃extPost loopK w0⦄ := by
  have := execAbortExit_ext w0
  mvcgen [execReturnedHandler, *]

theorem execAttempt_ext (cfg : Cfg) (tl : Bool) (a : Nat) :
    ⦃fun w => ⌜Ext loopK w0 w⌝⦄ execAttempt cfg tl a ⦃extPost loopK w0⦄ := by
  have := execPre_ext w0
  have := execHandler_ext w0
  have := execResultPath_ext w0
  have := execReturnedHandler_ext w0
  mvcgen [execAttempt, *]
  -- the normal exit of the second `try`
  exact id

theorem buildExhaustedOutcome_ext (cfg : Cfg) (tl : Bool) :
    ⦃fun w => ⌜Ext loopK w0 w⌝⦄ buildExhaustedOutcome cfg tl ⦃extPost loopK w0⦄ := by
  have := emitMaxAttemptsExceeded_ext w0
  have := buildOutcome_ext w0
  mvcgen [buildExhaustedOutcome, *]

theorem execLoop_ext (cfg : Cfg) (tl : Bool) : ∀ (fuel a : Nat),
    ⦃fun w => ⌜Ext loopK w0 w⌝⦄ execLoop cfg tl fuel a ⦃extPost loopK w0⦄ := by
  intro fuel
  induction fuel with
  | zero =>
    intro a
    have := buildExhaustedOutcome_ext w0
    mvcgen [execLoop, *]
  | succ f ih =>
    intro a
    have := ih (a + 1)
    have := execAttempt_ext w0
    have := buildExhaustedOutcome_ext w0
    mvcgen [execLoop, *]

theorem runExecute_ext (cfg : Cfg) :
    ⦃fun w => ⌜Ext loopK w0 w⌝⦄ runExecute cfg ⦃extPost loopK w0⦄ := by
  have := initState_ext w0
  have := execLoop_ext w0
  mvcgen [runExecute, *]

end

end Redress

/-! ## `FootX` / `FootXS`: request-level footprints with exact time, `last_stop_reason` tracking and
    exception provenance

`FootX Q w0 w`: `w` arises from `w0` by appending exchanges whose REQUESTS satisfy `Q`, the clock
advancing by exactly the durations of their answers; `rs` unchanged.  `FootXS`: the same, except that
`rs.lastStop` may have changed (procedures that set `last_stop_reason`).  On the exceptional exit every
lemma also says where the exception comes from (`ExcX` / `ExcS`): one of the procedure's own `raise`
statements (`Own`), or a callback that raised it since `w0` and whose error the library does not
swallow (`Prov`; `stuck` is the model's "ill-shaped or missing oracle answer").  Some lemmas also say
what the procedure returns (`_build_outcome`, `_handle_sleep_decision`, …). -/

namespace Redress.FX
open Redress Redress.Retry

/-- `Redress.dsum` again, under the name the structures of this namespace use -/
def durSum : List (Req × Ans) → Nat
  | [] => 0
  | x :: xs => x.2.dur + durSum xs

theorem durSum_append (a b : List (Req × Ans)) : durSum (a ++ b) = durSum a + durSum b := by
  induction a with
  | nil => simp [durSum]
  | cons x xs ih => simp [durSum, ih, Nat.add_assoc]

/-- requests whose `Exception`s the library swallows (`emit`, `_emit_breaker_event`, `_call_before_sleep`) -/
def swallowed : Req → Bool
  | .metric .. | .log .. | .beforeSleep .. => true
  | _ => false

/-- the breaker's own events -/
def circuitEv : Event → Bool
  | .circuitOpened | .circuitHalfOpen | .circuitClosed | .circuitRejected => true
  | _ => false

/-- `e` was raised by a callback in `δ`, and not where it would have been swallowed -/
def raisedIn (e : Exn) (δ : List (Req × Ans)) : Prop :=
  ∃ r d, (r, Ans.raise e d) ∈ δ ∧ (swallowed r = true → e.isException = false)

/-- A *request-level footprint*: `w` arises from `w0` by appending exchanges whose requests all satisfy
    `Q`, the clock advancing by exactly their durations; `rs` is unchanged. -/
structure FootX (Q : Req → Bool) (w0 w : World) : Prop where
  trace : ∃ δ, w.trace = δ ++ w0.trace ∧ (∀ x ∈ δ, Q x.1 = true) ∧ w.now = w0.now + durSum δ
  rs : w.rs = w0.rs

/-- like `FootX`, except that `rs` may differ in `lastStop` -/
structure FootXS (Q : Req → Bool) (w0 w : World) : Prop where
  trace : ∃ δ, w.trace = δ ++ w0.trace ∧ (∀ x ∈ δ, Q x.1 = true) ∧ w.now = w0.now + durSum δ
  rs : w.rs = { w0.rs with lastStop := w.rs.lastStop }

/-- where an exception leaving a procedure comes from: an ill-shaped / missing oracle answer (model
    only), or a callback that raised it since `w0` -/
def Prov (e : Exn) (w0 w : World) : Prop :=
  e = .stuck ∨ ∃ δ, w.trace = δ ++ w0.trace ∧ raisedIn e δ

section
variable {Q : Req → Bool}

theorem FootX.toS {w w' : World} (h : FootX Q w w') : FootXS Q w w' :=
  ⟨h.trace, by rw [h.rs]⟩

theorem FootX.lastStop {w w' : World} (h : FootX Q w w') : w'.rs.lastStop = w.rs.lastStop := by rw [h.rs]

theorem FootX.refl (w : World) : FootX Q w w :=
  ⟨⟨[], by simp, by simp, by simp [durSum]⟩, rfl⟩

theorem FootXS.refl (w : World) : FootXS Q w w := (FootX.refl w).toS

theorem FootXS.trans {w₁ w₂ w₃ : World} (h₁ : FootXS Q w₁ w₂) (h₂ : FootXS Q w₂ w₃) : FootXS Q w₁ w₃ := by
  obtain ⟨δ₁, e₁, k₁, t₁⟩ := h₁.trace
  obtain ⟨δ₂, e₂, k₂, t₂⟩ := h₂.trace
  refine ⟨⟨δ₂ ++ δ₁, by simp [e₂, e₁], ?_, by rw [t₂, t₁, durSum_append]; omega⟩, by rw [h₂.rs, h₁.rs]⟩
  intro x hx
  rcases List.mem_append.mp hx with h | h
  · exact k₂ x h
  · exact k₁ x h

theorem FootX.trans {w₁ w₂ w₃ : World} (h₁ : FootX Q w₁ w₂) (h₂ : FootX Q w₂ w₃) : FootX Q w₁ w₃ :=
  ⟨(h₁.toS.trans h₂.toS).trace, by rw [h₂.rs, h₁.rs]⟩

theorem FootXS.mono {Q' : Req → Bool} {w w' : World} (h : FootXS Q w w')
    (hq : ∀ r, Q r = true → Q' r = true) : FootXS Q' w w' := by
  obtain ⟨δ, e, k, t⟩ := h.trace
  exact ⟨⟨δ, e, fun x hx => hq _ (k x hx), t⟩, h.rs⟩

theorem FootX.mono {Q' : Req → Bool} {w w' : World} (h : FootX Q w w')
    (hq : ∀ r, Q r = true → Q' r = true) : FootX Q' w w' :=
  ⟨(h.toS.mono hq).trace, h.rs⟩

/-- one exchange -/
theorem FootX.exchange (w : World) (r : Req) (a : Ans) (rest : List Ans) (hk : Q r = true) :
    FootX Q w { w with answers := rest, now := w.now + a.dur, trace := (r, a) :: w.trace } :=
  ⟨⟨[(r, a)], rfl, by simp [hk], by simp [durSum]⟩, rfl⟩

/-- the oracle is exhausted -/
theorem FootX.exhausted (w : World) (r : Req) (hk : Q r = true) :
    FootX Q w { w with trace := (r, Ans.raise .stuck 0) :: w.trace } :=
  ⟨⟨[(r, Ans.raise .stuck 0)], rfl, by simp [hk], by simp [durSum, Ans.dur]⟩, rfl⟩

/-- changes outside the footprint's concern -/
theorem FootX.frame (w : World) (as : AState) (att oc : Nat) (tl : List TimelineEv) (tls : Nat)
    (bud : Budget.St) (br : Breaker.St) (xc : XCtx) :
    FootX Q w { w with as := as, attempts := att, opCalls := oc, timeline := tl, tlStart := tls,
                       budget := bud, breaker := br, xc := xc } :=
  ⟨⟨[], rfl, by simp, by simp [durSum]⟩, rfl⟩

/-- `lastStop` may change -/
theorem FootXS.stop (w : World) (stop : Option StopReason) :
    FootXS Q w { w with rs := { w.rs with lastStop := stop } } :=
  ⟨⟨[], rfl, by simp, by simp [durSum]⟩, rfl⟩

/-- an interaction with an embedded component, logged without consuming an oracle answer -/
theorem FootX.internal (w : World) (r : Req) (a : Ans) (bud : Budget.St) (br : Breaker.St) (xc : XCtx)
    (hk : Q r = true) (hd : a.dur = 0) :
    FootX Q w { w with trace := (r, a) :: w.trace, budget := bud, breaker := br, xc := xc } :=
  ⟨⟨[(r, a)], rfl, by simp [hk], by simp [durSum, hd]⟩, rfl⟩

theorem Prov.of_exchange (w : World) (r : Req) (e : Exn) (d : Nat) (rest : List Ans)
    (hs : swallowed r = true → e.isException = false) :
    Prov e w { w with answers := rest, now := w.now + d, trace := (r, Ans.raise e d) :: w.trace } :=
  Or.inr ⟨[(r, Ans.raise e d)], rfl, r, d, by simp, hs⟩

theorem Prov.of_exchange_sw (w : World) (r : Req) (e : Exn) (d : Nat) (rest : List Ans) :
    e.isException = true ∨
      Prov e w { w with answers := rest, now := w.now + d, trace := (r, Ans.raise e d) :: w.trace } := by
  cases he : e.isException
  · exact Or.inr (Prov.of_exchange _ _ _ _ _ (fun _ => he))
  · exact Or.inl rfl

theorem Prov.lift {e : Exn} {w0 w w' : World} (h : FootXS Q w0 w) (hp : Prov e w w') : Prov e w0 w' := by
  rcases hp with hp | ⟨δ, e₁, hr⟩
  · exact Or.inl hp
  · obtain ⟨δ₀, e₀, _, _⟩ := h.trace
    exact Or.inr ⟨δ ++ δ₀, by simp [e₁, e₀], by
      obtain ⟨r, d, hm, hs⟩ := hr
      exact ⟨r, d, List.mem_append_left _ hm, hs⟩⟩

end

/-- what is known when a procedure is left by an exception `e`: the footprint, and where `e` comes
    from — the procedure's own errors (`Own`) or a callback (`Prov`) -/
structure ExcX (Q : Req → Bool) (Own : Exn → Prop) (w0 w : World) (e : Exn) : Prop where
  foot : FootX Q w0 w
  src : Own e ∨ Prov e w0 w

structure ExcS (Q : Req → Bool) (Own : Exn → Prop) (w0 w : World) (e : Exn) : Prop where
  foot : FootXS Q w0 w
  src : Own e ∨ Prov e w0 w

/-- no errors of its own -/
abbrev noOwn : Exn → Prop := fun _ => False
/-- `Exception`s (they will be swallowed by the caller) -/
abbrev swOwn : Exn → Prop := fun e => e.isException = true

section
variable {Q : Req → Bool} {Own Own' : Exn → Prop} {e : Exn} {w0 w w' : World}

theorem ExcX.toS (h : ExcX Q Own w w' e) : ExcS Q Own w w' e := ⟨h.1.toS, h.2⟩

theorem ExcX.weaken (h : ExcX Q Own w w' e) (ho : Own e → Own' e) : ExcX Q Own' w w' e :=
  ⟨h.1, h.2.imp ho id⟩

theorem ExcS.weaken (h : ExcS Q Own w w' e) (ho : Own e → Own' e) : ExcS Q Own' w w' e :=
  ⟨h.1, h.2.imp ho id⟩

theorem ExcS.lift (h₀ : FootXS Q w0 w) (h : ExcS Q Own w w' e) : ExcS Q Own w0 w' e :=
  ⟨h₀.trans h.1, h.2.imp id (Prov.lift h₀)⟩

/-- an error of the procedure's own -/
theorem ExcX.own (h : FootX Q w0 w) (ho : Own e) : ExcX Q Own w0 w e := ⟨h, Or.inl ho⟩
theorem ExcS.own (h : FootXS Q w0 w) (ho : Own e) : ExcS Q Own w0 w e := ⟨h, Or.inl ho⟩

/-- what `swallowException` lets through -/
theorem ExcX.unswallow (h : ExcX Q swOwn w w' e) (he : ¬ e.isException = true) : ExcX Q Own w w' e :=
  ⟨h.1, h.2.elim (fun h' => absurd h' he) Or.inr⟩

theorem ExcX.unswallow' (h : ExcX Q swOwn w w' e) (he : e.isException = false) : ExcX Q Own w w' e :=
  h.unswallow (by simp [he])

end

theorem ExcX.stuck {Q : Req → Bool} {Own : Exn → Prop} {w0 w : World} (h : FootX Q w0 w) :
    ExcX Q Own w0 w .stuck := ⟨h, Or.inr (Or.inl rfl)⟩
theorem ExcS.stuck {Q : Req → Bool} {Own : Exn → Prop} {w0 w : World} (h : FootXS Q w0 w) :
    ExcS Q Own w0 w .stuck := ⟨h, Or.inr (Or.inl rfl)⟩

/-- postcondition: footprint on both exits, provenance on the exceptional one -/
abbrev fxPost (Q : Req → Bool) (w0 : World) (Own : Exn → Prop := noOwn) :
    PostCond α (.except Exn (.arg World .pure)) :=
  post⟨fun _ w => ⌜FootX Q w0 w⌝, fun e w => ⌜ExcX Q Own w0 w e⌝⟩

/-- `fxPost` for procedures that may set `lastStop` -/
abbrev fxsPost (Q : Req → Bool) (w0 : World) (Own : Exn → Prop := noOwn) :
    PostCond α (.except Exn (.arg World .pure)) :=
  post⟨fun _ w => ⌜FootXS Q w0 w⌝, fun e w => ⌜ExcS Q Own w0 w e⌝⟩

section
variable (Q : Req → Bool) (w0 : World)

theorem ask_fx (r : Req) (hk : Q r = true) (hs : swallowed r = false) :
    ⦃fun w => ⌜FootX Q w0 w⌝⦄ ask r ⦃fxPost Q w0⦄ :=
  ask_triple r (fun _ _ h _ => FootX.trans h (FootX.exchange _ _ _ _ hk))
    fun _ _ _ h => ⟨FootX.trans h (FootX.exchange _ _ _ _ hk),
      Or.inr (Prov.lift (FootX.toS h) (Prov.of_exchange _ _ _ _ _ (by simp [hs])))⟩

/-- a request whose `Exception`s the caller will sWallow: such an exception counts as the hook's own (`swOwn`) -/
theorem ask_fxW (r : Req) (hk : Q r = true) :
    ⦃fun w => ⌜FootX Q w0 w⌝⦄ ask r ⦃fxPost Q w0 swOwn⦄ :=
  ask_triple r (fun _ _ h _ => FootX.trans h (FootX.exchange _ _ _ _ hk))
    fun _ _ _ h => ⟨FootX.trans h (FootX.exchange _ _ _ _ hk),
      (Prov.of_exchange_sw _ _ _ _ _).imp id (Prov.lift (FootX.toS h))⟩

theorem askHook_fx (r : Req) (hk : Q r = true) (hs : swallowed r = false) :
    ⦃fun w => ⌜FootX Q w0 w⌝⦄ askHook r ⦃fxPost Q w0⦄ :=
  askHook_triple r (ask_fx Q w0 r hk hs) (fun w h => presil_cases (FootX Q w0) w (fun _ => ⟨h.1, h.2⟩))

theorem askHook_fxW (r : Req) (hk : Q r = true) :
    ⦃fun w => ⌜FootX Q w0 w⌝⦄ askHook r ⦃fxPost Q w0 swOwn⦄ :=
  askHook_triple r (ask_fxW Q w0 r hk) (fun w h => presil_cases (FootX Q w0) w (fun _ => ⟨h.1, h.2⟩))

/-- split every hypothesis that is a conjunction (mvcgen hands over a spec's postcondition as one fact) -/
macro "split_ands" : tactic => `(tactic| repeat (revert ‹_ ∧ _›; rintro ⟨_, _⟩))

/-- The VCs of `try: hook() except Exception: pass` once the hook's spec is in place: the normal exit is as
    it stands, an `Exception` is swallowed and its footprint stays, anything else leaves with its provenance. -/
macro "fx_swallow" : tactic =>
  `(tactic| all_goals first | exact id | exact ExcX.foot ‹_› | exact ExcX.unswallow ‹_› ‹_›)

/-- a spec about `FootX` gives the same spec about `FootXS` -/
theorem fxs_of_fx {α : Type} {x : M α} {P : α → World → Prop} {Own : Exn → Prop}
    (h : ∀ w0, ⦃fun w => ⌜FootX Q w0 w⌝⦄ x
      ⦃post⟨fun a w => ⌜P a w ∧ FootX Q w0 w⌝, fun e w => ⌜ExcX Q Own w0 w e⌝⟩⦄) :
    ⦃fun w => ⌜FootXS Q w0 w⌝⦄ x
      ⦃post⟨fun a w => ⌜P a w ∧ FootXS Q w0 w⌝, fun e w => ⌜ExcS Q Own w0 w e⌝⟩⦄ :=
  triple_of_rel h FootX.refl (fun _ _ _ hw t => ⟨t.1, hw.trans t.2.toS⟩) fun _ _ _ hw t => ExcS.lift hw t.toS

theorem fxs_of_fx' {α : Type} {x : M α} {Own : Exn → Prop}
    (h : ∀ w0, ⦃fun w => ⌜FootX Q w0 w⌝⦄ x ⦃fxPost Q w0 Own⦄) :
    ⦃fun w => ⌜FootXS Q w0 w⌝⦄ x ⦃fxsPost Q w0 Own⦄ :=
  triple_of_rel h FootX.refl (fun _ _ _ hw t => hw.trans t.toS) fun _ _ _ hw t => ExcS.lift hw t.toS

theorem setStop_fx (s : StopReason) :
    ⦃fun w => ⌜FootXS Q w0 w⌝⦄ setStop s
    ⦃post⟨fun _ w => ⌜w.rs.lastStop = some s ∧ FootXS Q w0 w⌝, fun e w => ⌜ExcS Q noOwn w0 w e⌝⟩⦄ := by
  mvcgen [setStop, modifyRS]
  exact ⟨rfl, FootXS.trans ‹_› (FootXS.stop _ _)⟩

theorem metricHook_fx (cfg : Cfg) (tl : Bool) (ev : Event) (a s : Nat) (t : Tags)
    (hm : Q (.metric ev a s t) = true) :
    ⦃fun w => ⌜FootX Q w0 w⌝⦄ metricHook cfg tl ev a s t ⦃fxPost Q w0 swOwn⦄ := by
  have := askHook_fxW Q w0 _ hm
  mvcgen [metricHook, recordTimeline, askMetric, *]
  all_goals exact FootX.trans ‹_› (FootX.frame ..)

/-- `emit`: only `BaseException`s of the hooks get out -/
theorem emit_fx (cfg : Cfg) (tl : Bool) (ev : Event) (attempt sleep : Nat) (klass : Option EClass)
    (exc : Option Exn) (stop : Option StopReason) (cause : Option Cause) (cls : Option Classification)
    (hm : ∀ t, Q (.metric ev attempt sleep t) = true) (hl : ∀ t ra, Q (.log ev attempt sleep t ra) = true) :
    ⦃fun w => ⌜FootX Q w0 w⌝⦄ emit cfg tl ev attempt sleep klass exc stop cause cls ⦃fxPost Q w0⦄ := by
  have := fun t => metricHook_fx Q w0 cfg tl ev attempt sleep t (hm t)
  have := fun t ra => askHook_fxW Q w0 _ (hl t ra)
  mvcgen [emit, askLog, swallowException, *]
  fx_swallow

theorem ask_fxs (r : Req) (hk : Q r = true) (hs : swallowed r = false) :
    ⦃fun w => ⌜FootXS Q w0 w⌝⦄ ask r ⦃fxsPost Q w0⦄ :=
  fxs_of_fx' Q w0 fun w => ask_fx Q w r hk hs

theorem emit_fxs (cfg : Cfg) (tl : Bool) (ev : Event) (attempt sleep : Nat) (klass : Option EClass)
    (exc : Option Exn) (stop : Option StopReason) (cause : Option Cause) (cls : Option Classification)
    (hm : ∀ t, Q (.metric ev attempt sleep t) = true) (hl : ∀ t ra, Q (.log ev attempt sleep t ra) = true) :
    ⦃fun w => ⌜FootXS Q w0 w⌝⦄ emit cfg tl ev attempt sleep klass exc stop cause cls ⦃fxsPost Q w0⦄ :=
  fxs_of_fx' Q w0 fun w => emit_fx Q w cfg tl ev attempt sleep klass exc stop cause cls hm hl

theorem checkAbort_fx (cfg : Cfg) (tl : Bool) (attempt : Nat) (ha : Q .abortIf = true)
    (hm : ∀ t, Q (.metric .aborted attempt 0 t) = true) (hl : ∀ t ra, Q (.log .aborted attempt 0 t ra) = true) :
    ⦃fun w => ⌜FootXS Q w0 w⌝⦄ checkAbort cfg tl attempt ⦃fxsPost Q w0 (· = .libAbort)⦄ := by
  have := fun a b c d e => emit_fxs Q w0 cfg tl .aborted attempt 0 a b c d e hm hl
  have := setStop_fx Q w0
  have := ask_fxs Q w0 .abortIf ha rfl
  mvcgen [checkAbort, *]
  · exact ‹_ ∧ _›.2
  · exact ExcS.own ‹_› rfl
  -- an exception of a callee is none of the procedure's own (here and below)
  · exact (·.weaken False.elim)
  · exact (·.weaken False.elim)
  · exact ExcS.stuck ‹_›
  · exact (·.weaken False.elim)

theorem stopWith_fx (cfg : Cfg) (tl : Bool) (s : StopReason) (ev : Event) (attempt : Nat) (k : EClass)
    (exc : Option Exn) (cause : Cause)
    (hm : ∀ t, Q (.metric ev attempt 0 t) = true) (hl : ∀ t ra, Q (.log ev attempt 0 t ra) = true) :
    ⦃fun w => ⌜FootXS Q w0 w⌝⦄ stopWith cfg tl s ev attempt k exc cause
    ⦃post⟨fun d w => ⌜d = .raise ∧ FootXS Q w0 w⌝, fun e w => ⌜ExcS Q noOwn w0 w e⌝⟩⦄ := by
  have := fun a b c d e => emit_fxs Q w0 cfg tl ev attempt 0 a b c d e hm hl
  have := setStop_fx Q w0
  mvcgen [stopWith, *]
  exact ‹_ ∧ _›.2

theorem recordStrategySuccess_fx (cfg : Cfg) (hs : ∀ k, Q (.stratRecordSuccess k) = true) :
    ⦃fun w => ⌜FootX Q w0 w⌝⦄ recordStrategySuccess cfg ⦃fxPost Q w0⦄ := by
  have := fun k => ask_fx Q w0 (.stratRecordSuccess k) (hs k) rfl
  mvcgen [recordStrategySuccess, getRS, *]

theorem stratRecordFailure_fx (cfg : Cfg) (key : SKey) (k : EClass) (hs : Q (.stratRecordFailure key k) = true) :
    ⦃fun w => ⌜FootX Q w0 w⌝⦄ stratRecordFailure cfg key k ⦃fxPost Q w0⦄ := by
  have := ask_fx Q w0 _ hs rfl
  mvcgen [stratRecordFailure, *]

theorem callStrategy_fx (key : SKey) (kind : SKind) (ctx : BackoffCtx) (hs : Q (.strategy key kind ctx) = true) :
    ⦃fun w => ⌜FootX Q w0 w⌝⦄ callStrategy key kind ctx ⦃fxPost Q w0⦄ := by
  have := ask_fx Q w0 _ hs rfl
  mvcgen [callStrategy, *]
  exact ExcX.stuck ‹_›

theorem callClassifier_fx (e : Exn) (hc : Q (.classify e.ref) = true) :
    ⦃fun w => ⌜FootX Q w0 w⌝⦄ callClassifier e ⦃fxPost Q w0⦄ := by
  have := ask_fx Q w0 _ hc rfl
  mvcgen [callClassifier, *]
  exact ExcX.stuck ‹_›

theorem shouldClassifyResult_fx (cfg : Cfg) (v : Nat) (hc : Q (.resultClassify v) = true) :
    ⦃fun w => ⌜FootX Q w0 w⌝⦄ shouldClassifyResult cfg v ⦃fxPost Q w0⦄ := by
  have := ask_fx Q w0 _ hc rfl
  mvcgen [shouldClassifyResult, *]
  exact ExcX.stuck ‹_›

theorem callAttemptStart_fx (cfg : Cfg) (attempt : Nat) (hs : ∀ c, Q (.attemptStart c) = true) :
    ⦃fun w => ⌜FootX Q w0 w⌝⦄ callAttemptStart cfg attempt ⦃fxPost Q w0⦄ := by
  have := fun c => ask_fx Q w0 (.attemptStart c) (hs c) rfl
  mvcgen [callAttemptStart, elapsed, *]

theorem callAttemptEnd_fx (cfg : Cfg) (attempt : Nat) (cls : Option Classification) (exc : Option Exn)
    (result : Option Nat) (d : AttemptDecision) (stop : Option StopReason) (cause : Option Cause)
    (sleep : Option Nat) (he : ∀ c, Q (.attemptEnd c) = true) :
    ⦃fun w => ⌜FootX Q w0 w⌝⦄ callAttemptEnd cfg attempt cls exc result d stop cause sleep ⦃fxPost Q w0⦄ := by
  have := fun c => ask_fx Q w0 (.attemptEnd c) (he c) rfl
  mvcgen [callAttemptEnd, elapsed, *]

theorem callAttemptEndFromOutcome_fx (cfg : Cfg) (attempt : Nat) (o : AOutcome)
    (he : ∀ c, Q (.attemptEnd c) = true) :
    ⦃fun w => ⌜FootX Q w0 w⌝⦄ callAttemptEndFromOutcome cfg attempt o ⦃fxPost Q w0⦄ := by
  have := fun a b c d e f g => callAttemptEnd_fx Q w0 cfg attempt a b c d e f g he
  mvcgen [callAttemptEndFromOutcome, *]

theorem callBeforeSleep_fx (cfg : Cfg) (ctx : BackoffCtx) (sleep : Nat)
    (hb : ∀ lvl, Q (.beforeSleep lvl ctx sleep) = true) :
    ⦃fun w => ⌜FootX Q w0 w⌝⦄ callBeforeSleep cfg ctx sleep ⦃fxPost Q w0⦄ := by
  have := fun lvl => askHook_fxW Q w0 (.beforeSleep lvl ctx sleep) (hb lvl)
  mvcgen [callBeforeSleep, swallowException, *]
  · exact ExcX.foot ‹_›
  · exact ExcX.unswallow ‹_› ‹_›

theorem callSleeper_fx (cfg : Cfg) (sleep : Nat) (hs : ∀ lvl, Q (.sleeper lvl sleep) = true) :
    ⦃fun w => ⌜FootX Q w0 w⌝⦄ callSleeper cfg sleep ⦃fxPost Q w0⦄ := by
  have := ask_fx Q w0 _ (hs cfg.sleeper) rfl
  mvcgen [callSleeper, *]

theorem callSleepHandler_fx (lvl : Lvl) (ctx : BackoffCtx) (sleep : Nat)
    (hs : Q (.sleepHandler lvl ctx sleep) = true) :
    ⦃fun w => ⌜FootX Q w0 w⌝⦄ callSleepHandler lvl ctx sleep ⦃fxPost Q w0⦄ := by
  have := ask_fx Q w0 _ hs rfl
  mvcgen [callSleepHandler, *]
  exact ExcX.stuck ‹_›

/-- `_build_outcome` reads the state; what it reports -/
theorem buildOutcome_fx (ok : Bool) (value : Option Nat) (attempts : Nat) (ns : Option Nat) :
    ⦃fun w => ⌜FootX Q w0 w⌝⦄ buildOutcome ok value attempts ns
    ⦃post⟨fun o w => ⌜(o.ok = ok ∧ o.nextSleep = ns ∧ o.stop = (if ok then none else w.rs.lastStop)) ∧ FootX Q w0 w⌝,
          fun e w => ⌜ExcX Q noOwn w0 w e⌝⟩⦄ := by
  mvcgen [buildOutcome, getRS, elapsed]

theorem buildOutcome_fxs (ok : Bool) (value : Option Nat) (attempts : Nat) (ns : Option Nat) :
    ⦃fun w => ⌜FootXS Q w0 w⌝⦄ buildOutcome ok value attempts ns
    ⦃post⟨fun o w => ⌜(o.ok = ok ∧ o.nextSleep = ns ∧ o.stop = (if ok then none else w.rs.lastStop)) ∧ FootXS Q w0 w⌝,
          fun e w => ⌜ExcS Q noOwn w0 w e⌝⟩⦄ :=
  fxs_of_fx Q w0 fun w => buildOutcome_fx Q w ok value attempts ns

theorem emitAbortedOnce_fx (cfg : Cfg) (tl : Bool) (attempt : Nat)
    (hm : ∀ t, Q (.metric .aborted attempt 0 t) = true) (hl : ∀ t ra, Q (.log .aborted attempt 0 t ra) = true) :
    ⦃fun w => ⌜FootXS Q w0 w⌝⦄ emitAbortedOnce cfg tl attempt
    ⦃post⟨fun _ w => ⌜w.rs.lastStop = some .aborted ∧ FootXS Q w0 w⌝, fun e w => ⌜ExcS Q noOwn w0 w e⌝⟩⦄ := by
  -- `emit` is taken with the current world as origin: `FootX` from there keeps what `setStop` has just
  -- stored, `FootXS` from `w0` would not
  have := fun a b c d e w => emit_fx Q w cfg tl .aborted attempt 0 a b c d e hm hl
  have := setStop_fx Q w0
  mvcgen [emitAbortedOnce, getRS, *]
  · exact FootX.refl _
  · exact fun h => ⟨h.lastStop.trans ‹_ ∧ _›.1, FootXS.trans ‹_ ∧ _›.2 h.toS⟩
  · exact fun h => ExcS.lift ‹_ ∧ _›.2 h.toS

theorem abortOutcome_fx (cfg : Cfg) (tl : Bool) (attempts : Nat)
    (hm : ∀ t, Q (.metric .aborted attempts 0 t) = true) (hl : ∀ t ra, Q (.log .aborted attempts 0 t ra) = true) :
    ⦃fun w => ⌜FootXS Q w0 w⌝⦄ abortOutcome cfg tl attempts
    ⦃post⟨fun o w => ⌜(o.ok = false ∧ o.nextSleep = none ∧ o.stop = some .aborted) ∧ FootXS Q w0 w⌝,
          fun e w => ⌜ExcS Q noOwn w0 w e⌝⟩⦄ := by
  have := emitAbortedOnce_fx Q w0 cfg tl attempts hm hl
  have := buildOutcome_fx Q
  mvcgen [abortOutcome, *]
  · exact FootX.refl _
  · exact fun h1 h2 h3 h => ⟨⟨h1, h2, h3.trans (h.lastStop.trans ‹_ ∧ _›.1)⟩, FootXS.trans ‹_ ∧ _›.2 h.toS⟩
  · exact fun h => ExcS.lift ‹_ ∧ _›.2 h.toS

theorem handleSleepDecision_fx (cfg : Cfg) (tl : Bool) (action : SleepDecision) (attempt sleep : Nat)
    (hmS : ∀ t, Q (.metric .scheduled attempt sleep t) = true)
    (hlS : ∀ t ra, Q (.log .scheduled attempt sleep t ra) = true)
    (hmA : ∀ t, Q (.metric .aborted attempt 0 t) = true) (hlA : ∀ t ra, Q (.log .aborted attempt 0 t ra) = true) :
    ⦃fun w => ⌜FootXS Q w0 w⌝⦄ handleSleepDecision cfg tl action attempt sleep
    ⦃post⟨fun r w => ⌜(r = action ∧ action ≠ .other ∧ (action = .defer → w.rs.lastStop = some .scheduled) ∧
                        (action = .abort → w.rs.lastStop = some .aborted)) ∧ FootXS Q w0 w⌝,
          fun e w => ⌜ExcS Q (fun e => e = .libValueError ∧ action = .other) w0 w e⌝⟩⦄ := by
  have := fun a b c d e w => emit_fx Q w cfg tl .scheduled attempt sleep a b c d e hmS hlS
  have := setStop_fx Q w0
  have := emitAbortedOnce_fx Q w0 cfg tl attempt hmA hlA
  mvcgen [handleSleepDecision, getRS, *]
  · exact ⟨⟨trivial, nofun, nofun, nofun⟩, ‹_›⟩
  · exact FootX.refl _
  · exact ⟨⟨trivial, nofun, ‹FootX ..›.lastStop.trans ‹_ ∧ _›.1, nofun⟩, FootXS.trans ‹_ ∧ _›.2 ‹FootX ..›.toS⟩
  · exact fun h => (ExcS.lift ‹_ ∧ _›.2 h.toS).weaken False.elim
  · exact (·.weaken False.elim)
  · exact ⟨⟨trivial, nofun, nofun, ‹_ ∧ _›.1⟩, ‹_ ∧ _›.2⟩
  · exact (·.weaken False.elim)
  · exact ExcS.own ‹_› rfl

theorem handleSuccessAttemptEnd_fx (cfg : Cfg) (tl : Bool) (attempt v : Nat)
    (hm : ∀ t, Q (.metric .success attempt 0 t) = true) (hl : ∀ t ra, Q (.log .success attempt 0 t ra) = true)
    (hs : ∀ k, Q (.stratRecordSuccess k) = true) (he : ∀ c, Q (.attemptEnd c) = true) :
    ⦃fun w => ⌜FootX Q w0 w⌝⦄ handleSuccessAttemptEnd cfg tl attempt v ⦃fxPost Q w0⦄ := by
  have := recordStrategySuccess_fx Q w0 cfg hs
  have := fun a b c d e => emit_fx Q w0 cfg tl .success attempt 0 a b c d e hm hl
  have := fun a b c d e f g => callAttemptEnd_fx Q w0 cfg attempt a b c d e f g he
  mvcgen [handleSuccessAttemptEnd, *]

theorem handleAbortAttemptEnd_fx (cfg : Cfg) (attempt : Nat) (e : Exn) (he : ∀ c, Q (.attemptEnd c) = true) :
    ⦃fun w => ⌜FootX Q w0 w⌝⦄ handleAbortAttemptEnd cfg attempt e ⦃fxPost Q w0⦄ := by
  have := fun a b c d e f g => callAttemptEnd_fx Q w0 cfg attempt a b c d e f g he
  mvcgen [handleAbortAttemptEnd, getAS, modifyAS, *]
  exact FootX.trans ‹_› (FootX.frame ..)

theorem emitMaxAttemptsExceeded_fx (cfg : Cfg) (tl : Bool)
    (hm : ∀ t, Q (.metric .maxAttemptsExceeded cfg.maxAttempts 0 t) = true)
    (hl : ∀ t ra, Q (.log .maxAttemptsExceeded cfg.maxAttempts 0 t ra) = true) :
    ⦃fun w => ⌜FootXS Q w0 w⌝⦄ emitMaxAttemptsExceeded cfg tl ⦃fxsPost Q w0⦄ := by
  have := fun a b c d e => emit_fxs Q w0 cfg tl .maxAttemptsExceeded cfg.maxAttempts 0 a b c d e hm hl
  have := setStop_fx Q w0
  mvcgen [emitMaxAttemptsExceeded, getRS, *]
  exact fun _ h => h

theorem raiseExhaustedCall_fx (cfg : Cfg)
    (hm : ∀ t, Q (.metric .maxAttemptsExceeded cfg.maxAttempts 0 t) = true)
    (hl : ∀ t ra, Q (.log .maxAttemptsExceeded cfg.maxAttempts 0 t ra) = true) :
    ⦃fun w => ⌜FootXS Q w0 w⌝⦄ raiseExhaustedCall cfg
    ⦃post⟨fun _ w => ⌜FootXS Q w0 w⌝,
          fun e w => ⌜ExcS Q (fun e => (∃ f, e = .libExhausted f ∧ f.nextSleep = none) ∨ w.rs.lastExc = some e
                                        ∨ e = .libRuntimeError) w0 w e⌝⟩⦄ := by
  have := emitMaxAttemptsExceeded_fx Q w0 cfg false hm hl
  mvcgen [raiseExhaustedCall, getRS, *]
  · exact ExcS.own ‹_› (.inl ⟨_, rfl, rfl⟩)
  · exact ExcS.own ‹_› (.inr (.inl ‹_›))
  · exact ExcS.own ‹_› (.inr (.inr rfl))
  · exact (·.weaken False.elim)

theorem buildExhaustedOutcome_fx (cfg : Cfg) (tl : Bool)
    (hm : ∀ t, Q (.metric .maxAttemptsExceeded cfg.maxAttempts 0 t) = true)
    (hl : ∀ t ra, Q (.log .maxAttemptsExceeded cfg.maxAttempts 0 t ra) = true) :
    ⦃fun w => ⌜FootXS Q w0 w⌝⦄ buildExhaustedOutcome cfg tl
    ⦃post⟨fun o w => ⌜o.nextSleep = none ∧ FootXS Q w0 w⌝, fun e w => ⌜ExcS Q noOwn w0 w e⌝⟩⦄ := by
  have := emitMaxAttemptsExceeded_fx Q w0 cfg tl hm hl
  have := buildOutcome_fxs Q w0
  mvcgen [buildExhaustedOutcome, *]
  exact fun _ h _ hf => ⟨h, hf⟩

open Redress.Policy

theorem circuitEv_eq (ev : Event) : circuitEv ev = ev.isCircuit := by cases ev <;> rfl

theorem allow_circuit (c : Breaker.Cfg) (s : Breaker.St) (now : Nat) (ev : Event)
    (h : (Breaker.allow c s now).1.2.2 = some ev) : circuitEv ev = true :=
  circuitEv_eq ev ▸ Breaker.allow_ev c s now ev h

theorem recordSuccess_circuit (s : Breaker.St) (ev : Event)
    (h : (Breaker.recordSuccess s).1 = some ev) : circuitEv ev = true :=
  circuitEv_eq ev ▸ Breaker.recordSuccess_ev s ev h

theorem recordFailure_circuit (c : Breaker.Cfg) (s : Breaker.St) (k : EClass) (now : Nat) (ev : Event)
    (h : (Breaker.recordFailure c s k now).1 = some ev) : circuitEv ev = true :=
  circuitEv_eq ev ▸ Breaker.recordFailure_ev c s k now ev h

theorem emitBreakerEvent_fx (cfg : Cfg) (ev : Option Event) (st : CState) (k : Option EClass)
    (hm : ∀ ev' t, ev = some ev' → Q (.metric ev' 0 0 t) = true)
    (hl : ∀ ev' t ra, ev = some ev' → Q (.log ev' 0 0 t ra) = true) :
    ⦃fun w => ⌜FootX Q w0 w⌝⦄ emitBreakerEvent cfg ev st k ⦃fxPost Q w0⦄ := by
  have := fun ev' t h => askHook_fxW Q w0 _ (hm ev' t h)
  have := fun ev' t h => askHook_fxW Q w0 _ (hl ev' t none h)
  mvcgen [emitBreakerEvent, askMetric, askLog, swallowException, *]
  fx_swallow

theorem breakerAllow_fx (bc : Breaker.Cfg) (ha : Q .breakerAllow = true) :
    ⦃fun w => ⌜FootX Q w0 w⌝⦄ breakerAllow bc
    ⦃post⟨fun d w => ⌜(∀ ev, d.2.2 = some ev → circuitEv ev = true) ∧ FootX Q w0 w⌝,
          fun e w => ⌜ExcX Q noOwn w0 w e⌝⟩⦄ := by
  mvcgen [breakerAllow]
  exact ⟨allow_circuit _ _ _, FootX.trans ‹_› (FootX.internal _ _ _ _ _ _ ha rfl)⟩

theorem checkBreaker_fx (cfg : Cfg) (ha : Q .breakerAllow = true)
    (hm : ∀ ev t, circuitEv ev = true → Q (.metric ev 0 0 t) = true)
    (hl : ∀ ev t ra, circuitEv ev = true → Q (.log ev 0 0 t ra) = true) :
    ⦃fun w => ⌜FootX Q w0 w⌝⦄ checkBreaker cfg ⦃fxPost Q w0 (fun e => ∃ st, e = .libCircuitOpen st)⦄ := by
  have := fun bc => breakerAllow_fx Q w0 bc ha
  have := emitBreakerEvent_fx Q w0 cfg
  mvcgen [checkBreaker, *]
  · rename_i h; exact fun ev t he => hm ev t (h.1 ev he)
  · rename_i h; exact fun ev t ra he => hl ev t ra (h.1 ev he)
  · exact ‹_ ∧ _›.2
  · exact ExcX.own ‹_› ⟨_, rfl⟩
  · exact (·.weaken False.elim)
  · exact (·.weaken False.elim)

theorem recordSuccess_fx (cfg : Cfg) (hs : Q .breakerSuccess = true)
    (hm : ∀ ev t, circuitEv ev = true → Q (.metric ev 0 0 t) = true)
    (hl : ∀ ev t ra, circuitEv ev = true → Q (.log ev 0 0 t ra) = true) :
    ⦃fun w => ⌜FootX Q w0 w⌝⦄ Policy.recordSuccess cfg ⦃fxPost Q w0⦄ := by
  have := emitBreakerEvent_fx Q w0 cfg
  mvcgen [Policy.recordSuccess, *]
  · exact fun ev t h => hm ev t (recordSuccess_circuit _ _ h)
  · exact fun ev t ra h => hl ev t ra (recordSuccess_circuit _ _ h)
  · exact FootX.trans ‹_› (FootX.internal _ _ _ _ _ _ hs rfl)

theorem recordCancel_fx (cfg : Cfg) (hc : Q .breakerCancel = true) :
    ⦃fun w => ⌜FootX Q w0 w⌝⦄ Policy.recordCancel cfg ⦃fxPost Q w0⦄ := by
  mvcgen [Policy.recordCancel]
  exact FootX.trans ‹_› (FootX.internal _ _ _ _ _ _ hc rfl)

theorem recordFailure_fx (cfg : Cfg) (k : EClass) (hf : Q (.breakerFailure k) = true)
    (hm : ∀ ev t, circuitEv ev = true → Q (.metric ev 0 0 t) = true)
    (hl : ∀ ev t ra, circuitEv ev = true → Q (.log ev 0 0 t ra) = true) :
    ⦃fun w => ⌜FootX Q w0 w⌝⦄ Policy.recordFailure cfg k ⦃fxPost Q w0⦄ := by
  have := emitBreakerEvent_fx Q w0 cfg
  mvcgen [Policy.recordFailure, *]
  · exact fun ev t h => hm ev t (recordFailure_circuit _ _ _ _ _ h)
  · exact fun ev t ra h => hl ev t ra (recordFailure_circuit _ _ _ _ _ h)
  · exact FootX.trans ‹_› (FootX.internal _ _ _ _ _ _ hf rfl)

theorem noRetryEndHook_fx (cfg : Cfg) (exc : Option Exn) (result : Option Nat) (d : AttemptDecision)
    (stop : Option StopReason) (cause : Option Cause) (he : ∀ c, Q (.attemptEnd c) = true) :
    ⦃fun w => ⌜FootX Q w0 w⌝⦄ noRetryEndHook cfg exc result d stop cause ⦃fxPost Q w0⦄ := by
  have := fun c => ask_fx Q w0 (.attemptEnd c) (he c) rfl
  mvcgen [noRetryEndHook, xElapsed, *]

theorem classifyForBreaker_fx (cfg : Cfg) (e : Exn) (hc : Q (.classify e.ref) = true) :
    ⦃fun w => ⌜FootX Q w0 w⌝⦄ classifyForBreaker cfg e ⦃fxPost Q w0⦄ := by
  have := callClassifier_fx Q w0 e hc
  mvcgen [classifyForBreaker, *]

theorem handleAbortCall_fx (cfg : Cfg) (e : Exn) (he : ∀ c, Q (.attemptEnd c) = true)
    (hc : Q .breakerCancel = true) :
    ⦃fun w => ⌜FootX Q w0 w⌝⦄ handleAbortCall cfg e ⦃fxPost Q w0⦄ := by
  have := fun a b c d f => noRetryEndHook_fx Q w0 cfg a b c d f he
  have := recordCancel_fx Q w0 cfg hc
  mvcgen [handleAbortCall, *]

theorem handleExhaustedCall_fx (cfg : Cfg) (e : Exn) (hf : ∀ k, Q (.breakerFailure k) = true)
    (hm : ∀ ev t, circuitEv ev = true → Q (.metric ev 0 0 t) = true)
    (hl : ∀ ev t ra, circuitEv ev = true → Q (.log ev 0 0 t ra) = true) :
    ⦃fun w => ⌜FootX Q w0 w⌝⦄ handleExhaustedCall cfg e ⦃fxPost Q w0⦄ := by
  have := fun k => recordFailure_fx Q w0 cfg k (hf k) hm hl
  mvcgen [handleExhaustedCall, *]

theorem handleExceptionCall_fx (cfg : Cfg) (e : Exn) (onEnd : Bool) (hf : ∀ k, Q (.breakerFailure k) = true)
    (hm : ∀ ev t, circuitEv ev = true → Q (.metric ev 0 0 t) = true)
    (hl : ∀ ev t ra, circuitEv ev = true → Q (.log ev 0 0 t ra) = true)
    (he : ∀ c, Q (.attemptEnd c) = true) (hc : Q (.classify e.ref) = true) :
    ⦃fun w => ⌜FootX Q w0 w⌝⦄ handleExceptionCall cfg e onEnd ⦃fxPost Q w0⦄ := by
  have := fun a b c d f => noRetryEndHook_fx Q w0 cfg a b c d f he
  have := classifyForBreaker_fx Q w0 cfg e hc
  have := fun k => recordFailure_fx Q w0 cfg k (hf k) hm hl
  mvcgen [handleExceptionCall, *]

end

/-- from a footprint lemma to "this predicate is preserved; a new exception satisfies that one",
    keeping what the footprint lemma says about the returned value -/
theorem inv_of_fx' {α : Type} {x : M α} {Q : Req → Bool} {Own : Exn → Prop} {R : α → World → Prop}
    (I : World → Prop) (E : Exn → World → Prop)
    (hx : ∀ w0, ⦃fun w => ⌜FootX Q w0 w⌝⦄ x
      ⦃post⟨fun a w => ⌜R a w ∧ FootX Q w0 w⌝, fun e w => ⌜ExcX Q Own w0 w e⌝⟩⦄)
    (hI : ∀ w w', FootX Q w w' → I w → I w') (hE : ∀ w w' e, ExcX Q Own w w' e → I w → E e w') :
    ⦃fun w => ⌜I w⌝⦄ x ⦃post⟨fun a w => ⌜R a w ∧ I w⌝, fun e w => ⌜E e w⌝⟩⦄ :=
  triple_of_rel hx FootX.refl (fun _ _ _ hw h => ⟨h.1, hI _ _ h.2 hw⟩) (fun _ _ _ hw h => hE _ _ _ h hw)

/-- …for a footprint lemma that says nothing about the returned value -/
theorem inv_of_fx {α : Type} {x : M α} {Q : Req → Bool} {Own : Exn → Prop} (I : World → Prop)
    (E : Exn → World → Prop) (hx : ∀ w0, ⦃fun w => ⌜FootX Q w0 w⌝⦄ x ⦃fxPost Q w0 Own⦄)
    (hI : ∀ w w', FootX Q w w' → I w → I w') (hE : ∀ w w' e, ExcX Q Own w w' e → I w → E e w') :
    ⦃fun w => ⌜I w⌝⦄ x ⦃post⟨fun _ w => ⌜I w⌝, fun e w => ⌜E e w⌝⟩⦄ :=
  triple_of_rel hx FootX.refl (fun _ _ _ hw h => hI _ _ h hw) (fun _ _ _ hw h => hE _ _ _ h hw)

/-- An exception that leaves a procedure with request-level footprint `Q` and no errors of its own is the
    model's `.stuck`, or was raised by a logged callback in `Q` that does not swallow it. -/
theorem ExcS.cases {Q : Req → Bool} {w0 w : World} {e : Exn} (h : ExcS Q noOwn w0 w e) :
    e = .stuck ∨ ∃ r d, (r, Ans.raise e d) ∈ w.trace ∧ Q r = true ∧
      (swallowed r = true → e.isException = false) := by
  rcases h.src with h' | h' | ⟨δ, hδ, r, d, hm, hs⟩
  · exact h'.elim
  · exact Or.inl h'
  · obtain ⟨δ', hδ', hq, _⟩ := h.foot.trace
    have hm' : (r, Ans.raise e d) ∈ δ' := List.append_cancel_right (hδ.symm.trans hδ') ▸ hm
    exact Or.inr ⟨r, d, hδ' ▸ List.mem_append_left _ hm', hq _ hm', hs⟩

end Redress.FX

