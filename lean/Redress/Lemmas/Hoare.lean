/-
  Redress.Lemmas.Hoare — what every property's proof shares.
  Triples ⇄ runs (`adequacy`, `triple_of_run`); proof rules for triples whose assertions are pure predicates on
  the world; one exchange with the environment (`ask_view`: the spec of `ask` from which every property's
  callback specs are instances; `askHook` reduced to `ask`); runs (`startWorld`, from a triple about an entry
  point to what `runEntry` returns, from `runEntry` to scripts, monitors as folds over the log); the kind-level
  footprint `Foot`; a few facts about the model's pure functions and exception kinds; `vc_intro`.
-/
import Std.Do
import Std.Tactic.Do
import Redress.Model.Run

open Std.Do

namespace Redress

/-- `tryCatch` in `EStateM` restores a saved state; for `World` nothing is saved (Python locals and objects
    survive an exception), and this is the form in which that shows up in verification conditions -/
@[simp] theorem restore_dummy (s : World) (d : PUnit) : EStateM.Backtrackable.restore s d = s := rfl

theorem adequacy {x : M α} {P : World → Prop} {Qok : α → World → Prop} {Qerr : Exn → World → Prop}
    (h : ⦃fun w => ⌜P w⌝⦄ x ⦃post⟨fun a w => ⌜Qok a w⌝, fun e w => ⌜Qerr e w⌝⟩⦄)
    (w : World) (hp : P w) :
    match x.run w with
    | .ok a w' => Qok a w'
    | .error e w' => Qerr e w' := by
  apply EStateM.of_wp_run_eq (prog := x) (s := w) rfl
    (fun r => match r with | .ok a w' => Qok a w' | .error e w' => Qerr e w')
  simpa using h w hp

theorem triple_of_run {x : M α} {P : World → Prop} {Qok : α → World → Prop} {Qerr : Exn → World → Prop}
    (h : ∀ w, P w → match x.run w with
      | .ok a w' => Qok a w'
      | .error e w' => Qerr e w') :
    ⦃fun w => ⌜P w⌝⦄ x ⦃post⟨fun a w => ⌜Qok a w⌝, fun e w => ⌜Qerr e w⌝⟩⦄ := by
  intro w hp
  have := h w hp
  simp only [wp, PredTrans.apply]
  split <;> simp_all

abbrev exits (A : α → World → Prop) (E : Exn → World → Prop) : PostCond α (.except Exn (.arg World .pure)) :=
  post⟨fun a w => ⌜A a w⌝, fun e w => ⌜E e w⌝⟩

abbrev keeps (I : World → Prop) : PostCond α (.except Exn (.arg World .pure)) :=
  post⟨fun _ w => ⌜I w⌝, fun _ w => ⌜I w⌝⟩

theorem triple_mono {x : M α} {P P' : World → Prop} {A A' : α → World → Prop} {E E' : Exn → World → Prop}
    (h : ⦃fun w => ⌜P w⌝⦄ x ⦃post⟨fun a w => ⌜A a w⌝, fun e w => ⌜E e w⌝⟩⦄)
    (hp : ∀ w, P' w → P w) (ha : ∀ a w, A a w → A' a w) (he : ∀ e w, E e w → E' e w) :
    ⦃fun w => ⌜P' w⌝⦄ x ⦃post⟨fun a w => ⌜A' a w⌝, fun e w => ⌜E' e w⌝⟩⦄ := by
  apply triple_of_run
  intro w hw
  have := adequacy h w (hp w hw)
  split <;> rename_i heq <;> simp only [heq] at this
  · exact ha _ _ this
  · exact he _ _ this

theorem triple_or {x : M α} {P1 P2 : World → Prop} {A : α → World → Prop} {E : Exn → World → Prop}
    (h1 : ⦃fun w => ⌜P1 w⌝⦄ x ⦃post⟨fun a w => ⌜A a w⌝, fun e w => ⌜E e w⌝⟩⦄)
    (h2 : ⦃fun w => ⌜P2 w⌝⦄ x ⦃post⟨fun a w => ⌜A a w⌝, fun e w => ⌜E e w⌝⟩⦄) :
    ⦃fun w => ⌜P1 w ∨ P2 w⌝⦄ x ⦃post⟨fun a w => ⌜A a w⌝, fun e w => ⌜E e w⌝⟩⦄ := by
  apply triple_of_run
  intro w hw
  rcases hw with hw | hw
  · exact adequacy h1 w hw
  · exact adequacy h2 w hw

/-- `if c: x else: y` -/
theorem ite_rule {c : Prop} [Decidable c] {x y : M α} {P : Assertion (.except Exn (.arg World .pure))}
    {Q : PostCond α (.except Exn (.arg World .pure))} (hx : c → ⦃P⦄ x ⦃Q⦄) (hy : ¬ c → ⦃P⦄ y ⦃Q⦄) :
    ⦃P⦄ (if c then x else y) ⦃Q⦄ := by
  split
  · exact hx ‹_›
  · exact hy ‹_›

/-- `raise e` -/
theorem throw_rule {e : Exn} {A : α → World → Prop} {E : Exn → World → Prop} :
    ⦃fun w => ⌜E e w⌝⦄ (throw e : M α) ⦃post⟨fun a w => ⌜A a w⌝, fun e' w => ⌜E e' w⌝⟩⦄ := by
  mvcgen

/-- `x; raise e` (an `except` arm that re-raises): never returns -/
theorem then_throw {x : M Unit} {e : Exn} {P : World → Prop} {A : α → World → Prop} {E : Exn → World → Prop}
    (h : ⦃fun w => ⌜P w⌝⦄ x ⦃post⟨fun _ w => ⌜E e w⌝, fun e' w => ⌜E e' w⌝⟩⦄) :
    ⦃fun w => ⌜P w⌝⦄ (do x; throw e : M α) ⦃post⟨fun a w => ⌜A a w⌝, fun e' w => ⌜E e' w⌝⟩⦄ := by
  mvcgen [h]

/-- `try: x finally: fin` (`withFinally x fin` unfolds to this with `fin1 = fin2 = fin`; stated for two
    copies so that each gets its own spec) -/
theorem finally_rule {x : M α} {fin1 fin2 : M Unit} {P : World → Prop} {A : α → World → Prop}
    {E : Exn → World → Prop}
    (hx : ⦃fun w => ⌜P w⌝⦄ x ⦃post⟨fun a w => ⌜A a w⌝, fun e w => ⌜E e w⌝⟩⦄)
    (herr : ∀ e, ⦃fun w => ⌜E e w⌝⦄ fin1 ⦃post⟨fun _ w => ⌜E e w⌝, fun e' w => ⌜E e' w⌝⟩⦄)
    (hok : ∀ a, ⦃fun w => ⌜A a w⌝⦄ fin2 ⦃post⟨fun _ w => ⌜A a w⌝, fun e' w => ⌜E e' w⌝⟩⦄) :
    ⦃fun w => ⌜P w⌝⦄ (do let a ← tryCatch x (fun e => do fin1; throw e); fin2; pure a)
    ⦃post⟨fun a w => ⌜A a w⌝, fun e w => ⌜E e w⌝⟩⦄ := by
  mvcgen [hx, herr, hok]

theorem triple_raise {x : M α} {P : World → Prop} {A : α → World → Prop} {E E' : Exn → World → Prop}
    (h : ⦃fun w => ⌜P w⌝⦄ x ⦃post⟨fun a w => ⌜A a w⌝, fun e w => ⌜E e w⌝⟩⦄) (he : ∀ e w, E e w → E' e w) :
    ⦃fun w => ⌜P w⌝⦄ x ⦃post⟨fun a w => ⌜A a w⌝, fun e w => ⌜E' e w⌝⟩⦄ :=
  triple_mono h (fun _ h => h) (fun _ _ h => h) he

theorem triple_pure {p : Prop} {x : M α} {P : World → Prop} {A : α → World → Prop} {E : Exn → World → Prop}
    (h : p → ⦃fun w => ⌜P w⌝⦄ x ⦃post⟨fun a w => ⌜A a w⌝, fun e w => ⌜E e w⌝⟩⦄) :
    ⦃fun w => ⌜p ∧ P w⌝⦄ x ⦃post⟨fun a w => ⌜A a w⌝, fun e w => ⌜E e w⌝⟩⦄ :=
  fun w hw => h hw.1 w hw.2

theorem bind_raises {x : M α} {f : α → M β} {P : World → Prop} {E : Exn → World → Prop}
    {A : β → Assertion (.arg World .pure)}
    (h : ⦃fun w => ⌜P w⌝⦄ x ⦃post⟨fun _ _ => ⌜False⌝, fun e w => ⌜E e w⌝⟩⦄) :
    ⦃fun w => ⌜P w⌝⦄ (x >>= f) ⦃post⟨A, fun e w => ⌜E e w⌝⟩⦄ := by
  mvcgen [h]
  exact fun _ => False.elim

theorem triple_and {x : M α} {P1 P2 : World → Prop} {A1 A2 : α → World → Prop} {E1 E2 : Exn → World → Prop}
    (h1 : ⦃fun w => ⌜P1 w⌝⦄ x ⦃post⟨fun a w => ⌜A1 a w⌝, fun e w => ⌜E1 e w⌝⟩⦄)
    (h2 : ⦃fun w => ⌜P2 w⌝⦄ x ⦃post⟨fun a w => ⌜A2 a w⌝, fun e w => ⌜E2 e w⌝⟩⦄) :
    ⦃fun w => ⌜P1 w ∧ P2 w⌝⦄ x ⦃post⟨fun a w => ⌜A1 a w ∧ A2 a w⌝, fun e w => ⌜E1 e w ∧ E2 e w⌝⟩⦄ := by
  apply triple_of_run
  intro w hw
  have a1 := adequacy h1 w hw.1
  have a2 := adequacy h2 w hw.2
  split <;> simp only [*] at a1 a2 ⊢ <;> exact ⟨a1, a2⟩

/-- From a relational spec — what a run started in `w0` can reach, as the footprint lemmas state it — to a
    unary one: the precondition is taken at the start (the relational spec may rely on it), the relation at
    the end. -/
theorem triple_of_rel' {x : M α} {F : World → World → Prop} {A : α → World → World → Prop}
    {B : Exn → World → World → Prop} {P : World → Prop} {Qv : α → World → Prop} {Qe : Exn → World → Prop}
    (hx : ∀ w0, P w0 → ⦃fun w => ⌜F w0 w⌝⦄ x ⦃post⟨fun a w => ⌜A a w0 w⌝, fun e w => ⌜B e w0 w⌝⟩⦄)
    (hF : ∀ w, P w → F w w)
    (hv : ∀ w0 a w, P w0 → A a w0 w → Qv a w) (he : ∀ w0 e w, P w0 → B e w0 w → Qe e w) :
    ⦃fun w => ⌜P w⌝⦄ x ⦃post⟨fun a w => ⌜Qv a w⌝, fun e w => ⌜Qe e w⌝⟩⦄ := by
  apply triple_of_run
  intro w hw
  have := adequacy (hx w hw) w (hF w hw)
  split <;> simp only [*] at this ⊢
  · exact hv _ _ _ hw this
  · exact he _ _ _ hw this

theorem triple_of_rel {x : M α} {F : World → World → Prop} {A : α → World → World → Prop}
    {B : Exn → World → World → Prop} {P : World → Prop} {Qv : α → World → Prop} {Qe : Exn → World → Prop}
    (hx : ∀ w0, ⦃fun w => ⌜F w0 w⌝⦄ x ⦃post⟨fun a w => ⌜A a w0 w⌝, fun e w => ⌜B e w0 w⌝⟩⦄) (hF : ∀ w, F w w)
    (hv : ∀ w0 a w, P w0 → A a w0 w → Qv a w) (he : ∀ w0 e w, P w0 → B e w0 w → Qe e w) :
    ⦃fun w => ⌜P w⌝⦄ x ⦃post⟨fun a w => ⌜Qv a w⌝, fun e w => ⌜Qe e w⌝⟩⦄ :=
  triple_of_rel' (fun w0 _ => hx w0) (fun w _ => hF w) hv he

/-- `try: x  except Exception: pass`: how the library calls an observability hook -/
def swallowed (x : M Unit) : M Unit := tryCatch x swallowException

theorem swallowed_spec {x : M Unit} {P Q : World → Prop}
    (h : ⦃fun w => ⌜P w⌝⦄ x ⦃post⟨fun _ w => ⌜Q w⌝, fun _ w => ⌜Q w⌝⟩⦄) :
    ⦃fun w => ⌜P w⌝⦄ swallowed x ⦃post⟨fun _ w => ⌜Q w⌝, fun e _ => ⌜e.isException = false⌝⟩⦄ := by
  mvcgen [swallowed, swallowException, h]
  · exact id
  · exact Bool.eq_false_iff.mpr ‹_›

/-! ### one exchange

`ask r` consumes one answer `a`, lets its duration pass and logs `(r, a)`; it raises `e` exactly when
`a = .raise e d` (an exhausted oracle answers `.raise .stuck 0`).  So any function of the world that
follows the exchanges moves by one step `next`: `ask_view` is where `ask` is unfolded for the Hoare specs, and every
property's spec for a callback is an instance (a monitor state, a snapshot, a clock, the log; with the
identity as view and `next := exchanged`, the world itself).  `ask_triple` is the same fact for a predicate
on worlds instead of a value of the view. -/

def exchanged (w : World) (x : Req × Ans) : World :=
  { w with answers := w.answers.tail, now := w.now + x.2.dur, trace := x :: w.trace }

theorem ask_view {V : Type} (view : World → V) (next : V → Req × Ans → V)
    (hview : ∀ w x, view (exchanged w x) = next (view w) x) (v : V) (r : Req) :
    ⦃fun w => ⌜view w = v⌝⦄ ask r
    ⦃post⟨fun a w => ⌜(∀ e d, a ≠ .raise e d) ∧ view w = next v (r, a)⌝,
          fun e w => ⌜∃ d, view w = next v (r, .raise e d)⌝⟩⦄ := by
  mvcgen [ask]
  all_goals subst_vars
  all_goals rename_i hw
  · exact ⟨0, by rw [← hview, exchanged, hw]; rfl⟩
  · exact ⟨_, by rw [← hview, exchanged, hw]; rfl⟩
  · exact ⟨fun e d h => ‹∀ e d, _ = Ans.raise e d → False› e d h, by rw [← hview, exchanged, hw]; rfl⟩

theorem ask_exchanged (w0 : World) (r : Req) :
    ⦃fun w => ⌜w = w0⌝⦄ ask r
    ⦃post⟨fun a w => ⌜(∀ e d, a ≠ .raise e d) ∧ w = exchanged w0 (r, a)⌝,
          fun e w => ⌜∃ d, w = exchanged w0 (r, .raise e d)⌝⟩⦄ :=
  ask_view (fun w => w) exchanged (fun _ _ => rfl) w0 r

theorem ask_trace (t : List (Req × Ans)) (r : Req) :
    ⦃fun w => ⌜w.trace = t⌝⦄ ask r
    ⦃post⟨fun a w => ⌜(∀ e d, a ≠ .raise e d) ∧ w.trace = (r, a) :: t⌝,
          fun e w => ⌜∃ d, w.trace = (r, .raise e d) :: t⌝⟩⦄ :=
  ask_view (fun w => w.trace) (fun t x => x :: t) (fun _ _ => rfl) t r

theorem ask_triple {P : World → Prop} {A : Ans → World → Prop} {E : Exn → World → Prop} (r : Req)
    (hA : ∀ w a, P w → (∀ e d, a ≠ .raise e d) → A a (exchanged w (r, a)))
    (hE : ∀ w e d, P w → E e (exchanged w (r, .raise e d))) :
    ⦃fun w => ⌜P w⌝⦄ ask r ⦃post⟨fun a w => ⌜A a w⌝, fun e w => ⌜E e w⌝⟩⦄ := by
  mvcgen [ask_exchanged]
  · rintro ha rfl
    exact hA _ _ ‹_› ha
  · rintro ⟨d, rfl⟩
    exact hE _ _ d ‹_›

/-! ### the `ask` of the observability call sites

`askHook r` is `ask r` in a world whose next answer has been
replaced by its silenced form when the C15 twin flag is set.  So every Hoare triple proved for `ask r`
whose precondition does not depend on the pending answers holds for `askHook r` too. -/

def presil (w : World) : World :=
  if w.silent then
    { w with answers := match w.answers with | [] => [] | a :: rest => a.silenced :: rest }
  else w

@[simp] theorem Ans.silenced_dur (a : Ans) : a.silenced.dur = a.dur := by
  cases a with
  | raise e d => by_cases h : e.isException <;> simp [Ans.silenced, Ans.dur, h]
  | _ => rfl

theorem sil_eq_raise (b : Bool) (a : Ans) (e : Exn) (d : Nat) :
    (if b = true then a.silenced else a) = Ans.raise e d ↔
      (a = Ans.raise e d ∧ (b = true → e.isException = false)) := by
  cases b
  · simp
  · cases a with
    | raise e' d' =>
      by_cases h : e'.isException = true
      · simp only [Ans.silenced, h, if_true]
        constructor
        · intro hh; cases hh
        · rintro ⟨h1, h2⟩
          cases h1
          simp [h] at h2
      · simp only [Ans.silenced, h, if_true]
        constructor
        · intro hh
          cases hh
          exact ⟨rfl, fun _ => by simpa using h⟩
        · rintro ⟨h1, _⟩; exact h1
    | _ => simp [Ans.silenced]

theorem askHook_eq (r : Req) (w : World) : askHook r w = ask r (presil w) := by
  unfold presil
  by_cases hs : w.silent = true
  · simp only [hs, if_true]
    cases ha : w.answers with
    | nil => simp [askHook, ask, ha, hs, bind, EStateM.bind, get, getThe, MonadStateOf.get, EStateM.get,
        set, MonadStateOf.set, EStateM.set, throw, throwThe, MonadExceptOf.throw, EStateM.throw]
    | cons a rest =>
      simp [askHook, ask, ha, hs, bind, EStateM.bind, get, getThe, MonadStateOf.get, EStateM.get, set,
        MonadStateOf.set, EStateM.set, throw, throwThe, MonadExceptOf.throw]
  · have hs' : w.silent = false := by simpa using hs
    simp only [hs', Bool.false_eq_true, if_false]
    cases ha : w.answers with
    | nil => simp [askHook, ask, ha, bind, EStateM.bind, get, getThe, MonadStateOf.get, EStateM.get, set,
        MonadStateOf.set, EStateM.set, throw, throwThe, MonadExceptOf.throw, EStateM.throw]
    | cons a rest =>
      simp [askHook, ask, ha, hs', bind, EStateM.bind, get, getThe, MonadStateOf.get, EStateM.get, set,
        MonadStateOf.set, EStateM.set, throw, throwThe, MonadExceptOf.throw]

theorem presil_cases (C : World → Prop) (w : World) (h : ∀ as, C { w with answers := as }) :
    C (presil w) := by
  unfold presil
  split
  · exact h _
  · exact h w.answers

theorem askHook_triple {P : Assertion (.except Exn (.arg World .pure))}
    {Q : PostCond Ans (.except Exn (.arg World .pure))} (r : Req)
    (h : ⦃P⦄ ask r ⦃Q⦄) (hp : ∀ w, (P w).down → (P (presil w)).down) : ⦃P⦄ askHook r ⦃Q⦄ := by
  intro w hw
  have := h (presil w) (hp w hw)
  simp only [wp, PredTrans.apply] at this ⊢
  have e : EStateM.run (askHook r) w = EStateM.run (ask r) (presil w) := askHook_eq r w
  rw [e]
  exact this

/-- the same for the `ask` of the observability call sites, about the answer as recorded (silenced in the twin
    semantics), provided the view does not look at the pending answers -/
theorem askHook_view {V : Type} (view : World → V) (next : V → Req × Ans → V)
    (hview : ∀ w x, view (exchanged w x) = next (view w) x)
    (hans : ∀ w as, view { w with answers := as } = view w) (v : V) (r : Req) :
    ⦃fun w => ⌜view w = v⌝⦄ askHook r
    ⦃post⟨fun a w => ⌜(∀ e d, a ≠ .raise e d) ∧ view w = next v (r, a)⌝,
          fun e w => ⌜∃ d, view w = next v (r, .raise e d)⌝⟩⦄ :=
  askHook_triple r (ask_view view next hview v r)
    (fun w h => presil_cases (fun w => view w = v) w (fun as => (hans w as).trans h))

theorem askHook_triple' {P : World → Prop} {A : Ans → World → Prop} {E : Exn → World → Prop} (r : Req)
    (hans : ∀ w as, P w → P { w with answers := as })
    (hA : ∀ w a, P w → (∀ e d, a ≠ .raise e d) → A a (exchanged w (r, a)))
    (hE : ∀ w e d, P w → E e (exchanged w (r, .raise e d))) :
    ⦃fun w => ⌜P w⌝⦄ askHook r ⦃post⟨fun a w => ⌜A a w⌝, fun e w => ⌜E e w⌝⟩⦄ :=
  askHook_triple r (ask_triple r hA hE) fun w h => presil_cases P w fun _ => hans w _ h

def finalWorld : EStateM.Result Exn World α → World
  | .ok _ w => w
  | .error _ w => w

theorem final_of_triple {x : M α} {P Q : World → Prop}
    (h : ⦃fun w => ⌜P w⌝⦄ x ⦃post⟨fun _ w => ⌜Q w⌝, fun _ w => ⌜Q w⌝⟩⦄) (w : World) (hp : P w) :
    Q (finalWorld (x w)) := by
  have h := adequacy h w hp
  show Q (finalWorld (x.run w))
  cases hr : x.run w <;> rw [hr] at h <;> exact h

/-- the world `runEntry` starts a call from: the log, the timeline and the invocation counter are per call -/
def startWorld (w : World) : World := { w with trace := [], timeline := [], opCalls := 0 }

/-- From a triple about a `call`-flavoured entry point (`Retry.runCall`, `Policy.call`) to its `Res`:
    `runEntry cfg .call w` and `runEntry cfg .pcall w` are `toRes (x.run (startWorld w))` by definition. -/
theorem toRes_of_triple {x : M Nat} {P : World → Prop} {Q : Res → World → Prop}
    (h : ⦃fun w => ⌜P w⌝⦄ x ⦃post⟨fun v w => ⌜Q (.ret v) w⌝, fun e w => ⌜Q (.raised e) w⌝⟩⦄)
    (w : World) (hp : P w) : Q (toRes (x.run w)).1 (toRes (x.run w)).2 := by
  have := adequacy h w hp
  split at this <;> rename_i heq <;> simp only [heq, toRes] <;> exact this

/-- The same for the `execute` flavour (`Retry.runExecute`, `Policy.execute`), whose `Res` carries the timeline. -/
theorem toResO_of_triple {x : M Outcome} {P : World → Prop} {Q : Res → World → Prop} (tl : Bool)
    (h : ⦃fun w => ⌜P w⌝⦄ x
      ⦃post⟨fun o w => ⌜Q (.outcome o (if tl then w.timeline.reverse else [])) w⌝, fun e w => ⌜Q (.raised e) w⌝⟩⦄)
    (w : World) (hp : P w) : Q (toResO tl (x.run w)).1 (toResO tl (x.run w)).2 := by
  have := adequacy h w hp
  split at this <;> rename_i heq <;> simp only [heq, toResO] <;> exact this

/-- What holds of every call from every world holds of every call of every script on one policy object:
    a script only strings calls together and lets the clock advance in between. -/
theorem forall_script {P : Entry → List (Req × Ans) → Res → Prop} (cfg : Cfg)
    (h : ∀ e w, P e (runEntry cfg e w).2.trace.reverse (runEntry cfg e w).1) :
    ∀ (steps : List Step) (w : World), ∀ l ∈ (runScript cfg steps w).1, P l.entry l.trace l.res := by
  intro steps
  induction steps with
  | nil => intro w l hl; simp [runScript] at hl
  | cons st rest ih =>
    intro w l hl
    cases st with
    | advance d => exact ih _ l (by simpa [runScript] using hl)
    | run e =>
      simp only [runScript, List.mem_cons] at hl
      rcases hl with rfl | hl
      · exact h e w
      · exact ih _ l hl

/-- A monitor is a left fold over the oldest-first log; the proofs follow it along the world's newest-first
    log as a right fold.  What a component `f` of the monitor state does not see of the exchanges `δ` can be
    dropped from the front. -/
theorem foldr_append_proj {σ β : Type} (step : σ → Req × Ans → σ) (init : σ) (f : σ → β) (P : Req × Ans → Prop)
    (hstep : ∀ s x, P x → f (step s x) = f s) (δ t : List (Req × Ans)) (h : ∀ x ∈ δ, P x) :
    f ((δ ++ t).foldr (fun x s => step s x) init) = f (t.foldr (fun x s => step s x) init) := by
  induction δ with
  | nil => rfl
  | cons x δ ih =>
    rw [List.cons_append, List.foldr_cons, hstep _ _ (h x List.mem_cons_self),
      ih (fun y hy => h y (List.mem_cons_of_mem _ hy))]

theorem foldr_append_inert {σ : Type} (step : σ → Req × Ans → σ) (init : σ) (P : Req × Ans → Prop)
    (hstep : ∀ s x, P x → step s x = s) (δ t : List (Req × Ans)) (h : ∀ x ∈ δ, P x) :
    (δ ++ t).foldr (fun x s => step s x) init = t.foldr (fun x s => step s x) init :=
  foldr_append_proj step init id P hstep δ t h

theorem foldl_flag {σ β : Type} (step : σ → β → σ) (bad : σ → Bool)
    (hstep : ∀ s x, bad (step s x) = false → bad s = false) :
    ∀ (q : List β) (s : σ), bad (q.foldl step s) = false → bad s = false
  | [], _, h => h
  | x :: q, s, h => hstep s x (foldl_flag step bad hstep q _ h)

theorem foldl_flag_at {σ β : Type} (step : σ → β → σ) (bad : σ → Bool)
    (hstep : ∀ s x, bad (step s x) = false → bad s = false) (init : σ) (p q : List β) (x : β)
    (h : bad ((p ++ x :: q).foldl step init) = false) : bad (step (p.foldl step init) x) = false := by
  rw [List.foldl_append] at h
  exact foldl_flag step bad hstep q _ h

/-! ### footprints

What a procedure can touch, at the level of request kinds: the relation every loop property's leaf specs come
from (`view_of_foot`, `inv_of_foot`).  `Lemmas/Footprint.lean` proves it for the procedures, together with three
finer relations. -/

inductive Kind
  | abortIf | attemptStart | attemptEnd | op | classify | resultClassify | strategy
  | stratRecordFailure | stratRecordSuccess | sleepHandler | beforeSleep | sleeper | metric | log
  | budgetConsume | breakerAllow | breakerSuccess | breakerFailure | breakerCancel
deriving DecidableEq, Repr

def Req.kind : Req → Kind
  | .abortIf => .abortIf | .attemptStart _ => .attemptStart | .attemptEnd _ => .attemptEnd
  | .op _ => .op | .classify _ => .classify | .resultClassify _ => .resultClassify
  | .strategy .. => .strategy | .stratRecordFailure .. => .stratRecordFailure
  | .stratRecordSuccess _ => .stratRecordSuccess | .sleepHandler .. => .sleepHandler
  | .beforeSleep .. => .beforeSleep | .sleeper .. => .sleeper | .metric .. => .metric
  | .log .. => .log | .budgetConsume => .budgetConsume | .breakerAllow => .breakerAllow
  | .breakerSuccess => .breakerSuccess | .breakerFailure _ => .breakerFailure
  | .breakerCancel => .breakerCancel

/-- A *footprint*: `w'` arises from `w` by consuming answers, letting time pass and appending
    exchanges whose request kinds all satisfy `K`; `rs` may change only in `lastStop`; the counters
    `attempts`, `opCalls` and the attempt's `returned` flag are kept.  The rest of the attempt-local
    state, the timeline and the embedded components are not constrained. -/
structure Foot (K : Kind → Bool) (w w' : World) : Prop where
  trace : ∃ δ, w'.trace = δ ++ w.trace ∧ ∀ x ∈ δ, K x.1.kind = true
  rs : w'.rs = { w.rs with lastStop := w'.rs.lastStop }
  attempts : w'.attempts = w.attempts
  opCalls : w'.opCalls = w.opCalls
  returned : w'.as.returned = w.as.returned
  now : w.now ≤ w'.now

theorem Foot.refl (K : Kind → Bool) (w : World) : Foot K w w :=
  ⟨⟨[], by simp, by simp⟩, rfl, rfl, rfl, rfl, Nat.le_refl _⟩

theorem Foot.trans {K : Kind → Bool} {w₁ w₂ w₃ : World} (h₁ : Foot K w₁ w₂) (h₂ : Foot K w₂ w₃) :
    Foot K w₁ w₃ := by
  obtain ⟨δ₁, e₁, k₁⟩ := h₁.trace
  obtain ⟨δ₂, e₂, k₂⟩ := h₂.trace
  refine ⟨⟨δ₂ ++ δ₁, by simp [e₂, e₁], ?_⟩, ?_, ?_, ?_, ?_, ?_⟩
  · intro x hx
    rcases List.mem_append.mp hx with h | h
    · exact k₂ x h
    · exact k₁ x h
  · rw [h₂.rs, h₁.rs]
  · rw [h₂.attempts, h₁.attempts]
  · rw [h₂.opCalls, h₁.opCalls]
  · rw [h₂.returned, h₁.returned]
  · exact Nat.le_trans h₁.now h₂.now

theorem Foot.mono {K K' : Kind → Bool} {w w' : World} (h : Foot K w w')
    (hk : ∀ k, K k = true → K' k = true) : Foot K' w w' := by
  obtain ⟨δ, e, k⟩ := h.trace
  exact ⟨⟨δ, e, fun x hx => hk _ (k x hx)⟩, h.rs, h.attempts, h.opCalls, h.returned, h.now⟩

theorem Foot.exchange {K : Kind → Bool} (w : World) (r : Req) (a : Ans) (rest : List Ans) (d : Nat)
    (hk : K r.kind = true) :
    Foot K w { w with answers := rest, now := w.now + d, trace := (r, a) :: w.trace } :=
  ⟨⟨[(r, a)], rfl, by simp [hk]⟩, rfl, rfl, rfl, rfl, Nat.le_add_right _ _⟩

theorem Foot.frame {K : Kind → Bool} (w : World) (stop : Option StopReason) (as : AState)
    (tl : List TimelineEv) (tls : Nat) (bud : Budget.St) (br : Breaker.St) (xc : XCtx)
    (has : as.returned = w.as.returned) :
    Foot K w { w with rs := { w.rs with lastStop := stop }, as := as, timeline := tl, tlStart := tls,
                      budget := bud, breaker := br, xc := xc } :=
  ⟨⟨[], rfl, by simp⟩, rfl, rfl, rfl, has, Nat.le_refl _⟩

/-- an interaction with an embedded component, logged without consuming an oracle answer -/
theorem Foot.internal {K : Kind → Bool} (w : World) (r : Req) (a : Ans) (bud : Budget.St)
    (br : Breaker.St) (xc : XCtx) (hk : K r.kind = true) :
    Foot K w { w with trace := (r, a) :: w.trace, budget := bud, breaker := br, xc := xc } :=
  ⟨⟨[(r, a)], rfl, by simp [hk]⟩, rfl, rfl, rfl, rfl, Nat.le_refl _⟩

theorem view_of_foot {α V : Type} {x : M α} {K : Kind → Bool} (view : World → V)
    (hx : ∀ w0, ⦃fun w => ⌜Foot K w0 w⌝⦄ x ⦃post⟨fun _ w => ⌜Foot K w0 w⌝, fun _ w => ⌜Foot K w0 w⌝⟩⦄)
    (hv : ∀ w w', Foot K w w' → view w' = view w) (v : V) :
    ⦃fun w => ⌜view w = v⌝⦄ x ⦃post⟨fun _ w => ⌜view w = v⌝, fun _ w => ⌜view w = v⌝⟩⦄ :=
  triple_of_rel hx (Foot.refl K) (fun _ _ _ hp h => (hv _ _ h).trans hp) (fun _ _ _ hp h => (hv _ _ h).trans hp)

theorem inv_of_foot {α : Type} {x : M α} {K : Kind → Bool} (I : World → Prop)
    (hx : ∀ w0, ⦃fun w => ⌜Foot K w0 w⌝⦄ x ⦃post⟨fun _ w => ⌜Foot K w0 w⌝, fun _ w => ⌜Foot K w0 w⌝⟩⦄)
    (hI : ∀ w w', Foot K w w' → I w → I w') :
    ⦃fun w => ⌜I w⌝⦄ x ⦃post⟨fun _ w => ⌜I w⌝, fun _ w => ⌜I w⌝⟩⦄ :=
  triple_of_rel hx (Foot.refl K) (fun _ _ _ hp h => hI _ _ h hp) (fun _ _ _ hp h => hI _ _ h hp)

theorem view_of_foot' {α V : Type} {x : M α} {K : Kind → Bool} {R : α → Prop} (view : World → V)
    (hx : ∀ w0, ⦃fun w => ⌜Foot K w0 w⌝⦄ x
      ⦃post⟨fun a w => ⌜R a ∧ Foot K w0 w⌝, fun _ w => ⌜Foot K w0 w⌝⟩⦄)
    (hv : ∀ w w', Foot K w w' → view w' = view w) (v : V) :
    ⦃fun w => ⌜view w = v⌝⦄ x ⦃post⟨fun a w => ⌜R a ∧ view w = v⌝, fun _ w => ⌜view w = v⌝⟩⦄ :=
  triple_of_rel hx (Foot.refl K) (fun _ _ _ hp h => ⟨h.1, (hv _ _ h.2).trans hp⟩)
    (fun _ _ _ hp h => (hv _ _ h).trans hp)

theorem Retry.determineAction_continue_iff (o : Retry.AOutcome) (r : RState) (a : Nat) (fr : Bool) :
    Retry.determineAction o r a fr = .continue_ ↔ o.decision = .retry := by
  unfold Retry.determineAction
  cases o.decision <;> cases fr <;> simp

theorem Retry.determineAction_abort_iff (o : Retry.AOutcome) (r : RState) (a : Nat) (fr : Bool) :
    Retry.determineAction o r a fr = .abort ↔ o.decision = .aborted := by
  unfold Retry.determineAction
  cases o.decision <;> cases fr <;> simp

theorem Retry.determineAction_raise (o : Retry.AOutcome) (r : RState) (a : Nat) (fr : Bool)
    (h : Retry.determineAction o r a fr = .raise) : o.decision = .raise ∨ o.decision = .success := by
  unfold Retry.determineAction at h
  cases hd : o.decision <;> cases fr <;> simp_all

/-- a `RetryExhaustedError` in the making: either the sleep handler deferred (then the error reports the delay
    it was offered), or the failure is a classified result that is not retried (then it reports none) -/
theorem Retry.determineAction_scheduled (o : Retry.AOutcome) (r : RState) (a : Nat) (fr : Bool) (f : ExhaustedFields)
    (h : Retry.determineAction o r a fr = .scheduled f) :
    (o.decision = .scheduled ∧ f.nextSleep = o.sleep ∧ f.stop = (o.stop <|> r.lastStop).getD .scheduled) ∨
    ((o.decision = .raise ∨ o.decision = .success) ∧ f.nextSleep = none) := by
  unfold Retry.determineAction at h
  cases hd : o.decision <;> cases fr <;> simp_all <;> (subst h; simp)

/-- a classified result never ends in a bare `raise`: there is no exception to re-raise -/
theorem Retry.determineAction_true_ne_raise (o : Retry.AOutcome) (r : RState) (a : Nat) :
    Retry.determineAction o r a true ≠ .raise := by
  unfold Retry.determineAction
  cases o.decision <;> simp

theorem Retry.Decision.isRaise_iff (d : Retry.Decision) : d.isRaise = true ↔ d = .raise := by
  cases d <;> simp [Retry.Decision.isRaise]

theorem Exn.exception_flags {e : Exn} (h : e.isException = true) : e.isKiSe = false ∧ e ≠ .cancelled := by
  cases e <;> simp_all [Exn.isException, Exn.isKiSe]

theorem Exn.abort_flags {e : Exn} (h : e.isAbort = true) :
    e.isException = true ∧ e.isExhausted = false ∧ e.isCircuitOpen = false := by
  cases e <;> simp_all [Exn.isAbort, Exn.isException, Exn.isExhausted, Exn.isCircuitOpen]

theorem Exn.exhausted_flags {e : Exn} (h : e.isExhausted = true) :
    e.isException = true ∧ e.isAbort = false ∧ e.isCircuitOpen = false := by
  cases e <;> simp_all [Exn.isAbort, Exn.isException, Exn.isExhausted, Exn.isCircuitOpen]

theorem Exn.base_flags {e : Exn} (h : e.isException = false) :
    e.isAbort = false ∧ e.isExhausted = false ∧ e.isCircuitOpen = false := by
  cases e <;> simp_all [Exn.isAbort, Exn.isException, Exn.isExhausted, Exn.isCircuitOpen]

/-- the order in which the ladders of `Policy.call` / `Policy.execute` look at an exception -/
theorem Exn.ladder_cases {P : Prop} (e : Exn) (abort : e.isAbort = true → P) (exhausted : e.isExhausted = true → P)
    (exception : e.isException = true → e.isAbort = false → e.isExhausted = false → P)
    (base : e.isException = false → P) : P := by
  by_cases h2 : e.isAbort = true
  · exact abort h2
  · by_cases h3 : e.isExhausted = true
    · exact exhausted h3
    · by_cases h1 : e.isException = true
      · exact exception h1 (by simpa using h2) (by simpa using h3)
      · exact base (by simpa using h1)

theorem Exn.kiSe_flags {e : Exn} (h : e.isKiSe = true) : e.isException = false := by
  cases e <;> simp_all [Exn.isKiSe, Exn.isException]

theorem Exn.cancelKind_flags {e : Exn} (h : e.isCancelKind = true) : e.isException = false := by
  cases e <;> simp_all [Exn.isCancelKind, Exn.isException]

theorem Exn.not_cancelKind {e : Exn} (h : e.isException = true) : e.isCancelKind = false := by
  cases e <;> simp_all [Exn.isCancelKind, Exn.isException]

/-- `mvcgen -leave -trivial` hands over its verification conditions as entailments between pure
    assertions; this turns them into implications with the premises introduced (`mleave`, the default,
    simplifies the whole context of every goal and costs several times the generation itself). -/
macro "vc_intro" : tactic => `(tactic| all_goals ((try refine SPred.pure_mono ?_) <;> intros))

end Redress
