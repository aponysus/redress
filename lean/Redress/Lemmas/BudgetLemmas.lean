/-
  Redress.Lemmas.BudgetLemmas — helper lemmas for C10.

  * `prune` (pop-left-while) on a sorted deque is the filter `live` (`Lemmas/Window`);
  * the refinement invariant `Inv` and its preservation by `step`;
  * counting lemmas for the sliding window, and the proof that checking the windows that END AT A
    GRANT TIME covers every `t` (`windowBoundOk_iff`);
  * the spec-level sliding-window induction.
-/
import Redress.Spec.Budget
import Redress.Lemmas.Window

namespace Redress.Budget

theorem prune_eq_dropWhile (w now : Nat) (l : List Nat) :
    prune w now l = l.dropWhile (fun x => decide (x + w ≤ now)) :=
  Window.eq_dropWhile (prune w now) rfl (fun _ _ => rfl) l

/-- What `prune` returns is stable: pruning it again at the same instant, with a fresh event of that
    instant appended, pops nothing. -/
theorem prune_prune_append (w now : Nat) (hw : 0 < w) (l : List Nat) :
    prune w now (prune w now l ++ [now]) = prune w now l ++ [now] := by
  rw [prune_eq_dropWhile, prune_eq_dropWhile, Window.dropWhile_dropWhile_append w now hw]

theorem prune_length_le (w now : Nat) (l : List Nat) : (prune w now l).length ≤ l.length :=
  prune_eq_dropWhile w now l ▸ (List.dropWhile_suffix _).length_le

/-- Everything `prune` pops has expired (`x + w ≤ now`), on ANY deque (sorted or not). -/
theorem prune_keeps_live (w now : Nat) (l : List Nat) :
    ∀ g ∈ live w now l, g ∈ live w now (prune w now l) := by
  intro g hg
  rwa [live, prune_eq_dropWhile, Window.filter_dropWhile]

theorem mem_live {w now g : Nat} {l : List Nat} : g ∈ live w now l ↔ g ∈ l ∧ now < g + w := by
  simp [live, List.mem_filter]

theorem live_append (w now : Nat) (a b : List Nat) :
    live w now (a ++ b) = live w now a ++ live w now b := by
  simp [live, List.filter_append]

theorem live_replicate_self {w : Nat} (hw : 0 < w) (now k : Nat) :
    live w now (List.replicate k now) = List.replicate k now := by
  have : now < now + w := by omega
  simp [live, this]

theorem live_sorted (w now : Nat) (l : List Nat) (h : l.Pairwise (· ≤ ·)) :
    (live w now l).Pairwise (· ≤ ·) :=
  h.sublist List.filter_sublist

theorem prune_live (w : Nat) {lo now : Nat} (hle : lo ≤ now) (l : List Nat)
    (h : l.Pairwise (· ≤ ·)) : prune w now (live w lo l) = live w now l := by
  rw [prune_eq_dropWhile, live, live, Window.dropWhile_filter w hle h]

theorem liveCount_le_length (w now : Nat) (l : List Nat) : liveCount w now l ≤ l.length := by
  simp only [liveCount, live]; exact List.length_filter_le _ _

theorem liveCount_eq_countP (w now : Nat) (l : List Nat) :
    liveCount w now l = l.countP (fun g => decide (now < g + w)) := by
  simp [liveCount, live, List.countP_eq_length_filter]

/-- Between `now` and a later `now'` the live count drops by exactly the number of grants whose
    expiry instant `g + w` lies in `(now, now']`. -/
theorem liveCount_split (w : Nat) {now now' : Nat} (hle : now ≤ now') (l : List Nat) :
    liveCount w now l =
      liveCount w now' l + l.countP (fun g => decide (now < g + w) && decide (g + w ≤ now')) := by
  -- split the grants live at `now` by whether they are still live at `now'`
  rw [liveCount_eq_countP, liveCount_eq_countP, List.countP_eq_length_filter,
    List.length_eq_countP_add_countP (fun g => decide (now' < g + w)), List.countP_filter,
    List.countP_filter]
  congr 1 <;> apply List.countP_congr <;> intro g _ <;>
    simp only [Bool.and_eq_true, decide_eq_true_eq] <;> omega

theorem monotoneFrom_cons {lo : Nat} {op : Op} {rest : History} :
    monotoneFrom lo (op :: rest) = true ↔ lo ≤ op.now ∧ monotoneFrom op.now rest = true := by
  simp [monotoneFrom]

theorem monotoneFrom_append {lo : Nat} {h : History} {op : Op} :
    monotoneFrom lo (h ++ [op]) = true ↔
      monotoneFrom lo h = true ∧ lastNow lo h ≤ op.now := by
  induction h generalizing lo with
  | nil => simp [monotoneFrom, lastNow]
  | cons a r ih => simp [monotoneFrom, lastNow, ih, and_assoc]

theorem le_lastNow {lo : Nat} {h : History} (hm : monotoneFrom lo h = true) : lo ≤ lastNow lo h := by
  induction h generalizing lo with
  | nil => simp [lastNow]
  | cons a r ih =>
    obtain ⟨h1, h2⟩ := monotoneFrom_cons.mp hm
    exact Nat.le_trans h1 (ih h2)

/-- `Monotone` is the usual "pairwise non-decreasing" on the list of clock values. -/
theorem monotoneFrom_iff_pairwise {lo : Nat} {h : History} :
    monotoneFrom lo h = true ↔ (lo :: h.map Op.now).Pairwise (· ≤ ·) := by
  induction h generalizing lo with
  | nil => simp [monotoneFrom]
  | cons a r ih =>
    rw [monotoneFrom_cons, ih]
    simp only [List.map_cons, List.pairwise_cons, List.mem_cons, List.mem_map, forall_eq_or_imp]
    constructor
    · rintro ⟨h1, h2, h3⟩
      refine ⟨⟨h1, ?_⟩, h2, h3⟩
      rintro x ⟨op, hop, rfl⟩
      exact Nat.le_trans h1 (h2 _ ⟨op, hop, rfl⟩)
    · rintro ⟨⟨h1, _⟩, h2, h3⟩
      exact ⟨h1, h2, h3⟩

@[simp] theorem grants_nil : Log.grants [] = [] := rfl

@[simp] theorem grants_cons (e : Entry) (l : Log) : Log.grants (e :: l) = entryGrants e ++ Log.grants l := by
  simp [Log.grants]

theorem grants_append (a b : Log) : Log.grants (a ++ b) = Log.grants a ++ Log.grants b := by
  simp [Log.grants]

@[simp] theorem run_nil (c : Cfg) (s : St) : run c s [] = ([], s) := rfl

theorem run_cons (c : Cfg) (s : St) (op : Op) (rest : History) :
    run c s (op :: rest) =
      ((op, (step c s op).1) :: (run c (step c s op).2 rest).1, (run c (step c s op).2 rest).2) := rfl

theorem run_ops (c : Cfg) (s : St) (h : History) : (run c s h).1.ops = h := by
  induction h generalizing s with
  | nil => rfl
  | cons op rest ih =>
    rw [run_cons]
    simp only [Log.ops, List.map_cons] at ih ⊢
    rw [ih]

theorem run_append (c : Cfg) (s : St) (h₁ h₂ : History) :
    run c s (h₁ ++ h₂) =
      ((run c s h₁).1 ++ (run c (run c s h₁).2 h₂).1, (run c (run c s h₁).2 h₂).2) := by
  induction h₁ generalizing s with
  | nil => simp
  | cons op rest ih => simp [run_cons, ih]

theorem specLog_ops (c : Cfg) (g : List Nat) (h : History) : (specLog c g h).ops = h := by
  induction h generalizing g with
  | nil => rfl
  | cons op rest ih =>
    simp only [specLog, Log.ops, List.map_cons] at ih ⊢
    rw [ih]

/-! ### the refinement invariant -/

/-- `events` is exactly the grants still inside the window as of the last prune (`last`), oldest
    first; `grants` (all tokens ever granted) is sorted and not later than `last`. -/
structure Inv (c : Cfg) (s : St) (grants : List Nat) (last : Nat) : Prop where
  sorted : grants.Pairwise (· ≤ ·)
  le_last : ∀ g ∈ grants, g ≤ last
  events_eq : s.events = live c.window last grants

theorem Inv.init (c : Cfg) (lo : Nat) : Inv c {} [] lo :=
  ⟨List.Pairwise.nil, by simp, by simp [live]⟩

theorem Inv.events_sorted {c : Cfg} {s : St} {g : List Nat} {last : Nat} (h : Inv c s g last) :
    s.events.Pairwise (· ≤ ·) := by
  rw [h.events_eq]; exact live_sorted _ _ _ h.sorted

section
variable {c : Cfg} {s : St} {g : List Nat} {last now : Nat}

/-- what the pop-left loop leaves at a clock value not before the last one -/
theorem Inv.prune (hi : Inv c s g last) (hle : last ≤ now) :
    prune c.window now s.events = live c.window now g := by
  rw [hi.events_eq, prune_live _ hle _ hi.sorted]

/-- after the prune at `now` -/
theorem Inv.pruned (hi : Inv c s g last) (hle : last ≤ now) :
    Inv c { events := live c.window now g } g now :=
  ⟨hi.sorted, fun x hx => Nat.le_trans (hi.le_last x hx) hle, rfl⟩

/-- after the prune at `now` and a grant of `cost` tokens -/
theorem Inv.granted (hw : 0 < c.window) (hi : Inv c s g last) (hle : last ≤ now) (cost : Nat) :
    Inv c { events := live c.window now g ++ List.replicate cost now }
      (g ++ List.replicate cost now) now :=
  have ⟨h1, h2⟩ := Window.pairwise_append_replicate cost hi.sorted
    fun x hx => Nat.le_trans (hi.le_last x hx) hle
  ⟨h1, h2, by rw [live_append, live_replicate_self hw]⟩

/-- One model step from a state satisfying `Inv`, at a clock value not before the last one:
    the output is the spec's output and `Inv` holds again for the extended grant history. -/
theorem step_inv (hw : 0 < c.window) (hi : Inv c s g last) (op : Op) (hle : last ≤ op.now) :
    (step c s op).1 = specOut c g op ∧
      Inv c (step c s op).2 (g ++ entryGrants (op, specOut c g op)) op.now := by
  cases op with
  | remaining now =>
    have hp : prune c.window now s.events = live c.window now g := hi.prune hle
    simp only [step, remaining, specOut, entryGrants, List.append_nil, hp]
    exact ⟨rfl, hi.pruned hle⟩
  | consume now cost =>
    have hp : prune c.window now s.events = live c.window now g := hi.prune hle
    by_cases hfull : liveCount c.window now g + cost ≤ c.maxRetries
    · have hnot : ¬ (live c.window now g).length + cost > c.maxRetries := Nat.not_lt.mpr hfull
      simp only [step, consume, specOut, hp, hnot, hfull, if_false, decide_true, entryGrants]
      exact ⟨trivial, hi.granted hw hle cost⟩
    · have hyes : (live c.window now g).length + cost > c.maxRetries := Nat.lt_of_not_le hfull
      simp only [step, consume, specOut, hp, hyes, hfull, if_true, decide_false, entryGrants,
        List.append_nil]
      exact ⟨trivial, hi.pruned hle⟩

end

/-- The model run from any `Inv` state over any monotone continuation equals the spec run, and
    `Inv` holds at the end. -/
theorem run_inv {c : Cfg} (hw : 0 < c.window) {s : St} {g : List Nat} {last : Nat}
    (hi : Inv c s g last) (h : History) (hm : monotoneFrom last h = true) :
    (run c s h).1 = specLog c g h ∧
      Inv c (run c s h).2 (g ++ (specLog c g h).grants) (lastNow last h) := by
  induction h generalizing s g last with
  | nil => simpa [specLog, lastNow] using hi
  | cons op rest ih =>
    obtain ⟨h1, h2⟩ := monotoneFrom_cons.mp hm
    obtain ⟨ho, hi'⟩ := step_inv hw hi op h1
    obtain ⟨hl, hi''⟩ := ih hi' h2
    rw [run_cons]
    simp only [specLog, lastNow, grants_cons]
    refine ⟨by rw [ho, hl], ?_⟩
    simpa [List.append_assoc] using hi''

/-! ### counting in windows -/

theorem countIn_append (w t : Nat) (a b : List Nat) :
    countIn w t (a ++ b) = countIn w t a + countIn w t b := by
  simp [countIn, List.countP_append]

theorem countIn_replicate (w t k x : Nat) :
    countIn w t (List.replicate k x) = if inWindow w t x then k else 0 := by
  simp [countIn, List.countP_replicate]

/-- A window ending at `t ≥ now` only contains grants that are live at `now`. -/
theorem countIn_le_liveCount (w : Nat) {now t : Nat} (hle : now ≤ t) (l : List Nat) :
    countIn w t l ≤ liveCount w now l := by
  rw [liveCount_eq_countP]
  apply List.countP_mono_left
  intro g _ hg
  simp only [inWindow, Bool.and_eq_true, decide_eq_true_eq] at hg ⊢
  omega

/-- When no grant is later than `now`, "in `(now − w, now]`" and "live at `now`" coincide. -/
theorem countIn_eq_liveCount (w : Nat) {now : Nat} {l : List Nat} (h : ∀ g ∈ l, g ≤ now) :
    countIn w now l = liveCount w now l := by
  rw [liveCount_eq_countP]
  apply List.countP_congr
  intro g hg
  have := h g hg
  simp only [inWindow, Bool.and_eq_true, decide_eq_true_eq]
  omega

/-- Appending a granted batch keeps the sliding-window bound at every `t`. -/
theorem countIn_grant {max w now cost : Nat} {l : List Nat}
    (hall : ∀ t, countIn w t l ≤ max) (hroom : liveCount w now l + cost ≤ max) (t : Nat) :
    countIn w t (l ++ List.replicate cost now) ≤ max := by
  rw [countIn_append, countIn_replicate]
  by_cases hin : inWindow w t now = true
  · have hle : now ≤ t := by
      simp only [inWindow, Bool.and_eq_true, decide_eq_true_eq] at hin; exact hin.1
    have := countIn_le_liveCount w hle l
    simp only [hin, if_true]; omega
  · simp only [hin]; exact hall t

/-- Spec-level sliding-window induction: no hypothesis on the clock is needed for the SPEC (it
    filters); monotonicity is needed only to relate the model's pop-left loop to it. -/
theorem spec_window_bound (c : Cfg) (g : List Nat) (h : History)
    (hall : ∀ t, countIn c.window t g ≤ c.maxRetries) :
    ∀ t, countIn c.window t (g ++ (specLog c g h).grants) ≤ c.maxRetries := by
  induction h generalizing g with
  | nil => simpa [specLog] using hall
  | cons op rest ih =>
    simp only [specLog, grants_cons, ← List.append_assoc]
    apply ih
    cases op with
    | remaining now => simpa [specOut, entryGrants] using hall
    | consume now cost =>
      by_cases hroom : liveCount c.window now g + cost ≤ c.maxRetries
      · simp only [specOut, hroom, decide_true, entryGrants]
        exact countIn_grant hall hroom
      · simpa [specOut, hroom, entryGrants] using hall

/-! ### which window positions have to be checked -/

/-- If `t` is not itself a grant time, the window ending at `t` holds no more than the one ending
    at `t - 1`. -/
theorem countIn_pred_of_not_mem (w t : Nat) (l : List Nat) (hn : t + 1 ∉ l) :
    countIn w (t + 1) l ≤ countIn w t l := by
  apply List.countP_mono_left
  intro g hg hin
  simp only [inWindow, Bool.and_eq_true, decide_eq_true_eq] at hin ⊢
  have : g ≠ t + 1 := fun h => hn (h ▸ hg)
  omega

theorem countIn_zero_of_not_mem (w : Nat) (l : List Nat) (hn : 0 ∉ l) : countIn w 0 l = 0 := by
  simp only [countIn, List.countP_eq_zero, inWindow, Bool.and_eq_true, decide_eq_true_eq]
  intro g hg h
  have : g = 0 := by omega
  exact hn (this ▸ hg)

/-- Checking the windows that end at a grant time covers EVERY `t`. -/
theorem windowBoundOk_iff (max w : Nat) (l : List Nat) :
    windowBoundOk max w l = true ↔ ∀ t, countIn w t l ≤ max := by
  constructor
  · intro h t
    simp only [windowBoundOk, List.all_eq_true, decide_eq_true_eq] at h
    induction t with
    | zero =>
      by_cases hm : 0 ∈ l
      · exact h 0 hm
      · rw [countIn_zero_of_not_mem w l hm]; exact Nat.zero_le _
    | succ t ih =>
      by_cases hm : t + 1 ∈ l
      · exact h _ hm
      · exact Nat.le_trans (countIn_pred_of_not_mem w t l hm) ih
  · intro h
    simp only [windowBoundOk, List.all_eq_true, decide_eq_true_eq]
    exact fun t _ => h t

/-- `[t, t + w)` is `(t' − w, t']` for `t' = t + w − 1` (and empty for `w = 0`). -/
theorem countInFwd_eq (w t : Nat) (l : List Nat) (hw : 0 < w) :
    countInFwd w t l = countIn w (t + w - 1) l := by
  simp only [countInFwd, countIn]
  apply List.countP_congr
  intro g _
  simp only [inWindowFwd, inWindow, Bool.and_eq_true, decide_eq_true_eq]
  omega

theorem countInFwd_zero (t : Nat) (l : List Nat) : countInFwd 0 t l = 0 := by
  simp only [countInFwd, List.countP_eq_zero, inWindowFwd, Bool.and_eq_true, decide_eq_true_eq]
  intro g _; omega

theorem countIn_zero_window (t : Nat) (l : List Nat) : countIn 0 t l = 0 := by
  simp only [countIn, List.countP_eq_zero, inWindow, Bool.and_eq_true, decide_eq_true_eq]
  intro g _; omega

/-! ### checkers vs the spec -/

theorem allSteps_and (p q : List Nat → Entry → Bool) (g : List Nat) (l : Log) :
    allSteps (fun g e => p g e && q g e) g l = (allSteps p g l && allSteps q g l) := by
  induction l generalizing g with
  | nil => rfl
  | cons e r ih =>
    simp only [allSteps, ih]
    cases p g e <;> cases q g e <;> simp

/-- The three per-entry monitors together say exactly "the output is the spec's output". -/
theorem entry_ok_iff (c : Cfg) (g : List Nat) (e : Entry) :
    (shapeEntryOk g e && refusalEntryOk c g e && remainingEntryOk c g e) = true ↔
      e.2 = specOut c g e.1 := by
  obtain ⟨op, out⟩ := e
  cases op <;> cases out <;>
    simp [shapeEntryOk, refusalEntryOk, remainingEntryOk, specOut]

theorem allSteps_spec_iff (c : Cfg) (g : List Nat) (l : Log) :
    allSteps (fun g e => shapeEntryOk g e && refusalEntryOk c g e && remainingEntryOk c g e) g l
        = true ↔ l = specLog c g l.ops := by
  induction l generalizing g with
  | nil => simp [allSteps, specLog, Log.ops]
  | cons e r ih =>
    obtain ⟨op, out⟩ := e
    simp only [allSteps, Bool.and_eq_true, Log.ops, List.map_cons, specLog] at ih ⊢
    have he := entry_ok_iff c g (op, out)
    simp only [Bool.and_eq_true] at he
    rw [he, ih, List.cons.injEq, Prod.mk.injEq, eq_self, true_and]
    exact ⟨fun ⟨h1, h2⟩ => ⟨h1, h1 ▸ h2⟩, fun ⟨h1, h2⟩ => ⟨h1, h1 ▸ h2⟩⟩

/-- A recorded log passes `shapeOk`, `refusalOk` and `remainingOk` iff it IS the spec's log for
    its own operations. -/
theorem monitors_iff_spec (c : Cfg) (l : Log) :
    (shapeOk l && refusalOk c l && remainingOk c l) = true ↔ l = specLog c [] l.ops := by
  rw [← allSteps_spec_iff]
  simp only [shapeOk, refusalOk, remainingOk, allSteps_and]

end Redress.Budget
