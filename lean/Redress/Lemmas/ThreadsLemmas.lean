/-
  Redress.Lemmas.ThreadsLemmas — helper lemmas for C17 (one-mutex thread calculus).

  `wl_step`   : the lock discipline is preserved by every fine step;
  `sim_step`  : a fine step is either absorbed by "complete the holder's section" or is exactly one
                coarse step between the completed configurations;
  `simulate`  : hence every fine execution is matched by a coarse execution;
  `wl_append`, `wl_flatten`, `wlc_eq_wl` : the discipline of a program that is a concatenation of
                method shapes follows from the discipline of each shape.
-/
import Redress.Model.Threads

namespace Redress.Threads

variable {L S : Type}

@[simp] theorem upd_same {α : Type} (f : Nat → α) (i : Nat) (v : α) : upd f i v i = v := by
  simp [upd]

@[simp] theorem upd_other {α : Type} (f : Nat → α) (i j : Nat) (v : α) (h : j ≠ i) :
    upd f i v j = f j := by simp [upd, h]

theorem upd_upd {α : Type} (f : Nat → α) (i : Nat) (v w : α) : upd (upd f i v) i w = upd f i w := by
  funext j; by_cases h : j = i <;> simp [upd, h]

theorem upd_comm {α : Type} (f : Nat → α) (i j : Nat) (v w : α) (h : i ≠ j) :
    upd (upd f i v) j w = upd (upd f j w) i v := by
  funext k
  by_cases h1 : k = i <;> by_cases h2 : k = j <;> simp_all [upd]

theorem Conf.ext' {a b : Conf L S} (h1 : a.threads = b.threads) (h2 : a.shared = b.shared)
    (h3 : a.holder = b.holder) : a = b := by
  cases a; cases b; simp_all

/-! ### shapes versus code -/

/-- The discipline on code is the discipline on its shape. -/
theorem wlc_eq_wl (h : Bool) (c : List (Cmd L S)) : wlc h c = wl h (c.map Cmd.instr) := by
  induction c generalizing h with
  | nil => simp [wlc, wl]
  | cons x r ih => cases x <;> simp [wlc, wl, Cmd.instr, ih]

/-- What follows a prefix is checked with the holding status the prefix ends in: one continuation
    may be exchanged for another that is well-locked whenever the first is. -/
theorem wl_append_imp (pre x y : List Instr) (hxy : ∀ h, wl h x = true → wl h y = true) (h : Bool) :
    wl h (pre ++ x) = true → wl h (pre ++ y) = true := by
  induction pre generalizing h with
  | nil => exact hxy h
  | cons i r ih =>
    cases i <;> simp only [List.cons_append, wl, Bool.and_eq_true]
    · exact ih h
    · exact And.imp_right (ih true)
    · exact And.imp_right (ih false)
    · exact And.imp_right (ih true)

/-- A shape that ends lock-free followed by a well-locked shape is well-locked. -/
theorem wl_append (h : Bool) (a b : List Instr) (ha : wl h a = true) (hb : wl false b = true) :
    wl h (a ++ b) = true :=
  wl_append_imp a [] b (fun h' h0 => by cases h' <;> simp_all [wl]) h (by simpa using ha)

/-- Any concatenation of well-locked shapes is well-locked (any number of operations). -/
theorem wl_flatten (ss : List (List Instr)) (h : ∀ s ∈ ss, wl false s = true) :
    wl false ss.flatten = true := by
  induction ss with
  | nil => simp [wl]
  | cons s r ih =>
    simp only [List.flatten_cons]
    exact wl_append false s r.flatten (h s (by simp)) (ih (fun t ht => h t (by simp [ht])))

/-- A lock-neutral block (only `loc`/`sh`, e.g. a loop body inside or outside a `with`). -/
def neutral (b : List Instr) : Bool := b.all (fun x => x == .loc || x == .sh)

/-- A lock-neutral block does not change the holding status: if it is well-locked in front of one
    continuation, it is so in front of any other that is well-locked with the same status. -/
theorem wl_neutral (h : Bool) (b x y : List Instr) (hn : neutral b = true)
    (hx : wl h (b ++ x) = true) (hy : wl h y = true) : wl h (b ++ y) = true := by
  induction b with
  | nil => exact hy
  | cons i t ih =>
    simp only [neutral, List.all_cons, Bool.and_eq_true] at hn
    cases i with
    | loc => exact ih hn.2 hx
    | sh =>
      simp only [List.cons_append, wl, Bool.and_eq_true] at hx ⊢
      obtain rfl := hx.1
      exact ⟨rfl, ih hn.2 hx.2⟩
    | acq => simp at hn
    | rel => simp at hn

theorem wl_repeat_core (h : Bool) (b post : List Instr) (hn : neutral b = true) (n : Nat)
    (h1 : wl h (b ++ post) = true) :
    wl h ((List.replicate (n + 1) b).flatten ++ post) = true := by
  induction n with
  | zero => simpa using h1
  | succ k ih =>
    rw [List.replicate_succ, List.flatten_cons, List.append_assoc]
    exact wl_neutral h b post _ hn h1 ih

/-- Loop justification: if a path on which a lock-neutral loop body `b` is taken once is well-locked,
    the path with the body taken any number `n+1` of times is well-locked too.  (The extractor emits
    each loop with its body taken 0 times and once, and refuses loops whose body acquires, releases
    or returns.) -/
theorem wl_repeat (h : Bool) (pre b post : List Instr) (hn : neutral b = true) (n : Nat)
    (hw : wl h (pre ++ (b ++ post)) = true) :
    wl h (pre ++ ((List.replicate (n + 1) b).flatten ++ post)) = true :=
  wl_append_imp pre _ _ (fun h' => wl_repeat_core h' b post hn n) h hw

/-! ### preservation of the discipline -/

/-- What an enabled step did, by instruction. -/
theorem step_some {c c' : Conf L S} {i : Nat} (hs : step c i = some c') :
    ∃ ins r, (c.threads i).code = ins :: r ∧
      match ins with
      | .loc f => c' = { c with threads := upd c.threads i ⟨f (c.threads i).loc, r⟩ }
      | .acq => c.holder = none ∧
          c' = { c with threads := upd c.threads i ⟨(c.threads i).loc, r⟩, holder := some i }
      | .rel => c.holder = some i ∧
          c' = { c with threads := upd c.threads i ⟨(c.threads i).loc, r⟩, holder := none }
      | .sh f => c' = { c with threads := upd c.threads i ⟨(f (c.threads i).loc c.shared).1, r⟩,
                               shared := (f (c.threads i).loc c.shared).2 } := by
  unfold step at hs
  split at hs
  · cases hs
  · exact ⟨.loc _, _, ‹_›, (Option.some.inj hs).symm⟩
  · split at hs
    · exact ⟨.acq, _, ‹_›, ‹_›, (Option.some.inj hs).symm⟩
    · cases hs
  · split at hs
    · exact ⟨.rel, _, ‹_›, ‹_›, (Option.some.inj hs).symm⟩
    · cases hs
  · exact ⟨.sh _, _, ‹_›, (Option.some.inj hs).symm⟩

theorem wl_step (c c' : Conf L S) (i : Nat) (hwl : WL c) (hs : step c i = some c') : WL c' := by
  obtain ⟨ins, r, hcode, h⟩ := step_some hs
  intro j
  by_cases hj : j = i
  · subst hj
    have hwi := hwl j
    rw [hcode] at hwi
    cases ins with
    | loc f => subst h; simpa [wlc] using hwi
    | acq => obtain ⟨hn, rfl⟩ := h; simpa [wlc, hn] using hwi
    | rel => obtain ⟨hn, rfl⟩ := h; simpa [wlc, hn] using hwi
    | sh f => subst h; simp only [wlc, Bool.and_eq_true] at hwi; simpa [hwi.1] using hwi.2
  · -- another thread keeps its code, and whether it holds the lock
    have hwj := hwl j
    have hne : (some i == some j) = false := by simpa using fun e => hj e.symm
    cases ins with
    | loc f => subst h; simpa [upd, hj] using hwj
    | acq => obtain ⟨hn, rfl⟩ := h; simpa [upd, hj, hn, hne] using hwj
    | rel => obtain ⟨hn, rfl⟩ := h; simpa [upd, hj, hn, hne] using hwj
    | sh f => subst h; simpa [upd, hj] using hwj

theorem wl_exec (sched : List Nat) (c cf : Conf L S) (hw : WL c) (he : exec c sched = some cf) :
    WL cf := by
  induction sched generalizing c with
  | nil => cases he; exact hw
  | cons j js ih =>
    obtain ⟨c', hs, he⟩ := Option.bind_eq_some_iff.mp he
    exact ih c' (wl_step c c' j hw hs) he

/-! ### simulation -/

/-- One fine step of a well-locked configuration is either absorbed by `complete` (a step inside the
    holder's critical section) or is exactly one coarse step between the completed configurations. -/
theorem sim_step (c c' : Conf L S) (i : Nat) (hwl : WL c) (hs : step c i = some c') :
    complete c' = complete c ∨ astep (complete c) i = some (complete c') := by
  obtain ⟨ins, r, hcode, h⟩ := step_some hs
  have hwi := hwl i
  rw [hcode] at hwi
  cases ins with
  | acq =>
    obtain ⟨hn, rfl⟩ := h
    right; simp [astep, hcode, hn, complete, upd_upd]
  | rel =>
    obtain ⟨hn, rfl⟩ := h
    left; simp [complete, hn, hcode, finish]
  | sh f =>
    -- only the holder may touch shared state
    have hn : c.holder = some i := by simp [wlc] at hwi; exact hwi.1
    subst h
    left; simp [complete, hn, hcode, finish, upd_upd]
  | loc f =>
    subst h
    cases hh : c.holder with
    | none => right; simp [astep, hcode, complete, hh]
    | some h =>
      by_cases hih : i = h
      · subst hih; left; simp [complete, hh, hcode, finish, upd_upd]
      · right
        have hhi : ¬ h = i := fun e => hih e.symm
        simp [astep, complete, hh, hih, hhi, hcode, upd_other]
        exact upd_comm _ _ _ _ _ hhi

/-- Every fine-grained execution of a well-locked program is matched by a coarse execution in which
    each critical section is a single atomic step (in lock-acquisition order). -/
theorem simulate (sched : List Nat) (c cf : Conf L S) (hwl : WL c) (h : exec c sched = some cf) :
    ∃ sched', aexec (complete c) sched' = some (complete cf) := by
  induction sched generalizing c with
  | nil => cases h; exact ⟨[], rfl⟩
  | cons i is ih =>
    obtain ⟨c', hs, h⟩ := Option.bind_eq_some_iff.mp h
    obtain ⟨sched', hsched'⟩ := ih c' (wl_step c c' i hwl hs) h
    rcases sim_step c c' i hwl hs with heq | hstep
    · exact ⟨sched', heq ▸ hsched'⟩
    · exact ⟨i :: sched', by simp [aexec, hstep, hsched']⟩

theorem terminal_holder_none (c : Conf L S) (hwl : WL c) (ht : Terminal c) : c.holder = none := by
  cases hh : c.holder with
  | none => rfl
  | some h =>
    have := hwl h
    simp [ht h, hh, wlc] at this

/-! ### observation logs (branching programs: the coarse run follows the same paths) -/

/-- what one instruction read: the thread-local state and, for `sh`, the shared state -/
abbrev Obs (L S : Type) := L × Option S

/-- the same instruction, additionally appending what it read to a log kept in the local state -/
def Cmd.logged : Cmd L S → Cmd (L × List (Obs L S)) S
  | .loc f => .loc (fun p => (f p.1, p.2 ++ [(p.1, none)]))
  | .acq => .acq
  | .rel => .rel
  | .sh f => .sh (fun p s => (((f p.1 s).1, p.2 ++ [(p.1, some s)]), (f p.1 s).2))

/-- forget the logs -/
def Conf.forget (c : Conf (L × List (Obs L S)) S) (code : Nat → List (Cmd L S)) : Conf L S :=
  { threads := fun i => ⟨(c.threads i).loc.1, code i⟩, shared := c.shared, holder := c.holder }

/-- `c'` is `c` with logging instructions and some logs -/
def LoggedOf (c : Conf L S) (c' : Conf (L × List (Obs L S)) S) : Prop :=
  c'.shared = c.shared ∧ c'.holder = c.holder ∧
  ∀ i, (c'.threads i).loc.1 = (c.threads i).loc ∧ (c'.threads i).code = (c.threads i).code.map Cmd.logged

theorem logged_upd {f : Nat → TState L S} {f' : Nat → TState (L × List (Obs L S)) S}
    (h : ∀ j, (f' j).loc.1 = (f j).loc ∧ (f' j).code = (f j).code.map Cmd.logged) (i : Nat)
    {t : TState L S} {t' : TState (L × List (Obs L S)) S}
    (ht : t'.loc.1 = t.loc ∧ t'.code = t.code.map Cmd.logged) (j : Nat) :
    (upd f' i t' j).loc.1 = (upd f i t j).loc ∧
      (upd f' i t' j).code = (upd f i t j).code.map Cmd.logged := by
  by_cases hj : j = i
  · subst hj; simpa using ht
  · simpa [upd, hj] using h j

theorem step_logged (c cn : Conf L S) (c' : Conf (L × List (Obs L S)) S) (i : Nat)
    (h : LoggedOf c c') (hs : step c i = some cn) : ∃ cn', step c' i = some cn' ∧ LoggedOf cn cn' := by
  obtain ⟨hsh, hho, hth⟩ := h
  obtain ⟨ins, r, hcode, hcn⟩ := step_some hs
  obtain ⟨hloc, hcode'⟩ := hth i
  rw [hcode] at hcode'
  unfold step
  rw [hcode']
  cases ins with
  | loc f =>
    subst hcn
    exact ⟨_, rfl, hsh, hho, logged_upd hth i ⟨congrArg f hloc, rfl⟩⟩
  | acq =>
    obtain ⟨hn, rfl⟩ := hcn
    simp only [List.map_cons, Cmd.logged, hho, hn, if_true]
    exact ⟨_, rfl, hsh, rfl, logged_upd hth i ⟨hloc, rfl⟩⟩
  | rel =>
    obtain ⟨hn, rfl⟩ := hcn
    simp only [List.map_cons, Cmd.logged, hho, hn, if_true]
    exact ⟨_, rfl, hsh, rfl, logged_upd hth i ⟨hloc, rfl⟩⟩
  | sh f =>
    subst hcn
    simp only [List.map_cons, Cmd.logged, hsh, hloc]
    exact ⟨_, rfl, rfl, hho, logged_upd hth i ⟨rfl, rfl⟩⟩

/-- start every thread with an empty log -/
def Conf.withLogs (c : Conf L S) : Conf (L × List (Obs L S)) S :=
  { threads := fun i => ⟨((c.threads i).loc, []), (c.threads i).code.map Cmd.logged⟩,
    shared := c.shared, holder := c.holder }

theorem loggedOf_withLogs (c : Conf L S) : LoggedOf c c.withLogs :=
  ⟨rfl, rfl, fun _ => ⟨rfl, rfl⟩⟩

theorem exec_logged (sched : List Nat) (c cf : Conf L S) (c' : Conf (L × List (Obs L S)) S)
    (h : LoggedOf c c') (he : exec c sched = some cf) :
    ∃ cf', exec c' sched = some cf' ∧ LoggedOf cf cf' := by
  induction sched generalizing c c' with
  | nil => cases he; exact ⟨c', rfl, h⟩
  | cons i is ih =>
    obtain ⟨cn, hs, he⟩ := Option.bind_eq_some_iff.mp he
    obtain ⟨cn', hs', hl⟩ := step_logged c cn c' i h hs
    obtain ⟨cf', he', hlf⟩ := ih cn cn' hl he
    exact ⟨cf', by simp [exec, hs', he'], hlf⟩

theorem logged_instr (code : List (Cmd L S)) :
    (code.map Cmd.logged).map Cmd.instr = code.map Cmd.instr := by
  induction code with
  | nil => rfl
  | cons x r ih => cases x <;> simp [Cmd.logged, Cmd.instr, ih]

theorem WL_logged (c : Conf L S) (c' : Conf (L × List (Obs L S)) S) (h : LoggedOf c c')
    (hwl : WL c) : WL c' := by
  intro i
  have := hwl i
  rw [wlc_eq_wl] at this ⊢
  rw [(h.2.2 i).2, logged_instr, h.2.1]
  exact this

theorem terminal_logged (c : Conf L S) (c' : Conf (L × List (Obs L S)) S) (h : LoggedOf c c')
    (ht : Terminal c) : Terminal c' := by
  intro i
  rw [(h.2.2 i).2, ht i]; rfl

end Redress.Threads
