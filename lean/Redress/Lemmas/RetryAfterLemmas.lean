/- Lemmas about `str.strip`, `int()` and `try … except` of the Retry-After model, for C20. -/
import Redress.Model.RetryAfter

namespace Redress.RetryAfter

-- so that concrete instances of the model can be checked by `decide` in `example`s
deriving instance DecidableEq for Except

/-! ### characters -/

theorem isPySpace_of_isDigit {c : Char} (h : c.isDigit = true) : isPySpace c = false := by
  have : 48 ≤ c.toNat ∧ c.toNat ≤ 57 := Char.isDigit_iff_toNat.mp h
  simp [isPySpace]
  omega

theorem isIntSpace_imp_isPySpace {c : Char} (h : isIntSpace c = true) : isPySpace c = true := by
  simp [isIntSpace] at h
  exact h.1

theorem ne_of_isDigit {c d : Char} (hc : c.isDigit = true) (hd : d.isDigit = false) : c ≠ d := by
  rintro rfl
  simp [hd] at hc

/-! ### lists -/

theorem dropWhile_eq_nil_iff {α : Type} {p : α → Bool} {l : List α} :
    l.dropWhile p = [] ↔ ∀ x ∈ l, p x = true := by
  induction l with
  | nil => simp
  | cons a t ih => cases h : p a <;> simp [h, ih]

theorem dropWhile_eq_self {α : Type} {p : α → Bool} {l : List α} (h : ∀ x ∈ l.head?, p x = false) :
    l.dropWhile p = l := by
  cases l with
  | nil => rfl
  | cons a t => simp [h a rfl]

theorem takeWhile_eq_self {α : Type} {p : α → Bool} {l : List α} (h : ∀ x ∈ l, p x = true) :
    l.takeWhile p = l := by
  simpa using List.takeWhile_append_of_pos (l₂ := []) h

theorem hasDoubleUnderscore_eq_false {l : List Char} (h : ∀ c ∈ l, c ≠ '_') :
    hasDoubleUnderscore l = false := by
  induction l with
  | nil => rfl
  | cons a t ih =>
    cases t with
    | nil => rfl
    | cons b u => simp [hasDoubleUnderscore, h a (by simp), ih fun c hc => h c (by simp [hc])]

/-! ### `str.strip()` -/

/-- Stripping removes a whitespace prefix and suffix around a core that neither starts nor ends
with whitespace (the empty core included: an all-whitespace string strips to nothing). -/
theorem pyStripL_around {ws1 ws2 core : List Char}
    (h1 : ∀ c ∈ ws1, isPySpace c = true) (h2 : ∀ c ∈ ws2, isPySpace c = true)
    (ha : ∀ c ∈ core.head?, isPySpace c = false) (hb : ∀ c ∈ core.getLast?, isPySpace c = false) :
    pyStripL (ws1 ++ core ++ ws2) = core := by
  unfold pyStripL
  rw [List.append_assoc, List.dropWhile_append_of_pos h1]
  cases core with
  | nil => simp [dropWhile_eq_nil_iff.mpr h2]
  | cons a t =>
    rw [dropWhile_eq_self (l := a :: t ++ ws2) (by simpa using ha), List.reverse_append,
      List.dropWhile_append_of_pos (by simpa using h2), dropWhile_eq_self fun c hc => hb c (List.head?_reverse ▸ hc),
      List.reverse_reverse]

theorem pyStrip_isEmpty {s : String} (h : s.toList.isEmpty = true) :
    (pyStrip s).toList.isEmpty = true := by
  simp [pyStrip, pyStripL, List.isEmpty_iff.mp h]

/-! ### `int()` on sign + digits -/

/-- the digit run: a non-empty list of ASCII digits with nothing after it is its value, or the
digit-limit ValueError -/
theorem pyIntBody_digits {lim : Nat} {neg : Bool} {ds : List Char} (hne : ds ≠ [])
    (hd : ∀ c ∈ ds, c.isDigit = true) :
    pyIntBody lim neg ds =
      if 0 < lim ∧ lim < ds.length then .tooManyDigits
      else .value (if neg then -(decVal ds : Int) else (decVal ds : Int)) := by
  have hrun : ∀ c ∈ ds, isRunChar c = true := fun c hc => by simp [isRunChar, hd c hc]
  have hnu : ∀ c ∈ ds, c ≠ '_' := fun c hc => ne_of_isDigit (hd c hc) (by decide)
  have hlast : ds.getLast? ≠ some '_' := fun h => hnu _ (List.mem_of_getLast? h) rfl
  have hhead : ds.head? ≠ some '_' := fun h => hnu _ (List.mem_of_head? h) rfl
  unfold pyIntBody
  simp only [takeWhile_eq_self hrun, dropWhile_eq_nil_iff.mpr hrun, hasDoubleUnderscore_eq_false hnu,
    List.filter_eq_self.mpr hd]
  simp [hlast, hhead, hne]

/-- the optional sign in front of the digit run -/
theorem pyIntL_sign_digits {lim : Nat} {sg ds : List Char} (hsg : sg = [] ∨ sg = ['+'] ∨ sg = ['-'])
    (hne : ds ≠ []) (hd : ∀ c ∈ ds, c.isDigit = true) :
    pyIntL lim (sg ++ ds) = pyIntBody lim (sg == ['-']) ds := by
  have hp : ¬ isIntSpace '+' = true := by decide
  have hm : ¬ isIntSpace '-' = true := by decide
  unfold pyIntL
  rcases hsg with rfl | rfl | rfl
  · obtain ⟨d, t, rfl⟩ := List.exists_cons_of_ne_nil hne
    have hdd := hd d (by simp)
    have hsp : ¬ isIntSpace d = true := by simp [isIntSpace, isPySpace_of_isDigit hdd]
    simp [List.dropWhile_cons_of_neg hsp, beq_false_of_ne (ne_of_isDigit hdd (d := '+') rfl),
      beq_false_of_ne (ne_of_isDigit hdd (d := '-') rfl)]
  · simp [List.dropWhile_cons_of_neg hp]
  · simp [List.dropWhile_cons_of_neg hm]

/-! ### which strings `int()` accepts: only digits, `_`, signs, whitespace -/

/-- the characters that can occur in a string `int()` accepts -/
def isIntChar (c : Char) : Bool := c.isDigit || c == '_' || c == '+' || c == '-' || isIntSpace c

/-- one step down an `if`-ladder whose taken branch cannot be the result -/
theorem of_ite_eq {α : Type} {c : Prop} [Decidable c] {a b v : α}
    (h : (if c then a else b) = v) (hav : a ≠ v) : ¬ c ∧ b = v := by
  split at h
  · exact absurd h hav
  · exact ⟨‹_›, h⟩

/-- If the digit-run parser returns a value, its input consists of digits, `_` and whitespace. -/
theorem pyIntBody_value_chars {lim : Nat} {neg : Bool} {s2 : List Char} {n : Int}
    (h : pyIntBody lim neg s2 = .value n) : ∀ c ∈ s2, isIntChar c = true := by
  have htail : (s2.dropWhile isRunChar).dropWhile isIntSpace = [] := by
    unfold pyIntBody at h
    simp only at h
    -- every rung but the last returns an error; the last one tests `!tail.isEmpty`
    obtain ⟨-, h⟩ := of_ite_eq h nofun
    obtain ⟨-, h⟩ := of_ite_eq h nofun
    obtain ⟨-, h⟩ := of_ite_eq h nofun
    obtain ⟨-, h⟩ := of_ite_eq h nofun
    obtain ⟨-, h⟩ := of_ite_eq h nofun
    obtain ⟨-, h⟩ := of_ite_eq h nofun
    simpa using (of_ite_eq h nofun).1
  intro c hc
  rw [← List.takeWhile_append_dropWhile (p := isRunChar) (l := s2)] at hc
  rcases List.mem_append.mp hc with hc | hc
  · have := List.all_eq_true.mp List.all_takeWhile c hc
    simp only [isRunChar, Bool.or_eq_true] at this
    rcases this with h' | h' <;> simp [isIntChar, h']
  · simp [isIntChar, dropWhile_eq_nil_iff.mp htail c hc]

/-- `int()` accepts only strings made of digits, underscores, signs and whitespace. -/
theorem pyIntL_value_chars {lim : Nat} {s : List Char} {n : Int}
    (h : pyIntL lim s = .value n) : ∀ c ∈ s, isIntChar c = true := by
  unfold pyIntL at h
  simp only at h
  have hbody := pyIntBody_value_chars h
  intro c hc
  rw [← List.takeWhile_append_dropWhile (p := isIntSpace) (l := s)] at hc
  rcases List.mem_append.mp hc with hc | hc
  · simp [isIntChar, List.all_eq_true.mp List.all_takeWhile c hc]
  · generalize s.dropWhile isIntSpace = s1 at hbody hc
    cases s1 with
    | nil => cases hc
    | cons a t =>
      rcases List.mem_cons.mp hc with rfl | hc'
      · by_cases hp : c = '+'
        · subst hp; decide
        · by_cases hm : c = '-'
          · subst hm; decide
          · exact hbody c (by simp [hp, hm])
      · exact hbody c (by split <;> simp [hc'])

/-! ### size of a digit string's value -/

/-- a digit string that does not start with `0` is at least `10^(length-1)` -/
theorem decVal_lower_bound {d : Char} {t : List Char} (hd : d.isDigit = true) (h0 : d ≠ '0') :
    10 ^ t.length ≤ decVal (d :: t) := by
  have h48 : 1 ≤ d.toNat - 48 := by
    have := Char.isDigit_iff_toNat.mp hd
    have : d.toNat ≠ 48 := fun h => h0 (Char.toNat_inj.mp (by simpa using h))
    simp at *
    omega
  unfold decVal
  rw [Nat.ofDigitChars_cons, Nat.ofDigitChars_eq_ofDigitChars_zero]
  calc 10 ^ t.length = 10 ^ t.length * 1 := by simp
    _ ≤ 10 ^ t.length * (d.toNat - 48) := Nat.mul_le_mul_left _ h48
    _ ≤ _ := by simp

/-! ### `str.lower()` -/

theorem toLower_idem (c : Char) : c.toLower.toLower = c.toLower := by
  simp only [Char.toLower]
  split
  · split
    · next h1 h2 =>
      simp only [UInt32.le_iff_toNat_le, UInt32.toNat_add, seval] at h1 h2
      omega
    · simp
  · rfl

theorem lowerL_pyLower (s : String) : lowerL (pyLower s) = lowerL s := by
  simp [pyLower, lowerL, toLower_idem]

/-! ### `try … except` -/

theorem map_error {α β : Type} {x : Py α} {f : α → β} {k : ExcKind} (h : x.map f = .error k) :
    x = .error k := by
  cases x with
  | ok a => cases h
  | error k' => cases h; rfl

theorem tryExcept_error_iff {α : Type} {c : ExcKind → Bool} {body : Py α} {h : α} {k : ExcKind} :
    tryExcept c body h = .error k ↔ body = .error k ∧ c k = false := by
  unfold tryExcept
  cases body with
  | ok a => simp
  | error k' =>
    cases hc : c k' <;> simp [hc]
    · rintro rfl; exact hc
    · rintro rfl; simp [hc]

theorem tryExcept_total {α : Type} {c : ExcKind → Bool} {body : Py α} {h : α}
    (hb : ∀ k, body = .error k → c k = true) : ∃ r, tryExcept c body h = .ok r := by
  cases hr : tryExcept c body h with
  | ok r => exact ⟨r, rfl⟩
  | error k =>
    have := tryExcept_error_iff.mp hr
    simp [hb k this.1] at this

end Redress.RetryAfter
