/-
  Redress.Lemmas.Window — the sliding window that `CircuitBreaker._prune` and `Budget._prune` share:
  a deque of instants, oldest first, from which the loop `while q and q[0] <= now - w: q.popleft()`
  drops the expired head entries.  On a deque of non-decreasing instants that loop is the filter
  "younger than `w` at `now`"; on any deque it drops nothing that filter keeps.

  The two components were specified separately and name the same things differently:

      breaker (`Spec/Breaker`)              budget (`Spec/Budget`)
      `mstep`, `mrun`   the model run        `step`, `run`
      `step`, `srun`    the history-based    `specOut`, `specLog`
                        specification
      `MonoFrom`, `Mono` (Prop)              `monotoneFrom` (Bool), `Monotone`
      `lastTime`                             `lastNow`
      `kept w T`, `inWindow`                 `live`, `liveCount`
      `Inv` (a conjunction by abstract       `Inv` (a structure)
            state, `Lemmas/BreakerLemmas`)

  (`Breaker.step` is the specification's step, `Budget.step` the model's.)
-/
namespace Redress.Window

/-- Both `prune` functions are this `dropWhile`. -/
theorem eq_dropWhile {w now : Nat} (f : List Nat → List Nat) (hnil : f [] = [])
    (hcons : ∀ x xs, f (x :: xs) = if x + w ≤ now then f xs else x :: xs) (l : List Nat) :
    f l = l.dropWhile (fun x => decide (x + w ≤ now)) := by
  induction l with
  | nil => exact hnil
  | cons x xs ih => simp [hcons, List.dropWhile_cons, ih]

/-- The pop-left loop never drops an entry that is still inside the window (sorted deque or not). -/
theorem filter_dropWhile (w now : Nat) (l : List Nat) :
    (l.dropWhile (fun x => decide (x + w ≤ now))).filter (fun x => decide (now < x + w)) =
      l.filter (fun x => decide (now < x + w)) := by
  induction l with
  | nil => rfl
  | cons x xs ih =>
    by_cases h : x + w ≤ now
    · rw [List.dropWhile_cons_of_pos (p := fun x => decide (x + w ≤ now)) (decide_eq_true h), ih,
        List.filter_cons_of_neg (by simp only [decide_eq_true_eq]; omega)]
    · rw [List.dropWhile_cons_of_neg (p := fun x => decide (x + w ≤ now)) (by simpa using h)]

/-- On a sorted deque the pop-left loop is the filter. -/
theorem dropWhile_eq_filter (w now : Nat) {l : List Nat} (hs : l.Pairwise (· ≤ ·)) :
    l.dropWhile (fun x => decide (x + w ≤ now)) = l.filter (fun x => decide (now < x + w)) := by
  induction l with
  | nil => rfl
  | cons x xs ih =>
    obtain ⟨hx, hxs⟩ := List.pairwise_cons.mp hs
    by_cases h : x + w ≤ now
    · have : ¬ now < x + w := by omega
      simp [h, this, ih hxs]
    · -- the head is young, and everything behind it is younger still
      have hall : ∀ y ∈ x :: xs, decide (now < y + w) = true := by
        intro y hy
        have : x ≤ y := (List.mem_cons.mp hy).elim (fun e => e ▸ Nat.le_refl _) (hx y)
        simp only [decide_eq_true_eq]; omega
      rw [List.filter_eq_self.mpr hall]
      simp [h]

/-- Pruning at `now` what an earlier prune at `lo ≤ now` left of a sorted deque: what is young at
`now` was young at `lo`. -/
theorem dropWhile_filter (w : Nat) {lo now : Nat} (hle : lo ≤ now) {l : List Nat}
    (hs : l.Pairwise (· ≤ ·)) :
    (l.filter (fun x => decide (lo < x + w))).dropWhile (fun x => decide (x + w ≤ now)) =
      l.filter (fun x => decide (now < x + w)) := by
  rw [dropWhile_eq_filter w now (hs.filter _), List.filter_filter]
  apply List.filter_congr
  intro x _
  by_cases h : now < x + w
  · have : lo < x + w := by omega
    simp [h, this]
  · simp [h]

/-- What the loop returns is stable: with a fresh entry of the same instant appended, a second
prune at that instant drops nothing. -/
theorem dropWhile_dropWhile_append (w now : Nat) (hw : 0 < w) (l : List Nat) :
    (l.dropWhile (fun x => decide (x + w ≤ now)) ++ [now]).dropWhile (fun x => decide (x + w ≤ now)) =
      l.dropWhile (fun x => decide (x + w ≤ now)) ++ [now] := by
  induction l with
  | nil => exact List.dropWhile_cons_of_neg (by simp only [decide_eq_true_eq]; omega)
  | cons x xs ih =>
    by_cases hx : x + w ≤ now
    · rw [List.dropWhile_cons_of_pos (p := fun x => decide (x + w ≤ now)) (decide_eq_true hx)]
      exact ih
    · have hd := List.dropWhile_cons_of_neg (p := fun x => decide (x + w ≤ now)) (l := xs)
        (a := x) (by simpa using hx)
      rw [hd, List.cons_append]
      exact List.dropWhile_cons_of_neg (by simpa using hx)

/-- Entries stamped `now` go to the back of a sorted deque whose entries are not later than `now`. -/
theorem pairwise_append_replicate {T : List Nat} {now : Nat} (n : Nat) (hs : T.Pairwise (· ≤ ·))
    (hle : ∀ x ∈ T, x ≤ now) :
    (T ++ List.replicate n now).Pairwise (· ≤ ·) ∧ ∀ x ∈ T ++ List.replicate n now, x ≤ now := by
  have hr : ∀ x ∈ List.replicate n now, x = now := fun x hx => List.eq_of_mem_replicate hx
  refine ⟨List.pairwise_append.mpr ⟨hs, ?_, fun a ha b hb => hr b hb ▸ hle a ha⟩, fun x hx => ?_⟩
  · simp [List.pairwise_replicate]
  · exact (List.mem_append.mp hx).elim (hle x) (fun h => Nat.le_of_eq (hr x h))

end Redress.Window
