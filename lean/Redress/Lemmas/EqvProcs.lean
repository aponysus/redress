/-
  Redress.Lemmas.EqvProcs — one lemma per procedure of the model: the procedures of the retry loop, up to
  `runCall` / `runExecute`, commute with every change of world that is `Blind` (`*_comm`); those of the policy
  layer commute with σ ("silence the hooks"): `foo_eqv : Commutes σ (foo …)`, which is `Eqv (foo …)` field for
  field (`⟨h.eq⟩`), and `foo_eqvS : Commutes σ (tryCatch (foo …) swallowException)` for a hook call inside its guard.
-/
import Redress.Lemmas.Eqv

namespace Redress
open Twin Retry

/-- structural steps of a proof that a procedure commutes with a change of world; `ls` are the lemmas for
    the procedures it calls -/
syntax "comm" "[" ident,* "]" : tactic
macro_rules
  | `(tactic| comm [$ls,*]) => do
    let alts ← ls.getElems.mapM fun l => `(tacticSeq| with_reducible apply $l)
    `(tactic| repeat (first
        | (intro _)
        | assumption
        $[| $alts]*
        | with_reducible apply Commutes.bind
        | with_reducible apply Commutes.tryC
        | with_reducible apply Commutes.ite
        | with_reducible exact Commutes.pure _
        | with_reducible exact Commutes.throw _
        | (with_reducible apply Commutes.ask) <;> first | assumption | rfl
        | (with_reducible apply Commutes.modify) <;> (intro _; rfl)
        | split
        | rfl))

section
variable {lg : List (Req × Ans) → List (Req × Ans)} {fl : Bool → Bool} {cx : XCtx → XCtx}

theorem getRS_comm : Commutes (recast lg fl cx) getRS := Commutes.read (fun w => w.rs) (fun _ => rfl)
theorem getAS_comm : Commutes (recast lg fl cx) getAS := Commutes.read (fun w => w.as) (fun _ => rfl)
theorem elapsed_comm :
    Commutes (recast lg fl cx) elapsed := Commutes.read (fun w => w.now - w.rs.start) (fun _ => rfl)
theorem modifyRS_comm (f : RState → RState) :
    Commutes (recast lg fl cx) (modifyRS f) := Commutes.modify _ (fun _ => rfl)
theorem modifyAS_comm (f : AState → AState) :
    Commutes (recast lg fl cx) (modifyAS f) := Commutes.modify _ (fun _ => rfl)

theorem setStop_comm (s : StopReason) : Commutes (recast lg fl cx) (setStop s) := modifyRS_comm _

theorem recordTimeline_comm (ev : Event) (a s : Nat) (t : Tags)
    : Commutes (recast lg fl cx) (recordTimeline ev a s t) :=
  Commutes.modify _ (fun _ => rfl)

theorem getNow_comm : Commutes (recast lg fl cx) getNow := Commutes.read (fun w => w.now) (fun _ => rfl)

theorem retryRecordFailure_comm (c : Classification) (cause : Cause) (e : Option Exn) (r : Option Nat) :
    Commutes (recast lg fl cx) (Retry.recordFailure c cause e r) := modifyRS_comm _

theorem buildOutcome_comm (ok : Bool) (value : Option Nat) (n : Nat) (ns : Option Nat) :
    Commutes (recast lg fl cx) (buildOutcome ok value n ns) := by
  unfold buildOutcome
  comm [getRS_comm, elapsed_comm]

theorem deliverCall_comm (act : Action) (orig : Option Exn) (fb : ExhaustedFields) :
    Commutes (recast lg fl cx) (deliverCall act orig fb) := by
  unfold deliverCall
  comm []

theorem abortToTrue_comm (e : Exn) : Commutes (recast lg fl cx) (abortToTrue e) := by
  unfold abortToTrue
  comm []

theorem initState_comm : Commutes (recast lg fl cx) initState := Commutes.modify _ (fun _ => rfl)

variable (hf : Blind lg fl cx)
include hf

/-! ### state.py -/

theorem askMetric_site (ev : Event) (a s : Nat) (t : Tags) :
    Commutes (recast lg fl cx) (tryCatch (askMetric ev a s t) swallowException : M Unit) := hf.site _ rfl

theorem askLog_site (ev : Event) (a s : Nat) (t : Tags) (ra : Option Int) :
    Commutes (recast lg fl cx) (tryCatch (askLog ev a s t ra) swallowException : M Unit) := hf.site _ rfl

theorem metricHook_site (cfg : Cfg) (tl : Bool) (ev : Event) (a s : Nat) (t : Tags) :
    Commutes (recast lg fl cx) (tryCatch (metricHook cfg tl ev a s t) swallowException : M Unit) := by
  unfold metricHook
  split
  · apply Commutes.seqS (recordTimeline_comm _ _ _ _)
    split
    · exact askMetric_site hf _ _ _ _
    · exact Commutes.tryC (Commutes.pure _) swallow_comm
  · split
    · exact askMetric_site hf _ _ _ _
    · exact Commutes.tryC (Commutes.pure _) swallow_comm

theorem emit_comm (cfg : Cfg) (tl : Bool) (ev : Event) (a s : Nat) (k : Option EClass) (e : Option Exn)
    (st : Option StopReason) (c : Option Cause) (cl : Option Classification) :
    Commutes (recast lg fl cx) (emit cfg tl ev a s k e st c cl) := by
  unfold emit
  apply Commutes.bind (metricHook_site hf _ _ _ _ _ _)
  intro _
  split
  · exact askLog_site hf _ _ _ _ _
  · exact Commutes.pure _

theorem checkAbort_comm (cfg : Cfg) (tl : Bool) (a : Nat)
    : Commutes (recast lg fl cx) (checkAbort cfg tl a) := by
  unfold checkAbort
  comm [setStop_comm, emit_comm]

theorem recordStrategySuccess_comm (cfg : Cfg) : Commutes (recast lg fl cx) (recordStrategySuccess cfg) := by
  unfold recordStrategySuccess
  comm [getRS_comm]

theorem callStrategy_comm (key : SKey) (kind : SKind) (ctx : BackoffCtx)
    : Commutes (recast lg fl cx) (callStrategy key kind ctx) := by
  unfold callStrategy
  comm []

theorem stratRecordFailure_comm (cfg : Cfg) (key : SKey) (k : EClass)
    : Commutes (recast lg fl cx) (stratRecordFailure cfg key k) := by
  unfold stratRecordFailure
  comm []

theorem budgetConsume_comm (cfg : Cfg) : Commutes (recast lg fl cx) (budgetConsume cfg) := by
  unfold budgetConsume
  split
  · exact Commutes.pure _
  · apply Commutes.getThen
    intro w
    simp [bind_run, set_run, pure_run, recast, mapRes, hf.cons Req.budgetConsume _ _ rfl]

theorem stopWith_comm (cfg : Cfg) (tl : Bool) (s : StopReason) (ev : Event) (a : Nat) (k : EClass)
    (e : Option Exn) (c : Cause) : Commutes (recast lg fl cx) (stopWith cfg tl s ev a k e c) := by
  unfold stopWith
  comm [setStop_comm, emit_comm]

theorem grantRetry_comm (cfg : Cfg) (tl : Bool) (c : Classification) (a : Nat) (cause : Cause)
    (e : Option Exn) (key : SKey) (kind : SKind) (rem : Nat) :
    Commutes (recast lg fl cx) (grantRetry cfg tl c a cause e key kind rem) := by
  unfold grantRetry
  comm [getRS_comm, callStrategy_comm, budgetConsume_comm, modifyRS_comm, emit_comm, stopWith_comm]

theorem handleFailure2_comm (cfg : Cfg) (tl : Bool) (c : Classification) (a : Nat) (cause : Cause)
    (e : Option Exn) : Commutes (recast lg fl cx) (handleFailure2 cfg tl c a cause e) := by
  unfold handleFailure2
  comm [elapsed_comm, stopWith_comm, modifyRS_comm, stratRecordFailure_comm, grantRetry_comm]

theorem handleUnknown_comm (cfg : Cfg) (tl : Bool) (c : Classification) (a : Nat) (cause : Cause)
    (e : Option Exn) : Commutes (recast lg fl cx) (handleUnknown cfg tl c a cause e) := by
  unfold handleUnknown
  comm [getRS_comm, modifyRS_comm, stopWith_comm, handleFailure2_comm]

theorem handleFailure1_comm (cfg : Cfg) (tl : Bool) (c : Classification) (a : Nat) (cause : Cause)
    (e : Option Exn) : Commutes (recast lg fl cx) (handleFailure1 cfg tl c a cause e) := by
  unfold handleFailure1
  comm [getRS_comm, stopWith_comm, handleUnknown_comm, handleFailure2_comm]

theorem handleFailure_comm (cfg : Cfg) (tl : Bool) (c : Classification) (a : Nat) (cause : Cause)
    (e : Option Exn) (r : Option Nat) : Commutes (recast lg fl cx) (handleFailure cfg tl c a cause e r) := by
  unfold handleFailure
  comm [retryRecordFailure_comm, modifyRS_comm, handleFailure1_comm]

theorem callClassifier_comm (e : Exn) : Commutes (recast lg fl cx) (callClassifier e) := by
  unfold callClassifier
  comm []

theorem handleException_comm (cfg : Cfg) (tl : Bool) (e : Exn) (a : Nat)
    : Commutes (recast lg fl cx) (handleException cfg tl e a) := by
  unfold handleException
  comm [callClassifier_comm, handleFailure_comm]

/-! ### retry_helpers.py -/

theorem emitAbortedOnce_comm (cfg : Cfg) (tl : Bool) (a : Nat)
    : Commutes (recast lg fl cx) (emitAbortedOnce cfg tl a) := by
  unfold emitAbortedOnce
  comm [getRS_comm, setStop_comm, emit_comm]

theorem abortOutcome_comm (cfg : Cfg) (tl : Bool) (a : Nat)
    : Commutes (recast lg fl cx) (abortOutcome cfg tl a) := by
  unfold abortOutcome
  comm [emitAbortedOnce_comm, buildOutcome_comm]

theorem callAttemptStart_comm (cfg : Cfg) (a : Nat) : Commutes (recast lg fl cx) (callAttemptStart cfg a) := by
  unfold callAttemptStart
  comm [elapsed_comm]

theorem callAttemptEnd_comm (cfg : Cfg) (a : Nat) (cls : Option Classification) (e : Option Exn)
    (r : Option Nat) (d : AttemptDecision) (st : Option StopReason) (c : Option Cause) (sl : Option Nat) :
    Commutes (recast lg fl cx) (callAttemptEnd cfg a cls e r d st c sl) := by
  unfold callAttemptEnd
  comm [elapsed_comm]

theorem callAttemptEndFromOutcome_comm (cfg : Cfg) (a : Nat) (o : AOutcome) :
    Commutes (recast lg fl cx) (callAttemptEndFromOutcome cfg a o) := by
  unfold callAttemptEndFromOutcome
  exact callAttemptEnd_comm hf _ _ _ _ _ _ _ _ _

theorem finalizeAttempt_comm (cfg : Cfg) (tl : Bool) (a : Nat) (d : Decision) (act : Option SleepDecision)
    (cls : Option Classification) (e : Option Exn) (r : Option Nat) (c : Option Cause) :
    Commutes (recast lg fl cx) (finalizeAttempt cfg tl a d act cls e r c) := by
  unfold finalizeAttempt
  comm [getRS_comm, elapsed_comm, setStop_comm, emit_comm]

theorem handleSleepDecision_comm (cfg : Cfg) (tl : Bool) (act : SleepDecision) (a s : Nat) :
    Commutes (recast lg fl cx) (handleSleepDecision cfg tl act a s) := by
  unfold handleSleepDecision
  comm [getRS_comm, setStop_comm, emit_comm, emitAbortedOnce_comm]

theorem callBeforeSleep_comm (cfg : Cfg) (ctx : BackoffCtx) (s : Nat) :
    Commutes (recast lg fl cx) (callBeforeSleep cfg ctx s) := by
  unfold callBeforeSleep
  split
  · exact Commutes.pure _
  · exact hf.site _ rfl

theorem callSleeper_comm (cfg : Cfg) (s : Nat) : Commutes (recast lg fl cx) (callSleeper cfg s) := by
  unfold callSleeper
  comm []

theorem callSleepHandler_comm (lvl : Lvl) (ctx : BackoffCtx) (s : Nat)
    : Commutes (recast lg fl cx) (callSleepHandler lvl ctx s) := by
  unfold callSleepHandler
  comm []

theorem sleepAction_comm (cfg : Cfg) (tl : Bool) (a s : Nat) (ctx : BackoffCtx) :
    Commutes (recast lg fl cx) (sleepAction cfg tl a s ctx) := by
  unfold sleepAction
  comm [callBeforeSleep_comm, callSleeper_comm, callSleepHandler_comm, handleSleepDecision_comm]

theorem failureOutcome_comm (cfg : Cfg) (tl : Bool) (a : Nat) (d : Decision) (cls : Option Classification)
    (e : Option Exn) (r : Option Nat) (c : Option Cause)
    : Commutes (recast lg fl cx) (failureOutcome cfg tl a d cls e r c) := by
  unfold failureOutcome
  comm [finalizeAttempt_comm, sleepAction_comm]

/-! ### runner/logic.py, sync_core.py -/

theorem shouldClassifyResult_comm (cfg : Cfg) (v : Nat)
    : Commutes (recast lg fl cx) (shouldClassifyResult cfg v) := by
  unfold shouldClassifyResult
  comm []

theorem handleSuccessAttemptEnd_comm (cfg : Cfg) (tl : Bool) (a v : Nat) :
    Commutes (recast lg fl cx) (handleSuccessAttemptEnd cfg tl a v) := by
  unfold handleSuccessAttemptEnd
  comm [recordStrategySuccess_comm, emit_comm, callAttemptEnd_comm]

theorem handleAbortAttemptEnd_comm (cfg : Cfg) (a : Nat) (e : Exn)
    : Commutes (recast lg fl cx) (handleAbortAttemptEnd cfg a e) := by
  unfold handleAbortAttemptEnd
  comm [getAS_comm, callAttemptEnd_comm, modifyAS_comm]

theorem emitMaxAttemptsExceeded_comm (cfg : Cfg) (tl : Bool)
    : Commutes (recast lg fl cx) (emitMaxAttemptsExceeded cfg tl) := by
  unfold emitMaxAttemptsExceeded
  comm [getRS_comm, emit_comm, setStop_comm]

theorem raiseExhaustedCall_comm (cfg : Cfg) : Commutes (recast lg fl cx) (raiseExhaustedCall cfg) := by
  unfold raiseExhaustedCall
  comm [emitMaxAttemptsExceeded_comm, getRS_comm]

theorem invokeOp_comm (a : Nat) : Commutes (recast lg fl cx) (invokeOp a) := by
  unfold invokeOp
  refine Commutes.bind (Commutes.modify _ (fun w => rfl)) (fun _ => ?_)
  apply Commutes.getThen'
  · intro w; rfl
  · intro w
    comm []

theorem callExceptionPath_comm (cfg : Cfg) (a : Nat) (e : Exn)
    : Commutes (recast lg fl cx) (callExceptionPath cfg a e) := by
  unfold callExceptionPath
  comm [modifyAS_comm, checkAbort_comm, handleException_comm, getRS_comm, failureOutcome_comm,
    callAttemptEndFromOutcome_comm, deliverCall_comm]

theorem callOpHandler_comm (cfg : Cfg) (a : Nat) (e : Exn)
    : Commutes (recast lg fl cx) (callOpHandler cfg a e) := by
  unfold callOpHandler
  comm [handleAbortAttemptEnd_comm, emitAbortedOnce_comm, callExceptionPath_comm]

theorem callResultFailure_comm (cfg : Cfg) (a v : Nat) (c : Classification) :
    Commutes (recast lg fl cx) (callResultFailure cfg a v c) := by
  unfold callResultFailure
  comm [modifyAS_comm, checkAbort_comm, handleFailure_comm, getRS_comm, failureOutcome_comm,
    callAttemptEndFromOutcome_comm, deliverCall_comm]

theorem callResultPath_comm (cfg : Cfg) (a v : Nat) : Commutes (recast lg fl cx) (callResultPath cfg a v) := by
  unfold callResultPath
  comm [shouldClassifyResult_comm, handleSuccessAttemptEnd_comm, callResultFailure_comm]

theorem callAttempt_comm (cfg : Cfg) (a : Nat) : Commutes (recast lg fl cx) (callAttempt cfg a) := by
  unfold callAttempt
  comm [checkAbort_comm, callAttemptStart_comm, modifyAS_comm, invokeOp_comm, callOpHandler_comm, callResultPath_comm]

theorem callLoop_comm (cfg : Cfg)
    : ∀ (fuel a : Nat), Commutes (recast lg fl cx) (callLoop cfg fuel a)
  | 0, a => by unfold callLoop; exact raiseExhaustedCall_comm hf cfg
  | fuel + 1, a => by
    unfold callLoop
    have ih := callLoop_comm cfg fuel
    comm [callAttempt_comm, ih]

theorem runCall_comm (cfg : Cfg) : Commutes (recast lg fl cx) (runCall cfg) := by
  unfold runCall
  comm [initState_comm, callLoop_comm]

/-! #### sync_core.py: `_run_sync_execute` -/

theorem deliverExecute_comm (cfg : Cfg) (tl : Bool) (act : Action) (o : AOutcome) :
    Commutes (recast lg fl cx) (deliverExecute cfg tl act o) := by
  unfold deliverExecute
  apply Commutes.getThen'
  · intro w; rfl
  · intro w
    comm [abortOutcome_comm, buildOutcome_comm]

theorem execResultFailure_comm (cfg : Cfg) (tl : Bool) (a v : Nat) (c : Classification) :
    Commutes (recast lg fl cx) (execResultFailure cfg tl a v c) := by
  unfold execResultFailure
  comm [modifyAS_comm, checkAbort_comm, handleFailure_comm, getRS_comm, failureOutcome_comm,
    callAttemptEndFromOutcome_comm, deliverExecute_comm]

theorem execPre_comm (cfg : Cfg) (tl : Bool) (a : Nat) : Commutes (recast lg fl cx) (execPre cfg tl a) := by
  unfold execPre
  comm [checkAbort_comm, callAttemptStart_comm, modifyAS_comm, invokeOp_comm]

theorem execResultPath_comm (cfg : Cfg) (tl : Bool) (a v : Nat)
    : Commutes (recast lg fl cx) (execResultPath cfg tl a v) := by
  unfold execResultPath
  comm [shouldClassifyResult_comm, handleSuccessAttemptEnd_comm, buildOutcome_comm, execResultFailure_comm]

theorem execAbortExit_comm (cfg : Cfg) (tl : Bool) (a : Nat) (e : Exn)
    : Commutes (recast lg fl cx) (execAbortExit cfg tl a e) := by
  unfold execAbortExit
  refine Commutes.bind (handleAbortAttemptEnd_comm hf _ _ _) (fun _ => ?_)
  apply Commutes.getThen'
  · intro w; rfl
  · intro w
    comm [abortOutcome_comm]

theorem checkAbortCaught_comm (cfg : Cfg) (tl : Bool) (a : Nat)
    : Commutes (recast lg fl cx) (checkAbortCaught cfg tl a) := by
  unfold checkAbortCaught
  comm [checkAbort_comm, abortToTrue_comm]

theorem execExceptionPath3_comm (cfg : Cfg) (tl : Bool) (a : Nat) (e : Exn) (d : Decision) :
    Commutes (recast lg fl cx) (execExceptionPath3 cfg tl a e d) := by
  unfold execExceptionPath3
  comm [getRS_comm, failureOutcome_comm, callAttemptEndFromOutcome_comm, modifyAS_comm, deliverExecute_comm]

theorem execExceptionPath2_comm (cfg : Cfg) (tl : Bool) (a : Nat) (e : Exn) :
    Commutes (recast lg fl cx) (execExceptionPath2 cfg tl a e) := by
  unfold execExceptionPath2
  comm [handleException_comm, getRS_comm, modifyAS_comm, execExceptionPath3_comm, checkAbortCaught_comm,
    execAbortExit_comm]

theorem execExceptionPath_comm (cfg : Cfg) (tl : Bool) (a : Nat) (e : Exn) :
    Commutes (recast lg fl cx) (execExceptionPath cfg tl a e) := by
  unfold execExceptionPath
  comm [modifyAS_comm, checkAbortCaught_comm, execAbortExit_comm, execExceptionPath2_comm]

theorem execHandler_comm (cfg : Cfg) (tl : Bool) (a : Nat) (e : Exn)
    : Commutes (recast lg fl cx) (execHandler cfg tl a e) := by
  unfold execHandler
  comm [execAbortExit_comm, execExceptionPath_comm]

theorem execReturnedHandler_comm (cfg : Cfg) (tl : Bool) (a : Nat) (e : Exn) :
    Commutes (recast lg fl cx) (execReturnedHandler cfg tl a e) := by
  unfold execReturnedHandler
  comm [execAbortExit_comm]

theorem execAttempt_comm (cfg : Cfg) (tl : Bool) (a : Nat)
    : Commutes (recast lg fl cx) (execAttempt cfg tl a) := by
  unfold execAttempt
  comm [execPre_comm, execHandler_comm, execResultPath_comm, execReturnedHandler_comm]

theorem buildExhaustedOutcome_comm (cfg : Cfg) (tl : Bool)
    : Commutes (recast lg fl cx) (buildExhaustedOutcome cfg tl) := by
  unfold buildExhaustedOutcome
  refine Commutes.bind (emitMaxAttemptsExceeded_comm hf _ _) (fun _ => ?_)
  apply Commutes.getThen'
  · intro w; rfl
  · intro w
    exact buildOutcome_comm _ _ _ _

theorem execLoop_comm (cfg : Cfg) (tl : Bool)
    : ∀ (fuel a : Nat), Commutes (recast lg fl cx) (execLoop cfg tl fuel a)
  | 0, a => by unfold execLoop; exact buildExhaustedOutcome_comm hf cfg tl
  | fuel + 1, a => by
    unfold execLoop
    have ih := execLoop_comm cfg tl fuel
    comm [execAttempt_comm, ih]

theorem runExecute_comm (cfg : Cfg) : Commutes (recast lg fl cx) (runExecute cfg) := by
  unfold runExecute
  comm [initState_comm, execLoop_comm]


end

/-! ### policy.py, execution.py -/
open Policy

/-! what the policy layer uses of the retry loop, for σ -/

theorem ask_eqv (r : Req) (h : isHook r = false) : Commutes σ (ask r) := ⟨(Commutes.ask σ_blind r h).eq⟩

theorem askAny_eqv (r : Req) (h : isHook r = false) : Eqv (ask r) := ⟨(ask_eqv r h).eq⟩

theorem askAbortIf_eqv : Eqv (ask .abortIf) := askAny_eqv _ rfl

theorem swallowException_eqv (e : Exn) : Eqv (swallowException e) := ⟨(swallow_comm e).eq⟩

theorem getNow_eqv : Eqv getNow := Eqv.of_comm getNow_comm

theorem askMetric_eqvS (ev : Event) (a s : Nat) (t : Tags) :
    Commutes σ (tryCatch (askMetric ev a s t) swallowException : M Unit) := ⟨(askMetric_site σ_blind ev a s t).eq⟩

theorem askLog_eqvS (ev : Event) (a s : Nat) (t : Tags) (ra : Option Int) :
    Commutes σ (tryCatch (askLog ev a s t ra) swallowException : M Unit) := ⟨(askLog_site σ_blind ev a s t ra).eq⟩

theorem callClassifier_eqv (e : Exn) : Commutes σ (callClassifier e) :=
  ⟨(callClassifier_comm σ_blind e).eq⟩

theorem invokeOp_eqv (a : Nat) : Commutes σ (invokeOp a) := ⟨(invokeOp_comm σ_blind a).eq⟩

theorem runCall_eqv (cfg : Cfg) : Commutes σ (runCall cfg) := ⟨(runCall_comm σ_blind cfg).eq⟩

theorem runExecute_eqv (cfg : Cfg) : Commutes σ (runExecute cfg) := ⟨(runExecute_comm σ_blind cfg).eq⟩

theorem emitBreakerEvent_eqv (cfg : Cfg) (ev : Option Event) (st : CState) (k : Option EClass) :
    Commutes σ (emitBreakerEvent cfg ev st k) := by
  unfold emitBreakerEvent
  split
  · exact Commutes.pure _
  · dsimp only
    comm [askMetric_eqvS, askLog_eqvS]

theorem breakerAllow_eqv (bc : Breaker.Cfg) : Commutes σ (breakerAllow bc) := by
  unfold breakerAllow
  apply Commutes.getThen
  intro w
  simp [bind_run, set_run, pure_run, σ, mapRes, silenceX, isHook]

theorem checkBreaker_eqv (cfg : Cfg) : Commutes σ (checkBreaker cfg) := by
  unfold checkBreaker
  comm [breakerAllow_eqv, emitBreakerEvent_eqv]

theorem recordSuccess_eqv (cfg : Cfg) : Commutes σ (Policy.recordSuccess cfg) := by
  unfold Policy.recordSuccess
  split
  · exact Commutes.pure _
  · refine Commutes.getSetThen (fun w => _) (fun w => _) ?_ ?_ ?_
    · intro w; rfl
    · intro w; rfl
    · intro w; exact emitBreakerEvent_eqv _ _ _ _

theorem recordCancel_eqv (cfg : Cfg) : Commutes σ (Policy.recordCancel cfg) := by
  unfold Policy.recordCancel
  split
  · exact Commutes.pure _
  · exact Commutes.modify _ (fun w => rfl)

theorem recordFailure_eqv (cfg : Cfg) (k : EClass) : Commutes σ (Policy.recordFailure cfg k) := by
  unfold Policy.recordFailure
  split
  · exact Commutes.pure _
  · refine Commutes.getSetThen (fun w => _) (fun w => _) ?_ ?_ ?_
    · intro w; rfl
    · intro w; rfl
    · intro w; exact emitBreakerEvent_eqv _ _ _ _

theorem ensureSettled_eqv (cfg : Cfg) : Commutes σ (ensureSettled cfg) := by
  unfold ensureSettled
  apply Commutes.getThen'
  · intro w; rfl
  · intro w
    comm [recordCancel_eqv]

theorem classifyForBreaker_eqv (cfg : Cfg) (e : Exn) : Commutes σ (classifyForBreaker cfg e) := by
  unfold classifyForBreaker
  comm [callClassifier_eqv]

theorem checkAbortNoRetry_eqv (cfg : Cfg) : Commutes σ (checkAbortNoRetry cfg) := by
  unfold checkAbortNoRetry
  comm [ask_eqv, recordCancel_eqv]

theorem xElapsed_eqv : Commutes σ xElapsed := Commutes.read (fun w => w.now - w.xc.start) (fun _ => rfl)

theorem noRetryStartHook_eqv (cfg : Cfg) : Commutes σ (noRetryStartHook cfg) := by
  unfold noRetryStartHook
  comm [xElapsed_eqv, ask_eqv]

theorem noRetryEndHook_eqv (cfg : Cfg) (e : Option Exn) (r : Option Nat) (d : AttemptDecision)
    (st : Option StopReason) (c : Option Cause) : Commutes σ (noRetryEndHook cfg e r d st c) := by
  unfold noRetryEndHook
  comm [xElapsed_eqv, ask_eqv]

theorem callWithoutRetry_eqv (cfg : Cfg) : Commutes σ (callWithoutRetry cfg) := by
  unfold callWithoutRetry
  comm [noRetryStartHook_eqv, invokeOp_eqv, noRetryEndHook_eqv]

theorem handleAbortCall_eqv (cfg : Cfg) (e : Exn) : Commutes σ (handleAbortCall cfg e) := by
  unfold handleAbortCall
  comm [noRetryEndHook_eqv, recordCancel_eqv]

theorem handleExhaustedCall_eqv (cfg : Cfg) (e : Exn) : Commutes σ (handleExhaustedCall cfg e) := by
  unfold handleExhaustedCall
  exact recordFailure_eqv _ _

theorem handleExceptionCall_eqv (cfg : Cfg) (e : Exn) (b : Bool)
    : Commutes σ (handleExceptionCall cfg e b) := by
  unfold handleExceptionCall
  comm [noRetryEndHook_eqv, classifyForBreaker_eqv, recordFailure_eqv]

theorem callLadder_eqv (cfg : Cfg) (e : Exn) : Commutes σ (callLadder cfg e) := by
  unfold callLadder
  comm [recordCancel_eqv, handleAbortCall_eqv, handleExhaustedCall_eqv, handleExceptionCall_eqv]

theorem callAdmitted_eqv (cfg : Cfg) : Commutes σ (callAdmitted cfg) := by
  unfold callAdmitted
  comm [checkBreaker_eqv, checkAbortNoRetry_eqv, runCall_eqv, callWithoutRetry_eqv, recordSuccess_eqv,
    callLadder_eqv]

theorem initCtx_eqv : Commutes σ initCtx := Commutes.modify _ (fun _ => rfl)

theorem withFinally_eqv {x : M α} {fin : M Unit} (hx : Commutes σ x) (hf : Commutes σ fin) :
    Commutes σ (withFinally x fin) := by
  unfold withFinally
  comm [hx, hf]

theorem call_eqv (cfg : Cfg) : Commutes σ (Policy.call cfg) := by
  unfold Policy.call
  exact Commutes.bind initCtx_eqv (fun _ => withFinally_eqv (callAdmitted_eqv cfg) (ensureSettled_eqv cfg))

theorem policyOutcome_eqv (ok : Bool) (value : Option Nat) (stop : Option StopReason) (n : Nat)
    (lc : Option EClass) (le : Option String) (c : Option Cause) :
    Commutes σ (policyOutcome ok value stop n lc le c) := by
  unfold policyOutcome
  comm [xElapsed_eqv]

theorem executeLadder_eqv (cfg : Cfg) (e : Exn) : Commutes σ (executeLadder cfg e) := by
  unfold executeLadder
  comm [handleExhaustedCall_eqv, recordCancel_eqv, handleExceptionCall_eqv]

theorem executeWithRetry_eqv (cfg : Cfg) : Commutes σ (executeWithRetry cfg) := by
  unfold executeWithRetry
  comm [runExecute_eqv, executeLadder_eqv, recordSuccess_eqv, recordCancel_eqv, recordFailure_eqv]

theorem noRetryLadder_eqv (cfg : Cfg) (b : Bool) (e : Exn) : Commutes σ (noRetryLadder cfg b e) := by
  unfold noRetryLadder
  comm [recordCancel_eqv, noRetryEndHook_eqv, policyOutcome_eqv, recordFailure_eqv]

theorem executeWithoutRetry_eqv (cfg : Cfg) : Commutes σ (executeWithoutRetry cfg) := by
  unfold executeWithoutRetry
  comm [noRetryStartHook_eqv, invokeOp_eqv, noRetryLadder_eqv, recordSuccess_eqv, noRetryEndHook_eqv,
    policyOutcome_eqv]

theorem executeAdmitted2_eqv (cfg : Cfg) : Commutes σ (executeAdmitted2 cfg) := by
  unfold executeAdmitted2
  comm [checkAbortNoRetry_eqv, policyOutcome_eqv, executeWithRetry_eqv, executeWithoutRetry_eqv]

theorem executeAdmitted_eqv (cfg : Cfg) : Commutes σ (executeAdmitted cfg) := by
  unfold executeAdmitted
  comm [executeAdmitted2_eqv, breakerAllow_eqv, emitBreakerEvent_eqv, policyOutcome_eqv]

theorem execute_eqv (cfg : Cfg) : Commutes σ (Policy.execute cfg) := by
  unfold Policy.execute
  exact Commutes.bind initCtx_eqv (fun _ => withFinally_eqv (executeAdmitted_eqv cfg) (ensureSettled_eqv cfg))

end Redress
