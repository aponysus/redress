/-
  C05, what `next_sleep_s` reports: the delay the strategy gave for the attempt, the same one the sleeper
  receives.  `Mon.C05.flowOk` says: IF a `next_sleep_s` is reported it is the delay of the
  attempt's one strategy call; it accepts a run that reports none.  When a sleep handler answered DEFER the
  run must report it — `Mon.C16.deferOk`: SCHEDULED with `next_sleep_s` = the delay the handler was offered
  (which `flowOk` ties to the strategy's sanitised output).  This file restates that conjunct of C16 under C05,
  so that the driver evaluates it on the implementation's logs for C05 as well; the theorem is
  `Props.C16.defer_schedules`.
-/
import Redress.Props.C16

namespace Redress.Props.C05Defer
open Redress Redress.Mon

/-- For every configuration, entry point and world: after a sleep handler
    answered DEFER (and nothing intervened) the run ends as SCHEDULED and reports `next_sleep_s` = the delay
    the handler was offered. -/
theorem deferred_delay_reported (cfg : Cfg) (e : Entry) (w : World) :
    Mon.C16.deferOk cfg e (runEntry cfg e w).2.trace.reverse (runEntry cfg e w).1 = true :=
  Redress.Props.C16.defer_schedules cfg e w

theorem deferred_delay_reported_script (cfg : Cfg) : ∀ (steps : List Step) (w : World),
    ∀ l ∈ (runScript cfg steps w).1, Mon.C16.deferOk cfg l.entry l.trace l.res = true :=
  forall_script (P := fun e t r => Mon.C16.deferOk cfg e t r = true) cfg (deferred_delay_reported cfg)

end Redress.Props.C05Defer
