/-
  C07 (policy level) — Open breaker fails fast: a call the breaker rejects invokes nothing.

  `Mon.C07.ok` is true of every run of the model.  When `breaker.allow()` answers "not allowed",
  `Policy.call` / `Policy.execute` (sync and async) make no request before the breaker is asked and
  afterwards only emit the rejection event on the metric / log hooks: no operation, no attempt hook,
  no abort poll, no classifier / strategy / sleep handler / sleeper, no `record_*`; the embedded
  breaker is left exactly as `allow()` left it; `call()` raises `CircuitOpenError(state)` and
  `execute()` returns a not-ok outcome with zero attempts.

  With the breaker-level theorems of `C07Breaker.lean` this gives two statements about the embedded breaker:
  `rejected_call_leaves_breaker_unchanged`, and `open_breaker_fails_fast` (embedded breaker OPEN and
  `now < opened_at + recovery`: the call is rejected, so all of the above holds of it).

  Second file of the chain C08 → C07Policy → C09 → C09Once: the monitor is `Mon.C09` (shared with C08 and C09),
  its step lemmas and `cur`, `decision` come from C08.lean, and that `Mon.C07.ok` has nothing to say about an
  admitted call is read off `C08.entry_decision`.
-/
import Redress.Props.C08

open Std.Do

namespace Redress.Props.C07
open Redress Redress.Retry Redress.Policy Redress.Mon Redress.Mon.C09
open Redress.Props.C08 (cur cur_cons run_reverse decision)

/-- the only requests a rejected call makes after the rejection: the event on the two hooks -/
def mlK : Kind → Bool
  | .metric | .log => true
  | _ => false

theorem mlK_loopK (k : Kind) (h : mlK k = true) : loopK k = true := by
  cases k <;> first | rfl | cases h

/-- some exchange was answered by raising `e` -/
def raisedIn (tr : List (Req × Ans)) (e : Exn) : Bool :=
  tr.any fun x => match x.2 with
    | .raise e' _ => e' == e
    | _ => false

theorem raisedBy_reverse (tr : List (Req × Ans)) (e : Exn) :
    Mon.raisedBy (fun _ => true) tr.reverse e = raisedIn tr e := by
  simp only [Mon.raisedBy, raisedIn, List.any_reverse, Bool.true_and]
  congr 1

/-- After the rejection `x0` (the `allow` exchange): the log is `x0` followed by metric / log
    exchanges only; the execution context says "not admitted"; the breaker is as `allow` left it. -/
structure Rej (x0 : Req × Ans) (bR : Breaker.St) (w : World) : Prop where
  trace : ∃ δ, w.trace = δ ++ [x0] ∧ ∀ x ∈ δ, mlK x.1.kind = true
  xadm : w.xc.admitted = false
  breaker : w.breaker = bR

theorem Rej.ext {x0 : Req × Ans} {bR : Breaker.St} {w w' : World} (h : Ext mlK w w') (hr : Rej x0 bR w) :
    Rej x0 bR w' :=
  have := ExtP.trans (x₁ := w.xc) ⟨hr.trace, rfl, hr.breaker⟩ h
  ⟨this.trace, this.xc ▸ hr.xadm, this.breaker⟩

/-- the monitor does not move on metric / log exchanges once the call has been rejected -/
theorem step_ml (s : St) (hs : s.admitted = some false) (x : Req × Ans) (h : mlK x.1.kind = true) :
    step s x = s := by
  obtain ⟨r, a⟩ := x
  obtain ⟨adm, _, _, _, _, _, _, _, _⟩ := s
  cases hs
  cases r <;> first | rfl | cases h

/-- the monitor on a log that is a rejection followed by metric / log exchanges only (these are inert below a
    rejected state, not in general: hence the induction) -/
theorem Rej.cur {st : CState} {ev : Option Event} {bR : Breaker.St} {w : World}
    (hr : Rej (.breakerAllow, .admit false st ev) bR w) :
    cur w.trace = { admitted := some false, admitState := some st } := by
  obtain ⟨δ, e, k⟩ := hr.trace
  rw [e]
  clear e
  induction δ with
  | nil => rfl
  | cons x δ ih =>
    rw [List.cons_append, cur_cons, ih fun y hy => k y (List.mem_cons_of_mem _ hy)]
    exact step_ml _ rfl x (k x List.mem_cons_self)

/-- a rejected call makes no request but `allow` and the event hooks -/
theorem Rej.quiet {st : CState} {ev : Option Event} {bR : Breaker.St} {w : World}
    (hr : Rej (.breakerAllow, .admit false st ev) bR w) :
    ∀ x ∈ w.trace, x.1 = .breakerAllow ∨ mlK x.1.kind = true := by
  obtain ⟨δ, e, k⟩ := hr.trace
  intro x hx
  rw [e] at hx
  rcases List.mem_append.mp hx with h | h
  · exact Or.inr (k x h)
  · simp at h; subst h; exact Or.inl rfl

theorem Rej.cons {x0 : Req × Ans} {bR : Breaker.St} {w : World} (h : Rej x0 bR w) {r : Req}
    (hk : mlK r.kind = true) (a : Ans) (rest : List Ans) (n : Nat) :
    Rej x0 bR { w with answers := rest, now := n, trace := (r, a) :: w.trace } :=
  Rej.ext (ExtP.cons r a w.trace w.xc w.breaker hk) h

section leaves
variable (x0 : Req × Ans) (bR : Breaker.St)

/-- one exchange with a metric / log hook: if it raises, the log shows who raised what -/
theorem askHook_rej (r : Req) (hk : mlK r.kind = true) :
    ⦃fun w => ⌜Rej x0 bR w⌝⦄ askHook r
    ⦃post⟨fun _ w => ⌜Rej x0 bR w⌝, fun e w => ⌜Rej x0 bR w ∧ raisedIn w.trace e = true⌝⟩⦄ :=
  askHook_triple' r (fun _ _ h => ⟨h.1, h.2, h.3⟩) (fun _ a h _ => h.cons hk a _ _)
    (fun _ e d h => ⟨h.cons hk _ _ _, by simp [raisedIn, exchanged]⟩)

theorem emitBreakerEvent_rej (cfg : Cfg) (ev : Option Event) (st : CState) (k : Option EClass) :
    ⦃fun w => ⌜Rej x0 bR w⌝⦄ emitBreakerEvent cfg ev st k
    ⦃post⟨fun _ w => ⌜Rej x0 bR w⌝,
          fun e w => ⌜(Rej x0 bR w ∧ raisedIn w.trace e = true) ∧ e.isException = false⌝⟩⦄ :=
  emitBreakerEvent_rule
    (fun r hk => askHook_rej x0 bR r (by rcases hk with hk | hk <;> rw [hk] <;> rfl))
    (fun _ _ _ h => h.1) cfg ev st k

theorem ensureSettled_rej (cfg : Cfg) (tr : List (Req × Ans)) :
    ⦃fun w => ⌜Rej x0 bR w ∧ w.trace = tr⌝⦄ ensureSettled cfg
    ⦃post⟨fun _ w => ⌜Rej x0 bR w ∧ w.trace = tr⌝, fun _ _ => ⌜False⌝⟩⦄ :=
  ensureSettled_idle cfg fun w h => by rw [h.1.xadm]; exact Bool.false_ne_true

end leaves


/-- how a rejected call ends, as a predicate on results -/
def RejRes (e : Entry) (st : CState) (tr : List (Req × Ans)) : Res → Prop
  | .raised x => (e = .pcall ∧ x = .libCircuitOpen st) ∨ (x.isException = false ∧ raisedIn tr x = true)
  | .outcome o _ => e = .pexecute ∧ o.ok = false ∧ o.attempts = 0 ∧ o.lastExc = some "libCircuitOpen"
  | .ret _ => False

/-- the `allow` exchange of a call started with breaker `b0` at `now0` -/
abbrev allowX (bc : Breaker.Cfg) (b0 : Breaker.St) (now0 : Nat) : Req × Ans :=
  (.breakerAllow, .admit (Breaker.allow bc b0 now0).1.1 (Breaker.allow bc b0 now0).1.2.1
    (Breaker.allow bc b0 now0).1.2.2)

/-- rejected by `allow`, nothing but the rejection event since, and about to end with `r` -/
def Rejected (bc : Breaker.Cfg) (b0 : Breaker.St) (now0 : Nat) (e : Entry) (r : Res) (w : World) : Prop :=
  Rej (allowX bc b0 now0) (Breaker.allow bc b0 now0).2 w ∧ RejRes e (Breaker.allow bc b0 now0).1.2.1 w.trace r

section rejected
variable (cfg : Cfg) (bc : Breaker.Cfg) (hb : cfg.breaker = some bc) (b0 : Breaker.St) (now0 : Nat)
  (ha : decision bc b0 now0 = false)
include ha

theorem breakerAllow_rej :
    ⦃fun w => ⌜Start b0 now0 w⌝⦄ breakerAllow bc
    ⦃post⟨fun d w => ⌜d = (Breaker.allow bc b0 now0).1 ∧
            Rej (allowX bc b0 now0) (Breaker.allow bc b0 now0).2 w⌝,
          fun _ _ => ⌜False⌝⟩⦄ := by
  exact triple_mono (breakerAllow_start bc b0 now0) (fun _ h => h)
    (fun _ _ h => ⟨h.1, ⟨[], h.2.1, fun _ h => absurd h List.not_mem_nil⟩, h.2.2.2.1.trans ha, h.2.2.1⟩)
    (fun _ _ h => h)

include hb

theorem checkBreaker_rej :
    ⦃fun w => ⌜Start b0 now0 w⌝⦄ checkBreaker cfg
    ⦃post⟨fun _ _ => ⌜False⌝, fun e w => ⌜Rejected bc b0 now0 .pcall (.raised e) w⌝⟩⦄ := by
  have h1 := breakerAllow_rej bc b0 now0 ha
  have h2 := emitBreakerEvent_rej (allowX bc b0 now0) (Breaker.allow bc b0 now0).2 cfg
  unfold checkBreaker
  simp only [hb]
  mvcgen [h1, h2]
  · rename_i h; exact h.2
  · rename_i h _ ht _ _
    rw [h.1] at ht
    cases ht.symm.trans ha
  · rename_i h _ _ _ hr
    exact And.intro hr (.inl ⟨rfl, by rw [h.1]⟩)
  · exact fun hr h1 h2 => And.intro hr (.inr ⟨h2, h1⟩)

theorem callAdmitted_rej :
    ⦃fun w => ⌜Start b0 now0 w⌝⦄ callAdmitted cfg
    ⦃post⟨fun v w => ⌜Rejected bc b0 now0 .pcall (.ret v) w⌝,
          fun e w => ⌜Rejected bc b0 now0 .pcall (.raised e) w⌝⟩⦄ :=
  bind_raises (checkBreaker_rej cfg bc hb b0 now0 ha)

theorem executeAdmitted_rej :
    ⦃fun w => ⌜Start b0 now0 w⌝⦄ executeAdmitted cfg
    ⦃post⟨fun o w => ⌜Rejected bc b0 now0 .pexecute (.outcome o []) w⌝,
          fun e w => ⌜Rejected bc b0 now0 .pexecute (.raised e) w⌝⟩⦄ := by
  have h1 := breakerAllow_rej bc b0 now0 ha
  have h2 := emitBreakerEvent_rej (allowX bc b0 now0) (Breaker.allow bc b0 now0).2 cfg
  have h3 := policyOutcome_keeps (Rej (allowX bc b0 now0) (Breaker.allow bc b0 now0).2)
  unfold executeAdmitted
  simp only [hb]
  mvcgen [h1, h2, h3]
  · rename_i h; exact h.2
  · rename_i h _ ht
    rw [h.1] at ht
    cases ht.symm.trans ha
  · exact fun hr h1 _ h2 _ h3 => And.intro hr ⟨rfl, h1, h2, h3⟩
  · exact fun hr h1 h2 => And.intro hr (.inr ⟨h2, h1⟩)

end rejected

/-- non-vacuity of `ha`: an OPEN breaker before its timeout, a HALF_OPEN one with its probe out -/
example : decision Breaker.exCfg (Breaker.St.openedAtTime 7) 8 = false ∧
    decision Breaker.exCfg { state := .halfOpen, probe := true } 100 = false := by decide

/-- What the policy entry points do when the embedded breaker's decision is "not allowed". -/
theorem entry_rejected (cfg : Cfg) (bc : Breaker.Cfg) (hb : cfg.breaker = some bc) (e : Entry)
    (he : e.isPolicy = true) (w : World) (ha : decision bc w.breaker w.now = false) :
    Rej (allowX bc w.breaker w.now) (Breaker.allow bc w.breaker w.now).2 (runEntry cfg e w).2 ∧
    RejRes e (Breaker.allow bc w.breaker w.now).1.2.1 (runEntry cfg e w).2.trace (runEntry cfg e w).1 :=
  runEntry_policy (Q := Rejected bc w.breaker w.now) (F := Rejected bc w.breaker w.now) e he w
    (callAdmitted_rej cfg bc hb w.breaker w.now ha) (executeAdmitted_rej cfg bc hb w.breaker w.now ha)
    (fun _ _ => ensureSettled_idle cfg fun w h => by rw [h.1.xadm]; exact Bool.false_ne_true)
    (fun _ _ _ h => h)

/-- what the monitor has seen of a call the breaker rejected -/
theorem rejected_cur (cfg : Cfg) (bc : Breaker.Cfg) (hb : cfg.breaker = some bc) (e : Entry)
    (he : e.isPolicy = true) (w : World) (ha : decision bc w.breaker w.now = false) :
    cur (runEntry cfg e w).2.trace =
      { admitted := some false, admitState := some (Breaker.allow bc w.breaker w.now).1.2.1 } := by
  obtain ⟨hr, -⟩ := entry_rejected cfg bc hb e he w ha
  have ha' : (Breaker.allow bc w.breaker w.now).1.1 = false := ha
  simp only [allowX, ha'] at hr
  exact hr.cur

/--
**C07 (policy level).**  For every configuration, entry point and world: if the breaker rejected the
call then (i) nothing was requested before the breaker was asked; (ii) afterwards no operation, no
attempt hook, no abort poll, no classifier, strategy, sleep handler or sleeper was invoked — only the
rejection event went to the metric / log hooks; (iii) no `record_*` reached the breaker (a rejection
is not counted as anything); (iv) `call()` raised `CircuitOpenError(state)` with the state the
breaker reported, `execute()` returned a not-ok outcome with zero attempts carrying that error —
unless the metric / log hook answered the rejection event with a BaseException-only kind, which
propagates.
-/
theorem rejected_hold (cfg : Cfg) (e : Entry) (w : World) :
    Mon.C07.ok cfg e (runEntry cfg e w).2.trace.reverse (runEntry cfg e w).1 = true := by
  unfold Mon.C07.ok
  cases he : e.isPolicy with
  | false => simp
  | true =>
    cases hb : cfg.breaker with
    | none => simp
    | some bc =>
      simp only [Bool.true_and, Option.isSome_some, if_true, run_reverse]
      cases ha : decision bc w.breaker w.now with
      | true =>
        have := C08.entry_decision cfg bc hb e he w
        rw [run_reverse, ha] at this
        simp [this]
      | false =>
        obtain ⟨-, hres⟩ := entry_rejected cfg bc hb e he w ha
        rw [rejected_cur cfg bc hb e he w ha]
        simp only [raisedBy_reverse]
        revert hres
        generalize (runEntry cfg e w).1 = r
        cases r with
        | ret v => intro h; exact absurd h id
        | outcome o tl =>
          rintro ⟨rfl, h1, h2, h3⟩
          simp [h1, h2, h3, Entry.isExecute]
        | raised x =>
          rintro (⟨rfl, rfl⟩ | ⟨h1, h2⟩)
          · simp [Entry.isExecute]
          · -- not an `Exception`, so not the `CircuitOpenError` arm of the monitor's `match`
            cases x with
            | libCircuitOpen st => cases h1
            | _ => simp [h1, h2]

theorem rejected_hold_script (cfg : Cfg) : ∀ (steps : List Step) (w : World),
    ∀ l ∈ (runScript cfg steps w).1, Mon.C07.ok cfg l.entry l.trace l.res = true :=
  forall_script (P := fun e t r => Mon.C07.ok cfg e t r = true) cfg (rejected_hold cfg)

/-- **rejected_call_leaves_breaker_unchanged.**  A rejected policy call leaves the breaker exactly as
    `allow()` left it — no `record_*` touched it: failure history, class buckets, state and probe flag
    are those from before the call, and on a breaker whose `opened_at` is set while OPEN (every
    reachable one) the whole state is. -/
theorem rejected_call_leaves_breaker_unchanged (cfg : Cfg) (bc : Breaker.Cfg) (hb : cfg.breaker = some bc)
    (e : Entry) (he : e.isPolicy = true) (w : World)
    (hrej : (Mon.C09.run (runEntry cfg e w).2.trace.reverse).admitted = some false) :
    (runEntry cfg e w).2.breaker = (Breaker.allow bc w.breaker w.now).2 ∧
    (runEntry cfg e w).2.breaker.failures = w.breaker.failures ∧
    (runEntry cfg e w).2.breaker.classFailures = w.breaker.classFailures ∧
    (runEntry cfg e w).2.breaker.state = w.breaker.state ∧
    (runEntry cfg e w).2.breaker.probe = w.breaker.probe ∧
    ((w.breaker.state = .opened → w.breaker.openedAt ≠ none) → (runEntry cfg e w).2.breaker = w.breaker) := by
  rw [C08.entry_decision cfg bc hb e he w] at hrej
  have ha : decision bc w.breaker w.now = false := by simpa using hrej
  have hr := (entry_rejected cfg bc hb e he w ha).1
  have := Breaker.rejections_count_nothing bc w.breaker w.now ha
  rw [hr.breaker]
  exact ⟨rfl, this.1, this.2.1, this.2.2.1, this.2.2.2.1, this.2.2.2.2.2⟩

/-- **open_breaker_fails_fast.**  With the embedded breaker OPEN since `t0` and the clock before
    `t0 + recovery`, a policy call — `call` or `execute`, sync or async, with or without a retry
    component, whatever the answers of the environment would have been — is rejected: the operation is
    not invoked (nor anything else but the breaker and the event hooks), the breaker is left exactly
    as it was (nothing is counted), and the call raises `CircuitOpenError("open")` / returns the
    circuit-open outcome with zero attempts (or propagates a BaseException-only kind raised by the
    metric / log hook on the rejection event). -/
theorem open_breaker_fails_fast (cfg : Cfg) (bc : Breaker.Cfg) (hb : cfg.breaker = some bc)
    (e : Entry) (he : e.isPolicy = true) (w : World) (t0 : Nat)
    (hopen : w.breaker.state = .opened) (hat : w.breaker.openedAt = some t0)
    (hearly : w.now < t0 + bc.recovery) :
    (∀ x ∈ (runEntry cfg e w).2.trace, x.1 = .breakerAllow ∨ mlK x.1.kind = true) ∧
    Mon.opCount (runEntry cfg e w).2.trace.reverse = 0 ∧
    (runEntry cfg e w).2.breaker = w.breaker ∧
    RejRes e .opened (runEntry cfg e w).2.trace (runEntry cfg e w).1 := by
  have hal := (Breaker.open_rejects_until_timeout bc w.breaker t0 w.now hopen hat).1 hearly
  have ha : decision bc w.breaker w.now = false := by simp [decision, hal]
  obtain ⟨hr, hres⟩ := entry_rejected cfg bc hb e he w ha
  have hr' := hr
  simp only [allowX, hal] at hr'
  refine ⟨hr'.quiet, ?_, by rw [hr.breaker, hal], by simpa [hal] using hres⟩
  have hq := hr'.quiet
  simp only [Mon.opCount, List.filter_reverse, List.length_reverse, List.length_eq_zero_iff,
    List.filter_eq_nil_iff]
  intro x hx
  obtain ⟨r, a⟩ := x
  rcases hq _ hx with h | h <;> cases r <;> first | exact Bool.false_ne_true | cases h

/-- non-vacuity of the hypotheses: an OPEN breaker before its recovery timeout -/
example : (Breaker.St.openedAtTime 7).state = .opened ∧ (Breaker.St.openedAtTime 7).openedAt = some 7 ∧
    8 < 7 + Breaker.exCfg.recovery := by decide

end Redress.Props.C07
