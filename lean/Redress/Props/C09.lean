/-
  C09 — One breaker record per policy call, by final outcome, not per attempt.

  `Mon.C09.ok` is true of every run of the model: in the stated environment (no attempt hook / abort
  predicate raising, no metric / log / before-sleep hook raising a BaseException-only kind — of these
  runs only C08 and the at-most-once half, C09Once, speak), every call the breaker admitted makes EXACTLY ONE `record_*`, after the
  admission, and it is the one the final outcome dictates (`Mon.C09.expected`); a call it did not
  admit makes none.

  Nothing is needed from inside the retry loop beyond `runCall_ext` / `runExecute_ext`: the loop never
  talks to the breaker, so failed attempts inside a call that goes on to retry are not reported.
  What the policy does around the loop is verified once, in Lemmas/PolicyCall.lean; this file says what
  "nothing recorded yet", "`r` recorded" and "about to end with `res`" mean for C09 (`records`) and proves
  the pure facts about `Mon.C09.expected` that make them fit together.

  Third file of the chain C08 → C07Policy → C09 → C09Once; `cur`, `decision` and the step lemmas of the monitor
  come from C08.lean, the rejected call from C07Policy.lean.  Names: `V` is what the argument looks at — `adm`,
  `recs`, `pre` from the monitor, `lc` / `cr` its last classifier exchange (class given / exception raised),
  `xadm` / `xset` the execution context's `admitted` / `settled`; `OF P w` is "`P (view w)`, or the run has left the
  stated environment"; `OpenL F` / `ClosedL r F` / `GoodV` / `FinalV` are the states of an admitted call as
  predicates on `V` (`F`: what is known of `lc`, `cr`; `Any`: nothing) — C09Once has the same states as
  predicates on worlds, `Open` / `Closed` / `Good` / `Final`, without the classifier; `want` is `expected` as a
  function of `lc`, `cr`; `clsF ref a` is what the exchange `(classify ref, a)` leaves there.  Lemmas `x_of` are
  about the procedure `x` under `OF`, `x_adm` about `x` when the breaker admits.
-/
import Redress.Props.C07Policy

open Std.Do

namespace Redress.Props.C09
open Redress Redress.Retry Redress.Policy Redress.Mon Redress.Mon.C09
open Redress.Props.C08 (cur cur_cons run_reverse decision)

/-- one exchange that puts the run outside C09's stated environment -/
def faultX (x : Req × Ans) : Bool :=
  (isAttemptHook x.1 && (x.2 matches .raise ..)) ||
  ((match x.1 with
      | .metric .. | .log .. | .beforeSleep .. => true
      | _ => false) && (match x.2 with
      | .raise e _ => !e.isException
      | _ => false))

/-- … somewhere in the (newest-first) log -/
def fault (tr : List (Req × Ans)) : Bool := tr.any faultX

theorem any_or_any {α : Type} (l : List α) (p q : α → Bool) :
    (l.any p || l.any q) = l.any (fun x => p x || q x) := by
  induction l with
  | nil => rfl
  | cons x l ih =>
    rw [List.any_cons, List.any_cons, List.any_cons, ← ih, Bool.or_assoc, Bool.or_assoc,
      Bool.or_left_comm (l.any p)]

theorem fault_reverse (tr : List (Req × Ans)) :
    (Mon.hookBaseFault tr.reverse || Mon.attemptHookFault tr.reverse) = fault tr := by
  simp only [Mon.hookBaseFault, Mon.attemptHookFault, List.any_reverse, any_or_any, fault]
  congr 1
  funext x
  exact Bool.or_comm _ _

@[simp] theorem fault_cons (x : Req × Ans) (tr : List (Req × Ans)) :
    fault (x :: tr) = (faultX x || fault tr) := rfl

theorem fault_append (δ tr : List (Req × Ans)) (h : fault (δ ++ tr) = false) : fault tr = false := by
  simp only [fault, List.any_append, Bool.or_eq_false_iff] at h
  exact h.2

/-- the monitor's admission / records / last classifier exchange, and the execution context's flags -/
structure V where
  adm : Option Bool
  recs : List Req
  pre : Nat
  lc : Option (String × EClass)
  cr : Option Exn
  xadm : Bool
  xset : Bool

def view (w : World) : V :=
  ⟨(cur w.trace).admitted, (cur w.trace).records, (cur w.trace).preRecords, (cur w.trace).lastClass,
   (cur w.trace).clsRaised, w.xc.admitted, w.xc.settled⟩

/-- every request kind of the loop but the classifier's -/
def quietK : Kind → Bool
  | .classify | .breakerAllow | .breakerSuccess | .breakerFailure | .breakerCancel => false
  | _ => true

theorem quietK_loopK (k : Kind) (h : quietK k = true) : loopK k = true := by
  cases k <;> simp_all [quietK, loopK]

theorem step_quiet (s : St) (x : Req × Ans) (h : quietK x.1.kind = true) :
    (step s x).admitted = s.admitted ∧ (step s x).records = s.records ∧
    (step s x).preRecords = s.preRecords ∧ (step s x).lastClass = s.lastClass ∧
    (step s x).clsRaised = s.clsRaised := by
  have hl := step_loop s x (quietK_loopK _ h)
  have hc := step_notClassify s x (fun hk => by rw [hk] at h; cases h)
  exact ⟨hl.1, hl.2.2.1, hl.2.2.2, hc.1, hc.2⟩

theorem view_cons_quiet (w : World) (x : Req × Ans) (h : quietK x.1.kind = true) (w' : World)
    (ht : w'.trace = x :: w.trace) (hx : w'.xc = w.xc) : view w' = view w := by
  have := step_quiet (cur w.trace) x h
  simp only [view, ht, cur_cons, hx]
  simp [this]

theorem view_ext_quiet {w w' : World} (h : Ext quietK w w') : view w' = view w := by
  obtain ⟨δ, e, k⟩ := h.trace
  simp only [view, e, h.xc]
  exact foldr_append_proj step {}
    (fun s => (⟨s.admitted, s.records, s.preRecords, s.lastClass, s.clsRaised, w.xc.admitted, w.xc.settled⟩ : V))
    (fun x => quietK x.1.kind = true)
    (fun s x hx => by obtain ⟨h1, h2, h3, h4, h5⟩ := step_quiet s x hx; simp only [h1, h2, h3, h4, h5]) δ w.trace k

/-- "… unless the run has left the stated environment" -/
def OF (P : V → Prop) (w : World) : Prop := fault w.trace = false → P (view w)

theorem OF.ext_quiet {P : V → Prop} {w w' : World} (h : Ext quietK w w') (hp : OF P w) : OF P w' := by
  intro hf
  obtain ⟨δ, e, _⟩ := h.trace
  rw [view_ext_quiet h]
  exact hp (fault_append δ _ (e ▸ hf))

/-! ### states of an admitted call -/

/-- no constraint on the last classifier exchange -/
abbrev Any : Option (String × EClass) → Option Exn → Prop := fun _ _ => True

/-- admitted, nothing recorded yet (`F` : what is known about the last classifier exchange) -/
def OpenL (F : Option (String × EClass) → Option Exn → Prop) (v : V) : Prop :=
  v.adm = some true ∧ v.pre = 0 ∧ v.recs = [] ∧ v.xadm = true ∧ v.xset = false ∧ F v.lc v.cr

/-- admitted, exactly `rec` recorded -/
def ClosedL (rec : Req) (F : Option (String × EClass) → Option Exn → Prop) (v : V) : Prop :=
  v.adm = some true ∧ v.pre = 0 ∧ v.recs = [rec] ∧ v.xadm = true ∧ v.xset = true ∧ F v.lc v.cr

/-- the retry loop (which may well ask the classifier) leaves an unrecorded call unrecorded -/
theorem OF.open_loop {w w' : World} (h : Ext loopK w w') (hp : OF (OpenL Any) w) : OF (OpenL Any) w' := by
  intro hf
  obtain ⟨δ, e, -⟩ := h.trace
  have hc := C08.cur_ext h
  obtain ⟨h1, h2, h3, h4, h5, -⟩ := hp (fault_append δ _ (e ▸ hf))
  simp only [view] at h1 h2 h3 h4 h5
  simp only [OpenL, view, h.xc, hc.1, hc.2.1, hc.2.2]
  exact ⟨h1, h2, h3, h4, h5, trivial⟩

/-- `Mon.C09.expected` as a function of the last classifier exchange -/
def want (cfg : Cfg) (lc : Option (String × EClass)) (cr : Option Exn) (r : Res) : Option Req :=
  expected cfg { lastClass := lc, clsRaised := cr } r

theorem expected_eq (cfg : Cfg) (m : St) (r : Res) : expected cfg m r = want cfg m.lastClass m.clsRaised r := by
  cases r <;> rfl

/-- what will be true once `ensure_settled` has run: one record, of the dictated kind -/
def GoodV (cfg : Cfg) (r : Res) (v : V) : Prop :=
  v.adm = some true ∧ v.pre = 0 ∧ v.xadm = true ∧
  ∃ rec, (if v.xset then v.recs else v.recs ++ [Req.breakerCancel]) = [rec] ∧
    ∀ x, want cfg v.lc v.cr r = some x → rec = x

/-- the verdict for an admitted call -/
def FinalV (cfg : Cfg) (r : Res) (v : V) : Prop :=
  v.adm = some true ∧ v.pre = 0 ∧ ∃ rec, v.recs = [rec] ∧ ∀ x, want cfg v.lc v.cr r = some x → rec = x

theorem OF.good_closed {cfg : Cfg} {r : Res} {rec : Req} {F : Option (String × EClass) → Option Exn → Prop}
    {w : World} (h : OF (ClosedL rec F) w)
    (hm : ∀ l c, F l c → ∀ x, want cfg l c r = some x → rec = x) : OF (GoodV cfg r) w := by
  intro hf
  obtain ⟨h1, h2, h3, h4, h5, h6⟩ := h hf
  exact ⟨h1, h2, h4, rec, by simp [h5, h3], hm _ _ h6⟩

theorem OF.good_open {cfg : Cfg} {r : Res} {F : Option (String × EClass) → Option Exn → Prop}
    {w : World} (h : OF (OpenL F) w)
    (hm : ∀ l c, F l c → ∀ x, want cfg l c r = some x → Req.breakerCancel = x) : OF (GoodV cfg r) w := by
  intro hf
  obtain ⟨h1, h2, h3, h4, h5, h6⟩ := h hf
  exact ⟨h1, h2, h4, .breakerCancel, by simp [h5, h3], hm _ _ h6⟩

theorem OF.of_fault {P : V → Prop} {w : World} (h : fault w.trace = true) : OF P w := by
  intro hf; simp_all

theorem OF.weaken {P Q : V → Prop} {w : World} (h : OF P w) (hpq : ∀ v, P v → Q v) : OF Q w :=
  fun hf => hpq _ (h hf)

theorem OF.cons_quiet {P : V → Prop} {s : World} (x : Req × Ans) (hq : quietK x.1.kind = true)
    (s' : World) (ht : s'.trace = x :: s.trace) (hx : s'.xc = s.xc) (h : OF P s) : OF P s' := by
  intro hf
  rw [ht] at hf
  simp only [fault_cons, Bool.or_eq_false_iff] at hf
  rw [view_cons_quiet s x hq s' ht hx]
  exact h hf.2

theorem fault_head {s' : World} {tr : List (Req × Ans)} (x : Req × Ans) (ht : s'.trace = x :: tr)
    (hx : faultX x = true) : fault s'.trace = true := by
  simp [ht, hx]

section hooks
variable (cfg : Cfg) (P : V → Prop)

/-- an attempt hook or the abort predicate: if it raises, the run has left the stated environment -/
theorem ask_of (r : Req) (hr : isAttemptHook r = true) :
    ⦃fun w => ⌜OF P w⌝⦄ ask r ⦃post⟨fun _ w => ⌜OF P w⌝, fun _ w => ⌜fault w.trace = true⌝⟩⦄ :=
  have hq : quietK r.kind = true := by cases r <;> first | rfl | cases hr
  ask_triple r (fun _ a h _ => h.cons_quiet (r, a) hq _ rfl rfl)
    (fun _ e d _ => fault_head (r, .raise e d) rfl (by simp [faultX, hr]))

theorem faultX_hook (r : Req) (hk : r.kind = .metric ∨ r.kind = .log) (e : Exn) (d : Nat)
    (he : e.isException = false) : faultX (r, .raise e d) = true := by
  cases r with
  | metric => simp [faultX, he]
  | log => simp [faultX, he]
  | _ => rcases hk with hk | hk <;> cases hk

/-- the metric / log hook: … if it raises a BaseException-only kind -/
theorem askHook_of (r : Req) (hk : r.kind = .metric ∨ r.kind = .log) :
    ⦃fun w => ⌜OF P w⌝⦄ askHook r
    ⦃post⟨fun _ w => ⌜OF P w⌝, fun e w => ⌜OF P w ∧ (e.isException = false → fault w.trace = true)⌝⟩⦄ :=
  have hq : quietK r.kind = true := by rcases hk with hk | hk <;> rw [hk] <;> rfl
  askHook_triple' r (fun _ _ h => h) (fun _ a h _ => h.cons_quiet (r, a) hq _ rfl rfl)
    (fun _ e d h => ⟨h.cons_quiet (r, .raise e d) hq _ rfl rfl,
      fun he => fault_head (r, .raise e d) rfl (faultX_hook r hk e d he)⟩)

/-- `_emit_breaker_event`: only a BaseException-only kind raised by a hook gets out -/
theorem emitBreakerEvent_of (ev : Option Event) (st : CState) (k : Option EClass) :
    ⦃fun w => ⌜OF P w⌝⦄ emitBreakerEvent cfg ev st k ⦃post⟨fun _ w => ⌜OF P w⌝, fun _ w => ⌜fault w.trace = true⌝⟩⦄ :=
  triple_raise (emitBreakerEvent_rule (askHook_of P) (fun _ _ _ h => h.1) cfg ev st k)
      (fun _ _ h => h.1.2 h.2)

theorem noRetryEndHook_of (exc : Option Exn) (r : Option Nat) (d : AttemptDecision)
    (stop : Option StopReason) (cause : Option Cause) :
    ⦃fun w => ⌜OF P w⌝⦄ noRetryEndHook cfg exc r d stop cause ⦃post⟨fun _ w => ⌜OF P w⌝, fun _ w => ⌜fault w.trace = true⌝⟩⦄ := by
  have h := fun c => ask_of P (.attemptEnd c) rfl
  mvcgen [noRetryEndHook, xElapsed, h]

end hooks


/-! ### the classifier, asked by the policy for the breaker -/

/-- what the last classifier exchange `(classify ref, a)` leaves in the monitor -/
def clsF (ref : String) (a : Ans) : Option (String × EClass) → Option Exn → Prop := fun l c =>
  l = (match a with | .klass k _ => some (ref, k.klass) | _ => none) ∧
  c = (match a with | .raise e _ => some e | _ => none)

theorem OF.classified {F : Option (String × EClass) → Option Exn → Prop} {s : World} (ref : String) (a : Ans)
    (s' : World) (ht : s'.trace = (.classify ref, a) :: s.trace) (hx : s'.xc = s.xc)
    (h : OF (OpenL F) s) : OF (OpenL (clsF ref a)) s' := by
  intro hf
  rw [ht] at hf
  simp only [fault_cons, Bool.or_eq_false_iff] at hf
  obtain ⟨h1, h2, h3, h4, h5, _⟩ := h hf.2
  simp only [view] at h1 h2 h3 h4 h5
  simp only [OpenL, view, ht, cur_cons, hx, step_admitted_classify _ h1, clsF]
  refine ⟨h1, h2, h3, h4, h5, ?_, ?_⟩ <;> cases a <;> rfl

theorem OpenL.mono {F G : Option (String × EClass) → Option Exn → Prop} (h : ∀ l c, F l c → G l c) {v : V}
    (hv : OpenL F v) : OpenL G v :=
  ⟨hv.1, hv.2.1, hv.2.2.1, hv.2.2.2.1, hv.2.2.2.2.1, h _ _ hv.2.2.2.2.2⟩

theorem callClassifier_of (F : Option (String × EClass) → Option Exn → Prop) (e : Exn) :
    ⦃fun w => ⌜OF (OpenL F) w⌝⦄ callClassifier e
    ⦃post⟨fun c w => ⌜OF (OpenL fun l r => l = some (e.ref, c.klass) ∧ r = none) w⌝,
          fun e' w => ⌜OF (OpenL fun _ r => e' = .stuck ∨ r = some e') w⌝⟩⦄ := by
  have hc := fun (a : Ans) (G : Option (String × EClass) → Option Exn → Prop)
      (hG : ∀ l c, clsF e.ref a l c → G l c) (s : World) (h : OF (OpenL F) s) =>
    (OF.classified e.ref a (exchanged s (.classify e.ref, a)) rfl rfl h).weaken fun _ => OpenL.mono hG
  mvcgen [callClassifier, ask_exchanged]
  · obtain ⟨_, rfl⟩ := ‹_ ∧ _›
    exact hc _ _ (fun _ _ h => h) _ ‹_›
  · obtain ⟨_, rfl⟩ := ‹_ ∧ _›
    exact hc _ _ (fun _ _ _ => .inl trivial) _ ‹_›
  · rintro ⟨_, rfl⟩
    exact hc _ _ (fun _ _ h => .inr h.2) _ ‹_›

theorem OF.record {F : Option (String × EClass) → Option Exn → Prop} {s : World} (r : Req) (ans : Ans)
    (st : Breaker.St) (hr : isRecord r = true) (h : OF (OpenL F) s) :
    OF (ClosedL r F)
      { s with breaker := st, xc := { s.xc with settled := true }, trace := (r, ans) :: s.trace } := by
  intro hf
  simp only [fault_cons, Bool.or_eq_false_iff] at hf
  obtain ⟨h1, h2, h3, h4, h5, h6⟩ := h hf.2
  simp only [view] at h1 h2 h3 h4 h5 h6
  simp only [ClosedL, view, cur_cons, step_admitted_record _ h1 r ans hr]
  simp [h1, h2, h3, h4, h6]

theorem OF.settle {cfg : Cfg} {r : Res} {s : World} (ans : Ans) (st : Breaker.St)
    (h : OF (GoodV cfg r) s) (hc : (s.xc.admitted && !s.xc.settled) = true) :
    OF (FinalV cfg r)
      { s with breaker := st, xc := { s.xc with settled := true },
               trace := (.breakerCancel, ans) :: s.trace } := by
  intro hf
  simp only [fault_cons, Bool.or_eq_false_iff] at hf
  obtain ⟨h1, h2, h3, rec, h4, h5⟩ := h hf.2
  simp only [view] at h1 h2 h3 h4 h5
  have hset : s.xc.settled = false := by simp_all
  simp only [hset, Bool.false_eq_true, if_false] at h4
  simp only [FinalV, view, cur_cons, step_admitted_record _ h1 .breakerCancel ans rfl]
  exact ⟨h1, h2, rec, h4, h5⟩

theorem OF.settled {cfg : Cfg} {r : Res} {s : World}
    (h : OF (GoodV cfg r) s) (hc : ¬ (s.xc.admitted && !s.xc.settled) = true) :
    OF (FinalV cfg r) s := by
  intro hf
  obtain ⟨h1, h2, h3, rec, h4, h5⟩ := h hf
  simp only [view] at h1 h2 h3 h4 h5
  have hset : s.xc.settled = true := by simp_all
  simp only [hset, if_true] at h4
  exact ⟨h1, h2, rec, h4, h5⟩

section records
variable (cfg : Cfg) (bc : Breaker.Cfg) (hb : cfg.breaker = some bc)
  (F : Option (String × EClass) → Option Exn → Prop)
include hb

theorem recordCancel_of :
    ⦃fun w => ⌜OF (OpenL F) w⌝⦄ Policy.recordCancel cfg
    ⦃post⟨fun _ w => ⌜OF (ClosedL .breakerCancel F) w⌝, fun _ _ => ⌜False⌝⟩⦄ :=
  recordCancel_triple hb fun _ h => OF.record _ _ _ rfl h

theorem recordSuccess_of :
    ⦃fun w => ⌜OF (OpenL F) w⌝⦄ Policy.recordSuccess cfg
    ⦃post⟨fun _ w => ⌜OF (ClosedL .breakerSuccess F) w⌝, fun _ w => ⌜fault w.trace = true⌝⟩⦄ :=
  recordSuccess_triple hb (fun _ h => OF.record _ _ _ rfl h) (emitBreakerEvent_of cfg _)

theorem recordFailure_of (k : EClass) :
    ⦃fun w => ⌜OF (OpenL F) w⌝⦄ Policy.recordFailure cfg k
    ⦃post⟨fun _ w => ⌜OF (ClosedL (.breakerFailure k) F) w⌝, fun _ w => ⌜fault w.trace = true⌝⟩⦄ :=
  recordFailure_triple hb k (fun _ h => OF.record _ _ _ rfl h) (emitBreakerEvent_of cfg _)

/-- `ensure_settled`: the cancel for an admitted call that has made no record, nothing otherwise -/
theorem ensureSettled_of (r : Res) :
    ⦃fun w => ⌜OF (GoodV cfg r) w⌝⦄ ensureSettled cfg
    ⦃post⟨fun _ w => ⌜OF (FinalV cfg r) w⌝, fun _ _ => ⌜False⌝⟩⦄ :=
  ensureSettled_triple hb (fun _ h hc => OF.settle _ _ h hc) fun _ => OF.settled

end records


/-! ### which record the final outcome dictates (pure facts about `Mon.C09.expected`) -/

theorem want_cancelLike (cfg : Cfg) (l : Option (String × EClass)) (c : Option Exn) (e : Exn)
    (h : cancelLike e = true) : want cfg l c (.raised e) = some .breakerCancel := by
  simp only [want, expected]
  rw [if_pos (by simpa [cancelLike] using h)]

theorem want_not_cancelLike (cfg : Cfg) (l : Option (String × EClass)) (c : Option Exn) (e : Exn)
    (h : cancelLike e = false) : want cfg l c (.raised e) =
      if cfg.hasRetry && c == some e then none
      else if e.isExhausted then some (.breakerFailure (e.exhaustedClass.getD .unknown))
      else if cfg.hasRetry then
        l.bind fun p => if p.1 == e.ref then some (.breakerFailure p.2) else none
      else some (.breakerFailure (Policy.defaultClass e)) := by
  simp only [want, expected]
  rw [if_neg (by simpa [cancelLike] using h)]

section glue
variable {cfg : Cfg} {w : World} {F : Option (String × EClass) → Option Exn → Prop}

theorem good_cancel {e : Exn} (h : OF (ClosedL .breakerCancel F) w) (hc : cancelLike e = true) :
    OF (GoodV cfg (.raised e)) w :=
  h.good_closed fun l c _ x hx => by rw [want_cancelLike cfg l c e hc] at hx; exact Option.some.inj hx

theorem good_open_cancel {e : Exn} (h : OF (OpenL F) w) (hc : cancelLike e = true) :
    OF (GoodV cfg (.raised e)) w :=
  h.good_open fun l c _ x hx => by rw [want_cancelLike cfg l c e hc] at hx; exact Option.some.inj hx

theorem good_exhausted {e : Exn} (h : OF (ClosedL (.breakerFailure (e.exhaustedClass.getD .unknown)) F) w)
    (he : e.isExhausted = true) : OF (GoodV cfg (.raised e)) w :=
  h.good_closed fun l c _ x hx => by
    rw [want_not_cancelLike cfg l c e (exhausted_not_cancelLike he)] at hx
    split at hx
    · cases hx
    · exact Option.some.inj hx

theorem good_classified {e : Exn} {k : EClass} (hret : cfg.hasRetry = true)
    (h : OF (ClosedL (.breakerFailure k) (fun l r => l = some (e.ref, k) ∧ r = none)) w)
    (h1 : e.isException = true) (h2 : e.isAbort = false) (h3 : e.isCircuitOpen = false)
    (h4 : e.isExhausted = false) : OF (GoodV cfg (.raised e)) w :=
  h.good_closed fun l c hlc x hx => by
    obtain ⟨rfl, rfl⟩ := hlc
    rw [want_not_cancelLike cfg _ _ e (exception_not_cancelLike h1 h2 h3)] at hx
    simp [hret, h4] at hx
    exact hx

theorem good_cls_raised {e' : Exn} (hret : cfg.hasRetry = true)
    (h : OF (OpenL fun _ r => e' = .stuck ∨ r = some e') w) : OF (GoodV cfg (.raised e')) w :=
  h.good_open fun l c hlc x hx => by
    cases hcl : cancelLike e' with
    | true => rw [want_cancelLike cfg l c e' hcl] at hx; exact Option.some.inj hx
    | false =>
      rw [want_not_cancelLike cfg l c e' hcl] at hx
      rcases hlc with rfl | rfl
      · simp [cancelLike] at hcl
      · simp [hret] at hx

theorem good_default {e : Exn} (hret : cfg.hasRetry = false)
    (h : OF (ClosedL (.breakerFailure (Policy.defaultClass e)) F) w)
    (h1 : e.isException = true) (h2 : e.isAbort = false) (h3 : e.isCircuitOpen = false)
    (h4 : e.isExhausted = false) : OF (GoodV cfg (.raised e)) w :=
  h.good_closed fun l c _ x hx => by
    rw [want_not_cancelLike cfg _ _ e (exception_not_cancelLike h1 h2 h3)] at hx
    simp [hret, h4] at hx
    exact hx

theorem good_ret {v : Nat} (h : OF (ClosedL .breakerSuccess F) w) : OF (GoodV cfg (.ret v)) w :=
  h.good_closed fun l c _ x hx => by simp only [want, expected] at hx; exact Option.some.inj hx

theorem good_outcome {o : Outcome} {tl : List TimelineEv} {rec : Req} (h : OF (ClosedL rec F) w)
    (hr : rec = (if o.ok then Req.breakerSuccess else if o.stop == some .aborted then .breakerCancel
      else .breakerFailure (o.lastClass.getD .unknown))) : OF (GoodV cfg (.outcome o tl)) w :=
  h.good_closed fun l c _ x hx => by
    simp only [want, expected] at hx
    subst hr
    split at hx
    · simp_all
    · split at hx <;> simp_all

end glue


section admitted
variable (cfg : Cfg) (bc : Breaker.Cfg) (hb : cfg.breaker = some bc)
include hb

/-- `_handle_exception_call`: with a retry component the classifier is asked for the breaker (and may raise);
    without one it is `default_classifier` -/
theorem handleExceptionCall_of (e : Exn) (b : Bool)
    (h1 : e.isException = true) (h2 : e.isAbort = false) (h4 : e.isExhausted = false) :
    ⦃fun w => ⌜OF (OpenL Any) w⌝⦄ handleExceptionCall cfg e b ⦃Records.raisedArm (fun r => OF (GoodV cfg r)) e⦄ := by
  unfold handleExceptionCall
  split
  next hco =>
    mvcgen
    exact good_open_cancel (by assumption) (by simp [cancelLike, hco])
  next hco =>
    have h3 := eq_false_of_ne_true hco
    have hh := fun exc r d stop cause => triple_raise (noRetryEndHook_of cfg (OpenL Any) exc r d stop cause)
      (fun e' w h => OF.of_fault (P := GoodV cfg (.raised e')) h)
    cases hret : cfg.hasRetry with
    | true =>
      have hc := triple_raise (callClassifier_of Any e) (fun _ _ h => good_cls_raised hret h)
      have hr := fun k => triple_mono (recordFailure_of cfg bc hb (fun l r => l = some (e.ref, k) ∧ r = none) k)
        (fun _ h => h) (fun _ _ h => good_classified hret h h1 h2 h3 h4)
        (fun e' w h => OF.of_fault (P := GoodV cfg (.raised e')) h)
      unfold classifyForBreaker
      simp only [hret, Bool.not_true, Bool.false_and, if_true]
      mvcgen [hc, hr]
    | false =>
      have hr := triple_mono (recordFailure_of cfg bc hb Any (defaultClass e))
        (fun _ h => h) (fun _ _ h => good_default hret h h1 h2 h3 h4)
        (fun e' w h => OF.of_fault (P := GoodV cfg (.raised e')) h)
      unfold classifyForBreaker
      simp only [hret, Bool.not_false, Bool.true_and]
      mvcgen [hh, hr]

/-- C09's reading of an admitted call, in the stated environment: nothing recorded / exactly `r` recorded (whatever
    the classifier said last) / `ensure_settled` will find the one record the result dictates, or make it -/
theorem records : Records cfg (OF (OpenL Any)) (fun r => OF (ClosedL r Any)) (fun r => OF (GoodV cfg r)) where
  stable _ _ := OF.open_loop
  endHook exc r d stop cause := triple_raise (noRetryEndHook_of cfg (OpenL Any) exc r d stop cause)
      (fun _ _ h => ⟨OF.of_fault h, OF.of_fault h⟩)
  endHookC rec exc r d stop cause := triple_raise (noRetryEndHook_of cfg (ClosedL rec Any) exc r d stop cause)
      (fun _ _ h => OF.of_fault h)
  abortIf := triple_raise (ask_of (OpenL Any) .abortIf rfl) (fun _ _ h => OF.of_fault h)
  emit ev st k := triple_raise (emitBreakerEvent_of cfg (OpenL Any) ev st k)
      (fun _ _ h => OF.of_fault h)
  cancel := recordCancel_of cfg bc hb Any
  failure k := triple_raise (recordFailure_of cfg bc hb Any k) (fun _ _ h => OF.of_fault h)
  exception := handleExceptionCall_of cfg bc hb
  q_open _ _ hc h := good_open_cancel h hc
  q_cancel _ _ hc h := good_cancel h hc
  q_exhausted _ _ he h := good_exhausted h he
  q_outcome _ _ h := good_outcome h rfl

omit hb in
/-- `breaker.allow()` answering "allowed" -/
theorem breakerAllow_adm (b0 : Breaker.St) (now0 : Nat) (ha : decision bc b0 now0 = true) :
    ⦃fun w => ⌜Start b0 now0 w⌝⦄ breakerAllow bc
    ⦃post⟨fun d w => ⌜d.1 = true ∧ OF (OpenL Any) w⌝, fun _ _ => ⌜False⌝⟩⦄ := by
  refine triple_mono (breakerAllow_start bc b0 now0) (fun _ h => h) (fun d w h => ⟨h.1 ▸ ha, fun _ => ?_⟩)
    (fun _ _ h => h)
  obtain ⟨-, ht, -, hxa, hxs⟩ := h
  refine ⟨?_, ?_, ?_, hxa.trans ha, hxs, trivial⟩ <;> simp only [view, ht]
  · exact congrArg some ha
  · rfl
  · rfl

/-- `call()` when the breaker admits -/
theorem callAdmitted_adm (b0 : Breaker.St) (now0 : Nat) (ha : decision bc b0 now0 = true) :
    ⦃fun w => ⌜Start b0 now0 w⌝⦄ callAdmitted cfg
    ⦃post⟨fun v w => ⌜OF (GoodV cfg (.ret v)) w⌝, fun e w => ⌜OF (GoodV cfg (.raised e)) w⌝⟩⦄ :=
  (records cfg bc hb).callAdmitted (S := fun _ => OF (OpenL Any)) (fun _ _ h => h)
    ((records cfg bc hb).checkBreaker bc hb (breakerAllow_adm bc b0 now0 ha))
    (fun _ => triple_mono (recordSuccess_of cfg bc hb Any) (fun _ h => h) (fun _ _ h => good_ret h)
      (fun _ _ h => OF.of_fault h))
    (records cfg bc hb).callLadder

/-- `execute()` when the breaker admits -/
theorem executeAdmitted_adm (b0 : Breaker.St) (now0 : Nat) (ha : decision bc b0 now0 = true) :
    ⦃fun w => ⌜Start b0 now0 w⌝⦄ executeAdmitted cfg
    ⦃post⟨fun o w => ⌜OF (GoodV cfg (.outcome o [])) w⌝, fun e w => ⌜OF (GoodV cfg (.raised e)) w⌝⟩⦄ :=
  (records cfg bc hb).executeAdmitted bc hb
    (triple_raise (recordSuccess_of cfg bc hb Any) (fun _ _ h => OF.of_fault h))
    (breakerAllow_adm bc b0 now0 ha)

end admitted


/-- non-vacuity of `ha`: a CLOSED breaker, an OPEN one after its timeout, a free HALF_OPEN one -/
example : decision Breaker.exCfg Breaker.St.init 0 = true ∧
    decision Breaker.exCfg (Breaker.St.openedAtTime 7) 12 = true ∧
    decision Breaker.exCfg { state := .halfOpen, probe := false } 0 = true := by decide

/-- What the policy entry points establish when the breaker admits the call (in the stated
    environment): exactly one record, after the admission, of the kind the result dictates. -/
theorem entry_admitted (cfg : Cfg) (bc : Breaker.Cfg) (hb : cfg.breaker = some bc) (e : Entry)
    (he : e.isPolicy = true) (w : World) (ha : decision bc w.breaker w.now = true) :
    OF (FinalV cfg (runEntry cfg e w).1) (runEntry cfg e w).2 :=
  runEntry_policy (Q := fun _ r => OF (GoodV cfg r)) (F := fun _ r => OF (FinalV cfg r)) e he w
    (callAdmitted_adm cfg bc hb w.breaker w.now ha) (executeAdmitted_adm cfg bc hb w.breaker w.now ha)
    (fun _ => ensureSettled_of cfg bc hb) (fun _ _ _ h => h)

/--
**C09.**  For every configuration, every entry point and every world (every answer stream, clock and
breaker state) in the property's stated environment — no attempt hook / abort predicate raising, no
metric / log / before-sleep hook raising a BaseException-only kind:

* a call the breaker admitted makes EXACTLY ONE `record_*`, after the admission (none before it) —
  however many attempts, retries and failed attempts happened inside the call;
* it is `record_success` if the call returned a value / an ok outcome; `record_cancel` if it was
  aborted (ABORTED outcome, AbortRetryError) or cancelled (CancelledError, KeyboardInterrupt,
  SystemExit, GeneratorExit) or ended with a nested CircuitOpenError; otherwise `record_failure(k)`
  with `k` the class of the final failure: `outcome.last_class`, `RetryExhaustedError.last_class`, the
  class the classifier gave the raised exception when asked for the breaker (`default_classifier`'s
  without a retry component), UNKNOWN when absent;
* a call the breaker did not admit makes no `record_*` at all.
-/
theorem one_record_hold (cfg : Cfg) (e : Entry) (w : World) :
    Mon.C09.ok cfg e (runEntry cfg e w).2.trace.reverse (runEntry cfg e w).1 = true := by
  unfold Mon.C09.ok
  cases he : e.isPolicy with
  | false => simp
  | true =>
    cases hb : cfg.breaker with
    | none => simp
    | some bc =>
      have := fault_reverse (runEntry cfg e w).2.trace
      cases hf : fault (runEntry cfg e w).2.trace with
      | true =>
        rw [hf] at this
        rcases Bool.or_eq_true_iff.mp this with h | h <;> simp [h]
      | false =>
        rw [hf, Bool.or_eq_false_iff] at this
        simp only [Bool.true_and, Option.isSome_some, this.1, this.2, Bool.not_false, if_true,
          run_reverse]
        cases ha : decision bc w.breaker w.now with
        | false =>
          rw [C07.rejected_cur cfg bc hb e he w ha]
          rfl
        | true =>
          obtain ⟨h1, h2, rec, h3, h4⟩ := entry_admitted cfg bc hb e he w ha hf
          simp only [view] at h1 h2 h3 h4
          rw [← expected_eq] at h4
          simp only [h1, h2, h3, beq_self_eq_true, Bool.true_and]
          cases hx : expected cfg (cur (runEntry cfg e w).2.trace) (runEntry cfg e w).1 with
          | none => rfl
          | some x => simp [h4 x hx]

/-- …and therefore of every call in every script of calls and clock advances on ONE policy object
    sharing one breaker: each admitted call counts exactly once, whatever earlier calls did. -/
theorem one_record_hold_script (cfg : Cfg) : ∀ (steps : List Step) (w : World),
    ∀ l ∈ (runScript cfg steps w).1, Mon.C09.ok cfg l.entry l.trace l.res = true :=
  forall_script (P := fun e t r => Mon.C09.ok cfg e t r = true) cfg (one_record_hold cfg)

end Redress.Props.C09
