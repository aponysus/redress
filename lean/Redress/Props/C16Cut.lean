/-
  C16Cut — what may cut a granted retry short.

  `Mon.C16.skipOk` (Props/C16) says: a run that ends while a granted retry's sleep is still due (and no
  DEFER / ABORT / bad decision was taken) "was cut short by an error or an abort" — and accepts ANY
  `.raised _`.  `Mon.C16.cutOk` (Redress/MonitorsNR.lean) is stronger: the error must be one that can legitimately end the
  run at that point — one the log shows being raised by a callback whose errors PROPAGATE (i.e. not an
  `Exception` raised by a metric / log / before_sleep hook, which the library swallows), or the
  `AbortRetryError` the library itself makes when `abort_if` answers true (`libAbort`), or the model's
  `stuck`.  In particular no other library-made error (`libExhausted`, `libValueError`,
  `libRuntimeError`, `libCircuitOpen`) can end a run in that situation.

  Proof: the Hoare chain of Props/C16 carries, on every exceptional exit, `Props.C16.CutW` — the same
  statement about the monitor's `pending` / `stopped` and the log: an exception that leaves a procedure is
  `libAbort`, `stuck`, or was raised by a callback that does not swallow it (`FX.Prov`, from the footprint
  lemmas of Lemmas/Footprint.lean) — or no retry is pending or a stop decision was taken, and then there is
  nothing to show.  `Props.C16.raised_accounted` is that fact for the entry points; here it is read in the
  monitor's terms (`wnd`, `propsN`, `Cut`).  The value / outcome endings are
  `Props.C16.no_handler_always_sleeps`.
-/
import Redress.Props.C16
import Redress.MonitorsNR

open Std.Do

namespace Redress.Props.C16Cut
open Redress Redress.Retry Redress.Mon Redress.Mon.C16 Redress.FX Redress.Props.C16

/-! ### the window, and what leaves it -/

/-- a granted retry's sleep is due and no stop decision has been taken (newest-first log) -/
def wnd (cfg : Cfg) (tr : List (Req × Ans)) : Bool :=
  (cur cfg tr).pending && (cur cfg tr).stopped.isNone

/-- `Mon.C16.props` of a newest-first log -/
def propsN (tr : List (Req × Ans)) : List Exn := tr.filterMap raisedOf

/-- `Props.C16.CutW` with the window and the propagated errors spelled as `cutOk` spells them -/
def Cut (cfg : Cfg) (e : Exn) (w : World) : Prop :=
  wnd cfg w.trace = true → e = .stuck ∨ e = .libAbort ∨ e ∈ propsN w.trace

theorem cut_of_cutW {cfg : Cfg} {e : Exn} {w : World} (h : CutW cfg e w) : Cut cfg e w := by
  intro hw
  simp only [wnd, Bool.and_eq_true, Option.isNone_iff_eq_none] at hw
  exact h hw.1 hw.2

/-! The window is a function of the view, so a leaf that keeps the view keeps the window
(`recordStrategySuccess_k`, for one), and the sleeper call closes it (`wnd_sleeper`).  `raised_cut` and
`cut_hold` do not go through these: they read `Props.C16.raised_accounted`. -/


theorem wnd_of_view {cfg : Cfg} {w w' : World} (h : view cfg w' = view cfg w) : wnd cfg w'.trace = wnd cfg w.trace := by
  have hm : C16.mask (cur cfg w'.trace) = C16.mask (cur cfg w.trace) := congrArg View.mon h
  have hp : (cur cfg w'.trace).pending = (cur cfg w.trace).pending :=
    show (C16.mask (cur cfg w'.trace)).pending = (C16.mask (cur cfg w.trace)).pending from congrArg St.pending hm
  simp only [wnd, hp, mask_stopped hm]

/-- "the window is as it was" on both exits; the exception is accounted for -/
abbrev keep (cfg : Cfg) (b : Bool) : PostCond α (.except Exn (.arg World .pure)) :=
  post⟨fun _ w => ⌜wnd cfg w.trace = b⌝, fun e w => ⌜wnd cfg w.trace = b ∧ Cut cfg e w⌝⟩

theorem keep_of_same {x : M α} (cfg : Cfg) (b : Bool)
    (h : ∀ v, ⦃fun w => ⌜view cfg w = v⌝⦄ x ⦃sameC cfg v⦄) :
    ⦃fun w => ⌜wnd cfg w.trace = b⌝⦄ x ⦃keep cfg b⦄ :=
  triple_of_rel (fun w0 => h (view cfg w0)) (fun _ => rfl) (fun _ _ _ hw t => (wnd_of_view t).trans hw)
    (fun _ _ _ hw t => ⟨(wnd_of_view t.1).trans hw, cut_of_cutW t.2.2⟩)

section leaves
variable (cfg : Cfg) (b : Bool)

theorem recordStrategySuccess_k : ⦃fun w => ⌜wnd cfg w.trace = b⌝⦄ recordStrategySuccess cfg ⦃keep cfg b⦄ :=
  keep_of_same cfg b (fun v => same_of_fx cfg v (fun w0 => recordStrategySuccess_fx _ w0 cfg (fun _ => rfl)))

end leaves

theorem wnd_sleeper (cfg : Cfg) (lvl : Lvl) (d : Nat) (a : Ans) (tr : List (Req × Ans)) :
    wnd cfg ((.sleeper lvl d, a) :: tr) = false := by
  simp [wnd, step]

/-- a run (with a retry loop) that ends with the error `x` while a granted retry's sleep is due: `x` is
    `stuck`, `libAbort`, or an error a callback raised and the library does not swallow -/
theorem raised_cut (cfg : Cfg) (e : Entry) (w : World) (hl : hasLoop cfg e = true) (x : Exn)
    (hx : (runEntry cfg e w).1 = .raised x) : Cut cfg x (runEntry cfg e w).2 :=
  cut_of_cutW (raised_accounted cfg e w hl x hx)

theorem props_reverse (tr : List (Req × Ans)) (x : Exn) :
    (props tr.reverse).contains x = true ↔ x ∈ propsN tr := by
  simp [props, propsN, List.filterMap_reverse]

/--
For every configuration, every entry point and every world: a run that
ends while a granted retry's sleep is still due (and no DEFER / ABORT / bad decision was taken) ended
(a) with an error the log shows being raised by a callback whose errors propagate — never with an
`Exception` that only a metric / log / before_sleep hook raised —, or (b) with the library's own
`AbortRetryError` (`abort_if` answered true), or (c) as an ABORTED outcome (or (d), model only, `stuck`).
-/
theorem cut_hold (cfg : Cfg) (e : Entry) (w : World) :
    Mon.C16.cutOk cfg e (runEntry cfg e w).2.trace.reverse (runEntry cfg e w).1 = true := by
  cases hl : hasLoop cfg e with
  | false => simp [cutOk, hl]
  | true =>
    have hskip := no_handler_always_sleeps cfg e w
    simp only [cutOk, skipOk, hl, run_reverse, Bool.not_true, Bool.false_or] at hskip ⊢
    cases hw : wnd cfg (runEntry cfg e w).2.trace with
    | false =>
      unfold wnd at hw
      simp [hw]
    | true =>
      have hw' := hw
      unfold wnd at hw'
      simp only [hw', Bool.not_true, Bool.false_or, Bool.and_eq_true] at hskip ⊢
      cases hr : (runEntry cfg e w).1 with
      | ret v => rw [hr] at hskip; simp [cutShort] at hskip
      | outcome o tl => rw [hr] at hskip; simpa [cutShort, cutBy] using hskip.2
      | raised x =>
        simp only [cutBy, Bool.or_eq_true, beq_iff_eq, props_reverse]
        rcases raised_cut cfg e w hl x hr hw with h | h | h
        · exact Or.inr h
        · exact Or.inl (Or.inr h)
        · exact Or.inl (Or.inl h)

/-- …and therefore of every call in every script of calls and clock advances on ONE policy object. -/
theorem cut_hold_script (cfg : Cfg) : ∀ (steps : List Step) (w : World),
    ∀ l ∈ (runScript cfg steps w).1, Mon.C16.cutOk cfg l.entry l.trace l.res = true :=
  forall_script (P := fun e t r => Mon.C16.cutOk cfg e t r = true) cfg (cut_hold cfg)

/-! ### the monitor can say no (tests, not theorems) -/

/-- rejected: a retry is granted, the call-level `before_sleep` hook raises an ordinary `Exception` (which
    the library must swallow) and the run ends with that very exception — `skipOk` accepts this log -/
example : Mon.C16.cutOk { cBeforeSleep := true } .call
    [(.op 1, .raise (.ordinary 0 .transient) 0), (.classify "o0", .klass ⟨.transient, none⟩ 0),
     (.strategy .default .ctx ⟨1, .transient, none, none, 60, .exception⟩, .delay (.fin 5) 0),
     (.beforeSleep .call ⟨1, .transient, none, none, 60, .exception⟩ 5, .raise (.ordinary 7 .unknown) 0)]
    (.raised (.ordinary 7 .unknown)) = false := by decide

example : Mon.C16.skipOk { cBeforeSleep := true } .call
    [(.op 1, .raise (.ordinary 0 .transient) 0), (.classify "o0", .klass ⟨.transient, none⟩ 0),
     (.strategy .default .ctx ⟨1, .transient, none, none, 60, .exception⟩, .delay (.fin 5) 0),
     (.beforeSleep .call ⟨1, .transient, none, none, 60, .exception⟩ 5, .raise (.ordinary 7 .unknown) 0)]
    (.raised (.ordinary 7 .unknown)) = true := by decide

/-- rejected: the same with the `retry` event's metric hook -/
example : Mon.C16.cutOk { metric := true } .call
    [(.op 1, .raise (.ordinary 0 .transient) 0), (.classify "o0", .klass ⟨.transient, none⟩ 0),
     (.strategy .default .ctx ⟨1, .transient, none, none, 60, .exception⟩, .delay (.fin 5) 0),
     (.metric .retry 1 5 { klass := some .transient, err := some "XTRANSIENT", cause := some .exception },
        .raise (.ordinary 7 .unknown) 0)]
    (.raised (.ordinary 7 .unknown)) = false := by decide

/-- rejected: a library-made error other than `AbortRetryError` while the sleep is due -/
example : Mon.C16.cutOk {} .call
    [(.op 1, .raise (.ordinary 0 .transient) 0), (.classify "o0", .klass ⟨.transient, none⟩ 0),
     (.strategy .default .ctx ⟨1, .transient, none, none, 60, .exception⟩, .delay (.fin 5) 0)]
    (.raised (.libExhausted ⟨.maxAttemptsGlobal, 1, some .transient, some "o0", none, none⟩)) = false := by decide

/-- accepted: the hook raises something that is not an `Exception` — that propagates -/
example : Mon.C16.cutOk { cBeforeSleep := true } .call
    [(.op 1, .raise (.ordinary 0 .transient) 0), (.classify "o0", .klass ⟨.transient, none⟩ 0),
     (.strategy .default .ctx ⟨1, .transient, none, none, 60, .exception⟩, .delay (.fin 5) 0),
     (.beforeSleep .call ⟨1, .transient, none, none, 60, .exception⟩ 5, .raise .keyboardInterrupt 0)]
    (.raised .keyboardInterrupt) = true := by decide

/-- accepted: `abort_if` answers true before the sleep -/
example : Mon.C16.cutOk { abortIf := true } .call
    [(.abortIf, .bool false 0), (.op 1, .raise (.ordinary 0 .transient) 0), (.abortIf, .bool false 0),
     (.classify "o0", .klass ⟨.transient, none⟩ 0),
     (.strategy .default .ctx ⟨1, .transient, none, none, 60, .exception⟩, .delay (.fin 5) 0),
     (.abortIf, .bool true 0)]
    (.raised .libAbort) = true := by decide

/-- accepted: the swallowed hook error, then the sleeper itself raises — that error propagates (and the
    sleep is no longer due) -/
example : Mon.C16.cutOk { cBeforeSleep := true } .call
    [(.op 1, .raise (.ordinary 0 .transient) 0), (.classify "o0", .klass ⟨.transient, none⟩ 0),
     (.strategy .default .ctx ⟨1, .transient, none, none, 60, .exception⟩, .delay (.fin 5) 0),
     (.beforeSleep .call ⟨1, .transient, none, none, 60, .exception⟩ 5, .raise (.ordinary 7 .unknown) 0),
     (.sleeper .dflt 5, .raise (.ordinary 8 .unknown) 0)]
    (.raised (.ordinary 8 .unknown)) = true := by decide

/-- the situation occurs in the model: `abort_if` answers true after the grant — the run ends with the
    library's own `AbortRetryError` while the granted retry's sleep is still due -/
example :
    let r := runEntry { abortIf := true } .call
      { answers := [.bool false 0, .raise (.ordinary 0 .transient) 0, .bool false 0, .klass ⟨.transient, none⟩ 0,
                    .delay (.fin 5) 0, .bool true 0] }
    r.1 = .raised .libAbort ∧ (run { abortIf := true } r.2.trace.reverse).pending = true ∧
      (run { abortIf := true } r.2.trace.reverse).stopped = none := by decide

/-- …and the model swallows the `before_sleep` hook's `Exception`: the run goes on to the sleeper -/
example :
    (runEntry { cBeforeSleep := true } .call
      { answers := [.raise (.ordinary 0 .transient) 0, .klass ⟨.transient, none⟩ 0, .delay (.fin 5) 0,
                    .raise (.ordinary 7 .unknown) 0, .raise .keyboardInterrupt 0] }).1
      = .raised .keyboardInterrupt := by decide

end Redress.Props.C16Cut

#print axioms Redress.Props.C16Cut.cut_hold
#print axioms Redress.Props.C16Cut.cut_hold_script
