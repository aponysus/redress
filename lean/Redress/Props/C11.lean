/-
  C11 — execute() returns a faithful RetryOutcome and does not raise for failures.

  Theorems are about `Mon.C11.ok`, the monitor the driver also evaluates on implementation traces.  It judges
  `Retry.execute` and `Policy.execute` with a retry component, not call() (C04's), not a call the breaker
  refused, and not a run in which an attempt hook or `abort_if` itself raised (`Mon.attemptHookFault`,
  DESIGN §6.2): `applies` below.  The monitor fold, the view and the specifications of the procedures shared
  with call() are those of `Redress.Props.C04`.
-/
import Redress.Props.C04

open Std.Do

namespace Redress.Props.C11
open Redress Redress.Retry Redress.Mon Redress.Mon.C04 Redress.Props.C04

attribute [local spec] emit_i checkAbort_spec callBeforeSleep_i budgetConsume_i callAttemptStart_h callAttemptEnd_h
  callAttemptEndFromOutcome_h handleAbortAttemptEnd_h callStrategy_f stratRecordFailure_f callSleeper_f
  recordStrategySuccess_s callSleepHandler_f setStop_spec
  stopWith_spec emitAbortedOnce_spec invokeOp_spec buildOutcome_spec abortOutcome_spec
  handleSleepDecision_spec modifyAS_v getRS_v
  grantRetry_spec handleFailure2_spec handleUnknown_spec handleFailure1_spec
  finalizeAttempt_spec sleepAction_spec failureOutcome_spec

/-- an attempt hook or the abort predicate raised: the monitor does not judge the run -/
def HF (v : View) : Prop := v.mon.hookFault = true

def Shape (m : St) : Prop :=
  (m.recCause = some .exception → m.recExc.isSome = true ∧ m.recVal = none ∧ m.recCls.isSome = true) ∧
  (m.recCause = some .result → m.recVal.isSome = true ∧ m.recExc = none ∧ m.recCls.isSome = true) ∧
  (m.recCause = none → m.recExc = none ∧ m.recVal = none ∧ m.recCls = none)

def Flags (m : St) : Prop := m.fault = false ∧ m.opAfterFault = false ∧ m.abortedSuccess = false

def Base (v : View) : Prop := Sync v ∧ Shape v.mon ∧ Flags v.mon ∧ v.attempts = v.mon.ops

theorem Base.oaf {v : View} (h : Base v) : v.mon.opAfterFault = false := h.2.2.1.2.1

def AbortReady (v : View) : Prop :=
  Sync v ∧ Shape v.mon ∧ v.mon.fault = false ∧ v.mon.opAfterFault = false ∧ v.attempts = v.mon.ops ∧
    v.mon.deferred = false ∧
    (v.mon.succeeded = true → v.mon.earlierSuccess = false → v.mon.abortedSuccess = true)

/-- `Mon.C11.mayPropagate`, as a proposition over the newest-first log -/
def MayP (m : St) (t : List (Req × Ans)) (e : Exn) : Prop :=
  (opRaised m e = true ∧ (e.isException = false ∨ e.isExhausted = true)) ∨ Thrown t e ∨
    (e = .libValueError ∧ m.badDecision = true)

def RaiseOK (v : View) (t : List (Req × Ans)) (e : Exn) : Prop :=
  HF v ∨ (v.mon.opAfterFault = false ∧ MayP v.mon t e)

def outcomeOk (cfg : Cfg) (s : St) (o : Outcome) : Bool :=
  o.attempts == s.ops
  && (o.ok == (s.succeeded && !s.earlierSuccess && !s.abortedSuccess))
  && (if o.ok then C11.successOk s o else C11.failureOk cfg s o)

def OutOK (cfg : Cfg) (v : View) (o : Outcome) : Prop :=
  HF v ∨ (v.mon.fault = false ∧ outcomeOk cfg v.mon o = true)

def XErr (v : View) (t : List (Req × Ans)) (e : Exn) : Prop :=
  HF v ∨ (v.mon.opAfterFault = false ∧ (e.isAbort = false → MayP v.mon t e) ∧
    (e.isAbort = true → AbortReady v))

theorem isAbort_isException (e : Exn) (h : e.isAbort = true) : e.isException = true :=
  (Exn.abort_flags h).1

theorem MayP.thrown {m : St} {t : List (Req × Ans)} {e : Exn} (h : Thrown t e) : MayP m t e :=
  Or.inr (Or.inl h)

theorem failureOk_of {cfg : Cfg} {v : View} {att el : Nat} {ns : Option Nat} (hsy : Sync v) (hsh : Shape v.mon)
    (hst : v.lastStop.isSome = true) (hsc : (v.lastStop == some .scheduled) = v.mon.deferred)
    (hns : ns = if v.mon.deferred then v.mon.delay else none)
    (hab : v.mon.abortedSuccess = false ∨ v.lastStop = some .aborted)
    (hrec : v.lastStop = some .aborted ∨ v.mon.recAt = v.mon.ops)
    (hops : v.lastStop = some .aborted ∨ v.mon.ops ≠ 0 ∨
      (cfg.maxAttempts = 0 ∧ v.lastStop = some .maxAttemptsGlobal)) :
    C11.failureOk cfg v.mon (outcomeOf v false none att ns el) = true := by
  obtain ⟨s1, s2, s3, s4⟩ := hsy
  obtain ⟨sh1, sh2, sh3⟩ := hsh
  have e5 : (!v.mon.abortedSuccess || v.lastStop == some .aborted) = true := by
    rcases hab with h | h <;> simp [h]
  have e6 : (v.lastStop == some .aborted || v.mon.recAt == v.mon.ops) = true := by
    rcases hrec with h | h <;> simp [h]
  have e7 : (v.lastStop == some .aborted || v.mon.ops != 0 ||
      (cfg.maxAttempts == 0 && v.lastStop == some .maxAttemptsGlobal)) = true := by
    rcases hops with h | h | h <;> simp [h]
  cases hc : v.mon.recCause with
  | none =>
    obtain ⟨a1, a2, a3⟩ := sh3 hc
    simp [C11.failureOk, outcomeOf, hst, hsc, hns, e5, e6, e7, s1, s2, s3, s4, hc, a1, a2, a3]
  | some c =>
    cases c with
    | exception =>
      obtain ⟨a1, a2, a3⟩ := sh1 hc
      simp [C11.failureOk, outcomeOf, hst, hsc, hns, e5, e6, e7, s1, s2, s3, s4, hc, a1, a2, a3]
    | result =>
      obtain ⟨a1, a2, a3⟩ := sh2 hc
      simp [C11.failureOk, outcomeOf, hst, hsc, hns, e5, e6, e7, s1, s2, s3, s4, hc, a1, a2, a3]

theorem outcomeOk_fail {cfg : Cfg} {v : View} {att el : Nat} {ns : Option Nat} (hatt : att = v.mon.ops)
    (hnok : (v.mon.succeeded && !v.mon.earlierSuccess && !v.mon.abortedSuccess) = false)
    (hf : C11.failureOk cfg v.mon (outcomeOf v false none att ns el) = true) :
    outcomeOk cfg v.mon (outcomeOf v false none att ns el) = true := by
  unfold outcomeOk
  rw [hf, hnok, show (outcomeOf v false none att ns el).attempts = att from rfl, hatt]
  simp [outcomeOf]

theorem abort_outcomeOk {cfg : Cfg} {v : View} {o : Outcome} (h : AbortReady v)
    (ho : IsOutcome { v with lastStop := some .aborted } false none v.attempts none o) :
    v.mon.fault = false ∧ outcomeOk cfg v.mon o = true := by
  obtain ⟨hsy, hsh, hf, _, hat, hd, hs⟩ := h
  obtain ⟨el, rfl⟩ := ho
  refine ⟨hf, outcomeOk_fail (v := { v with lastStop := some .aborted }) hat ?_
    (failureOk_of hsy hsh rfl (by rw [hd]; rfl) (by rw [hd]; rfl) (Or.inr rfl) (Or.inl rfl) (Or.inl rfl))⟩
  cases h1 : v.mon.succeeded <;> cases h2 : v.mon.earlierSuccess <;> simp_all

theorem view_attempts (cfg : Cfg) (w : World) : w.attempts = (view cfg w).attempts := rfl

theorem AbortReady.stop {v : View} (h : AbortReady v) (ls : Option StopReason) :
    AbortReady { v with lastStop := ls } := h

theorem abort_OutOK {cfg : Cfg} {u v : View} {o : Outcome} (h : AbortReady u)
    (hv : v = { u with lastStop := some .aborted })
    (ho : IsOutcome { u with lastStop := some .aborted } false none u.attempts none o) : OutOK cfg v o := by
  subst hv
  exact Or.inr (abort_outcomeOk h ho)

theorem RaiseOK.thrown {v : View} {t : List (Req × Ans)} {e : Exn} (h : Thrown t e)
    (ho : v.mon.opAfterFault = false) : RaiseOK v t e := Or.inr ⟨ho, MayP.thrown h⟩

abbrev outPost (cfg : Cfg) (I : View → Prop) : PostCond (Option Outcome) (.except Exn (.arg World .pure)) :=
  post⟨fun r w => ⌜match r with
                   | some o => OutOK cfg (view cfg w) o
                   | none => I (view cfg w)⌝,
       fun e w => ⌜RaiseOK (view cfg w) w.trace e⌝⟩

/-- `_handle_abort_attempt_end` + `_abort_outcome` -/
theorem execAbortExit_spec (cfg : Cfg) (tl : Bool) (a : Nat) (e : Exn) (u : View) (h : HF u ∨ AbortReady u) :
    ⦃fun w => ⌜view cfg w = u⌝⦄ execAbortExit cfg tl a e ⦃outPost cfg fun _ => False⦄ := by
  rcases h with h | h
  · mvcgen [execAbortExit]
    all_goals ((try subst_vars) <;> (try intros))
    all_goals (try (simp_all +zetaDelta [HF, OutOK, RaiseOK]; done))
  · mvcgen [execAbortExit]
    all_goals ((try subst_vars) <;> (try intros))
    all_goals (try (simp_all +zetaDelta [HF, RaiseOK]; done))
    · rename_i s2 _ s1 h1 o s h0
      rw [← h1] at h
      exact abort_OutOK h h0.2 h0.1
    · rename_i s2 _ s1 h1 e' s ht hv _
      rw [← h1] at h
      exact RaiseOK.thrown ht (by rw [hv]; exact h.2.2.2.1)

/-- `try: check_abort() except AbortRetryError: …` -/
theorem checkAbortCaught_spec (cfg : Cfg) (tl : Bool) (a : Nat) (u : View) :
    ⦃fun w => ⌜view cfg w = u⌝⦄ checkAbortCaught cfg tl a
    ⦃post⟨fun b w => ⌜(b = false → view cfg w = { u with mon := pollStep cfg u.mon }) ∧
            (b = true → (view cfg w).mon.hookFault = false → sameBut u (view cfg w))⌝,
          fun e w => ⌜e.isAbort = false ∧ Thrown w.trace e ∧
            ((view cfg w).mon.hookFault = false → sameBut u (view cfg w))⌝⟩⦄ := by
  mvcgen -leave -trivial [checkAbortCaught, abortToTrue]
  all_goals try refine SPred.pure_mono ?_
  · rename_i h2 _ _ h1
    exact fun _ => ⟨fun _ => by rw [h1, h2], nofun⟩
  · rename_i h2 _ _ _ h1
    rw [h2] at h1
    exact fun _ => ⟨nofun, fun _ => h1.2.2.1⟩
  · rename_i h2 _ _ hna h1
    rw [h2] at h1
    exact fun _ => ⟨Bool.eq_false_iff.mpr hna, h1.2.1 (Bool.eq_false_iff.mpr hna), h1.2.2.1⟩

/-- what follows `determine_action_from_outcome` in execute(), by the attempt's decision -/
def DelivOK (u : View) (o : AOutcome) (res : Option Outcome) (v : View) : Prop :=
  match res with
  | none => o.decision = .retry ∧ v = u
  | some out => o.decision ≠ .retry ∧
      (o.decision = .aborted →
        IsOutcome { u with lastStop := some .aborted } false none u.attempts none out ∧
          v = { u with lastStop := some .aborted }) ∧
      (o.decision ≠ .aborted →
        IsOutcome u false none u.attempts (if o.decision = .scheduled then o.sleep else none) out ∧ v = u)

theorem deliverExecute_spec (cfg : Cfg) (tl : Bool) (u : View) (o : AOutcome) (r : RState) (a : Nat)
    (fr : Bool) :
    ⦃fun w => ⌜view cfg w = u⌝⦄ deliverExecute cfg tl (determineAction o r a fr) o
    ⦃post⟨fun res w => ⌜DelivOK u o res (view cfg w)⌝,
          fun e w => ⌜Thrown w.trace e ∧ o.decision = .aborted ∧
            view cfg w = { u with lastStop := some .aborted } ∧ e.isException = false⌝⟩⦄ := by
  have hc := determineAction_continue_iff o r a fr
  have ha := determineAction_abort_iff o r a fr
  cases hact : determineAction o r a fr with
  | continue_ =>
    mvcgen [deliverExecute]
    rename_i hv
    exact ⟨hc.mp hact, hv⟩
  | abort =>
    have hd := ha.mp hact
    mvcgen [deliverExecute]
    all_goals subst_vars
    · rename_i h
      exact ⟨by rw [hd]; nofun, fun _ => h, fun hn => absurd hd hn⟩
    · exact fun ht hv hx => ⟨ht, hd, hv, hx⟩
  | raise | scheduled f =>
    have hr : o.decision ≠ .retry := fun h => by rw [hc.mpr h] at hact; cases hact
    have hd : o.decision ≠ .aborted := fun h => by rw [ha.mpr h] at hact; cases hact
    mvcgen [deliverExecute]
    subst_vars
    rename_i h
    exact ⟨hr, fun h' => absurd h' hd, fun _ => h⟩

def HdX (n : Nat) (v : View) : Prop := Hd n v ∧ Base v
def ExcX (n : Nat) (e : Exn) (v : View) : Prop := ExcP n e v ∧ Base v
def ValX (cfg : Cfg) (n x : Nat) (v : View) : Prop := ValP cfg n x v ∧ Base v
def RecX (n : Nat) (v : View) : Prop := RecP n v ∧ Base v

theorem RecX.abortReady {n : Nat} {v : View} (h : RecX n v) (hd : v.mon.deferred = false) : AbortReady v := by
  obtain ⟨⟨_, _, _, hs, _, _⟩, hsy, hsh, ⟨f1, f2, f3⟩, hat⟩ := h
  exact ⟨hsy, hsh, f1, f2, hat, hd, fun h => by simp [hs] at h⟩

theorem fail_outcomeOk {cfg : Cfg} {n : Nat} {v : View} {o' : AOutcome} {out : Outcome} (h : RecX n v)
    (hf : FailOK' o' v) (h1 : o'.decision ≠ .retry) (h2 : o'.decision ≠ .aborted)
    (ho : IsOutcome v false none v.attempts (if o'.decision = .scheduled then o'.sleep else none) out) :
    v.mon.fault = false ∧ outcomeOk cfg v.mon out = true := by
  obtain ⟨⟨hops, _, ⟨hat, _⟩, hs, _, _⟩, hsy, hsh, ⟨f1, _, f3⟩, hatt⟩ := h
  obtain ⟨hns, hsch, hnsch, hraise⟩ := hf
  obtain ⟨el, rfl⟩ := ho
  refine ⟨f1, outcomeOk_fail hatt (by rw [hs]; rfl) ?_⟩
  have hops' : v.mon.ops ≠ 0 := by omega
  cases hd : o'.decision with
  | success => exact absurd hd hns
  | retry => exact absurd hd h1
  | aborted => exact absurd hd h2
  | scheduled =>
    obtain ⟨d1, d2, _, d4⟩ := hsch hd
    exact failureOk_of hsy hsh (by rw [d4]; rfl) (by rw [d4, d1]; rfl) (by simp [d1, d2]) (Or.inl f3)
      (Or.inr hat) (Or.inr (Or.inl hops'))
  | raise =>
    obtain ⟨d1, d2, d3⟩ := hraise hd
    have d0 := hnsch (by rw [hd]; nofun)
    cases hos : o'.stop with
    | none => rw [hos] at d1; exact d1.elim
    | some st =>
      rw [hos] at d1 d3
      have hst : (st == StopReason.scheduled) = false := by cases st <;> first | rfl | exact d1.elim
      exact failureOk_of hsy hsh (by rw [d3]; rfl) (by rw [d3, d0]; simpa using hst) (by simp [d0, hd])
        (Or.inl f3) (Or.inr hat) (Or.inr (Or.inl hops'))

theorem RecX.next {n : Nat} {v : View} {o : AOutcome} (h : RecX n v) (hf : FailOK' o v)
    (hr : o.decision = .retry) : HdX (n + 1) v := ⟨h.1.next hf hr, h.2⟩

theorem HF.of_flag {u v : View} (h : HF u) (hf : v.mon.hookFault = u.mon.hookFault) : HF v :=
  hf.trans h

theorem HF.sameBut {u v : View} (h : HF u) (hs : sameBut u v) : HF v :=
  h.of_flag (congrArg St.hookFault hs.1)

/-- after an abort poll that raised: either the poll itself failed (a hook fault, the run is out of scope), or
    the view is as before but for the stop reason and what held of it still does -/
theorem after_raise {u v : View} {X G : Prop} (h : HF u ∨ X) (hs : v.mon.hookFault = false → sameBut u v)
    (k : X → v.mon.hookFault = false → sameBut u v → G) : HF v ∨ G := by
  cases hv : v.mon.hookFault with
  | true => exact Or.inl hv
  | false =>
    rcases h with h | h
    · exact absurd (h.sameBut (hs hv)) (by unfold HF; rw [hv]; nofun)
    · exact Or.inr (k h hv (hs hv))

/-- a procedure that always ends the run meets the postcondition of an attempt, whatever the loop invariant -/
theorem exit_out {cfg : Cfg} {v : View} {r : Option Outcome} {P : Prop} :
    (match r with | some o => OutOK cfg v o | none => False) →
    match r with | some o => OutOK cfg v o | none => P := by
  cases r with
  | none => exact False.elim
  | some o => exact id

theorem deliverExecute_rec (cfg : Cfg) (tl : Bool) (n a : Nat) (fr : Bool) (u : View) (o : AOutcome)
    (r : RState) (h : HF u ∨ (RecX n u ∧ FailOK' o u)) :
    ⦃fun w => ⌜view cfg w = u⌝⦄ deliverExecute cfg tl (determineAction o r a fr) o
    ⦃post⟨fun r w => ⌜match r with
                      | some o => OutOK cfg (view cfg w) o
                      | none => HF (view cfg w) ∨ HdX (n + 1) (view cfg w)⌝,
          fun e w => ⌜RaiseOK (view cfg w) w.trace e ∧ e.isException = false⌝⟩⦄ := by
  have hd := deliverExecute_spec cfg tl u o r a fr
  mvcgen [hd]
  · intro hres
    rcases h with h | ⟨hrec, hf⟩
    · -- hook fault: nothing to show
      unfold DelivOK at hres
      split at hres
      · exact Or.inl (by rw [hres.2]; exact h)
      · rename_i out
        by_cases hab : o.decision = .aborted
        · exact Or.inl (by rw [(hres.2.1 hab).2]; exact h)
        · exact Or.inl (by rw [(hres.2.2 hab).2]; exact h)
    · unfold DelivOK at hres
      split at hres
      · rw [hres.2]; exact Or.inr (hrec.next hf hres.1)
      · rename_i out
        by_cases hab : o.decision = .aborted
        · obtain ⟨ho, hv⟩ := hres.2.1 hab
          exact abort_OutOK (hrec.abortReady (hf.2.2.1 (by simp [hab]))) hv ho
        · obtain ⟨ho, hv⟩ := hres.2.2 hab
          rw [hv]
          exact Or.inr (fail_outcomeOk hrec hf hres.1 hab ho)
  · intro ht hab hv hx
    refine ⟨?_, hx⟩
    rcases h with h | ⟨hrec, hf⟩
    · exact Or.inl (by rw [hv]; exact h)
    · exact RaiseOK.thrown ht (by rw [hv]; exact hrec.2.oaf)

theorem RecX.hsame {n : Nat} {u v : View} (h : RecX n u) (hs : sameButH u v) : RecX n v := by
  refine ⟨h.1.hsame hs, ?_⟩
  obtain ⟨_, ⟨y1, y2, y3, y4⟩, ⟨sh1, sh2, sh3⟩, ⟨f1, f2, f3⟩, hat⟩ := h
  obtain ⟨hm, e1, e2, e3, e4, e5⟩ := hs
  unfold C04.hsame at hm
  simp_all [Base, Sync, Shape, Flags]

theorem HF.hsame {u v : View} (h : HF u) (hs : sameButH u v) : HF v := by
  unfold HF at *
  have := hs.1
  unfold C04.hsame at this
  simp_all

theorem Src.mayP {cfg : Cfg} {w : World} {e : Exn} (h : Src cfg w e) : MayP (view cfg w).mon w.trace e := by
  rcases h with h | h
  · exact MayP.thrown h
  · exact Or.inr (Or.inr h)

theorem rec_after_fail {n : Nat} {u v : View} {d : Decision} {o : AOutcome}
    (h : HF u ∨ (RecX n u ∧ u.mon.deferred = false ∧ (d = .raise → hard u.lastStop)))
    (hs : sameButH u v) (hf : FailOK u d o v) : HF v ∨ (RecX n v ∧ FailOK' o v) := by
  rcases h with h | ⟨h1, h2, h3⟩
  · exact Or.inl (h.hsame hs)
  · exact Or.inr ⟨h1.hsame hs, hf.strip h2 h3⟩

theorem raiseOK_of_herr {cfg : Cfg} {n : Nat} {u : View} {w : World} {e : Exn} {P : Prop}
    (h : HF u ∨ (RecX n u ∧ P)) (hs : Src cfg w e) (he : HErr u (view cfg w) e) :
    RaiseOK (view cfg w) w.trace e := by
  obtain ⟨h1, h2, _⟩ := he
  rcases h with h | ⟨hr, _⟩
  · exact Or.inl (h.of_flag h2)
  · right; exact ⟨by rw [h1]; exact hr.2.oaf, Src.mayP hs⟩

theorem execExceptionPath3_spec (cfg : Cfg) (tl : Bool) (a n : Nat) (e : Exn) (d : Decision) (u : View)
    (h : HF u ∨ (RecX n u ∧ u.mon.deferred = false ∧ (d = .raise → hard u.lastStop))) :
    ⦃fun w => ⌜view cfg w = u⌝⦄ execExceptionPath3 cfg tl a e d
    ⦃outPost cfg fun v => HF v ∨ HdX (n + 1) v⦄ := by
  have hde := deliverExecute_rec cfg tl n a false
  mvcgen -leave -trivial [execExceptionPath3, hde]
  all_goals try exact cfg
  all_goals try refine SPred.pure_mono ?_
  · exact id
  · exact fun h => h.1
  · rename_i h5 _ _ h4 _ _ h3 _ _ h2 _ _ h1 _
    intro s hs
    rw [hs.1, h1, h2]
    rw [h4.1, h5] at h3
    exact rec_after_fail h h3.1 h3.2
  · exact fun h => Or.inl h.2
  · rename_i h2 _ _ h1 _ _
    intro ⟨hs, he⟩
    rw [h1.1, h2] at he
    exact raiseOK_of_herr h hs he

theorem ExcX.rec' {cfg : Cfg} {n : Nat} {e : Exn} {u v : View} {c : Classification} (h : ExcX n e u)
    (hs : sameBut (recView { u with mon := clsStep cfg u.mon c } c .exception (some e) none) v) :
    RecX n v ∧ v.mon.deferred = false := by
  have hr := h.1.rec' hs
  refine ⟨⟨hr.1, ?_⟩, hr.2.2.2⟩
  obtain ⟨⟨h1, h2, h3, h4, h5, h6, h7, h8, h9⟩, ⟨_, _, ⟨f1, f2, f3⟩, hat⟩⟩ := h
  obtain ⟨s1, s2, s3, s4, s5, s6⟩ := hs
  have := hr.1.2.1
  simp_all [Base, Sync, Shape, Flags, recView, clsStep, step, record]

theorem clsStep_flags (cfg : Cfg) (m : St) (c : Classification) :
    (clsStep cfg m c).hookFault = m.hookFault ∧ (clsStep cfg m c).opAfterFault = m.opAfterFault := by
  unfold clsStep step
  simp only
  split <;> simp [record]

theorem raiseOK_flags {u v : View} {t : List (Req × Ans)} {e : Exn} (h : HF u ∨ u.mon.opAfterFault = false)
    (h1 : v.mon.opAfterFault = u.mon.opAfterFault) (h2 : v.mon.hookFault = u.mon.hookFault)
    (hm : MayP v.mon t e) : RaiseOK v t e := by
  rcases h with h | h
  · exact Or.inl (h.of_flag h2)
  · right; exact ⟨by rw [h1]; exact h, hm⟩

theorem ExcX.oaf {n : Nat} {e : Exn} {u : View} (h : HF u ∨ ExcX n e u) : HF u ∨ u.mon.opAfterFault = false := by
  rcases h with h | h
  · exact Or.inl h
  · exact Or.inr h.2.oaf

theorem handleException_x (cfg : Cfg) (tl : Bool) (n : Nat) (e : Exn) (a : Nat) (u : View)
    (h : HF u ∨ ExcX n e u) :
    ⦃fun w => ⌜view cfg w = u⌝⦄ handleException cfg tl e a
    ⦃post⟨fun d w => ⌜HF (view cfg w) ∨
            (RecX n (view cfg w) ∧ (view cfg w).mon.deferred = false ∧ (d = .raise → hard (view cfg w).lastStop))⌝,
          fun e' w => ⌜RaiseOK (view cfg w) w.trace e'⌝⟩⦄ := by
  mvcgen [handleException, handleFailure_spec, callClassifier_f]
  all_goals ((try subst_vars) <;> (try intros))
  · rename_i s2 c s1 h1 d s h3 h4
    rw [h1] at h3
    rcases h with h | h
    · exact Or.inl (h.of_flag (h3.1 ▸ (clsStep_flags cfg _ c).1))
    · have := h.rec' h3
      exact Or.inr ⟨this.1, this.2, h4⟩
  · rename_i s2 c s1 h1 e' s hs hc
    rw [h1] at hc
    obtain ⟨c1, c2, _⟩ := hc
    refine raiseOK_flags (ExcX.oaf h) ?_ ?_ (Src.mayP hs)
    · simpa [recView, (clsStep_flags cfg _ c).2] using c1
    · simpa [recView, (clsStep_flags cfg _ c).1] using c2
  · rename_i s1 e' s ht hf
    exact raiseOK_flags (ExcX.oaf h) hf.1 hf.2.1 (MayP.thrown ht)

theorem raiseOK_of_poll {u v : View} {t : List (Req × Ans)} {e : Exn} (h : HF u ∨ u.mon.opAfterFault = false)
    (ht : Thrown t e) (hs : v.mon.hookFault = false → sameBut u v) : RaiseOK v t e :=
  after_raise h hs fun h _ hsb => ⟨by rw [hsb.1]; exact h, MayP.thrown ht⟩

theorem AbortReady.sameBut {u v : View} (h : AbortReady u) (hs : sameBut u v) : AbortReady v := by
  obtain ⟨⟨y1, y2, y3, y4⟩, h2, h3, h4, h5, h6, h7⟩ := h
  obtain ⟨s1, s2, s3, s4, s5, s6⟩ := hs
  simp_all [AbortReady, Sync]

theorem abort_after_poll {u v : View} (h : HF u ∨ AbortReady u) (hs : v.mon.hookFault = false → sameBut u v) :
    HF v ∨ AbortReady v :=
  after_raise h hs fun h _ hsb => h.sameBut hsb

theorem pollStep_hookFault (cfg : Cfg) (m : St) : (pollStep cfg m).hookFault = m.hookFault := by
  unfold pollStep step
  simp only
  split
  · split
    · split <;> simp [record]
    · rfl
  · rfl

/-- the abort poll answered "go on" while no result failure awaited recording: nothing moved -/
theorem after_poll {cfg : Cfg} {u v : View} {P : Prop} (h : HF u ∨ P) (hp : P → u.mon.pending = false)
    (hv : v = { u with mon := pollStep cfg u.mon }) : HF v ∨ v = u := by
  rcases h with h | h
  · exact Or.inl (h.of_flag (hv ▸ pollStep_hookFault cfg u.mon))
  · right
    rw [hv, pollStep_idle cfg u.mon (hp h)]

theorem abortReady_of_rec {n : Nat} {u : View} {P : Prop} (h : HF u ∨ (RecX n u ∧ u.mon.deferred = false ∧ P)) :
    HF u ∨ AbortReady u := by
  rcases h with h | ⟨h1, h2, _⟩
  · exact Or.inl h
  · exact Or.inr (h1.abortReady h2)

theorem oaf_of_rec {n : Nat} {u : View} {P : Prop} (h : HF u ∨ (RecX n u ∧ P)) :
    HF u ∨ u.mon.opAfterFault = false := by
  rcases h with h | ⟨h1, _⟩
  · exact Or.inl h
  · exact Or.inr h1.2.oaf

theorem execExceptionPath2_spec (cfg : Cfg) (tl : Bool) (a n : Nat) (e : Exn) (u : View)
    (h : HF u ∨ ExcX n e u) :
    ⦃fun w => ⌜view cfg w = u⌝⦄ execExceptionPath2 cfg tl a e
    ⦃outPost cfg fun v => HF v ∨ HdX (n + 1) v⦄ := by
  have hex := handleException_x cfg tl n e a
  have h3 := execExceptionPath3_spec cfg tl a n e
  have hcc := checkAbortCaught_spec cfg tl a
  have hae := execAbortExit_spec cfg tl a e
  mvcgen -leave -trivial [execExceptionPath2, hex, h3, hcc, hae]
  all_goals try exact cfg
  all_goals try refine SPred.pure_mono ?_
  · rename_i h1
    rw [h1]
    exact h
  · rename_i hx _ _ h1 _ _
    intro s hs
    rw [hs, h1.1]
    exact hx
  · exact exit_out
  · rename_i hx _ _ h2 _ _ _ h1 _ hb
    intro s hs
    have hs' := hs.2 hb
    rw [h1, h2.1] at hs'
    exact abort_after_poll (abortReady_of_rec hx) hs'
  · rename_i hx _ _ h2 _ _ _ h1 _ hb
    intro s hs
    have := hs.1 (Bool.eq_false_iff.mpr hb)
    rw [h1, h2.1] at this
    rcases after_poll hx (fun h => h.1.1.pending) this with hh | hh
    · exact Or.inl hh
    · rw [hh]; exact hx
  · rename_i hx _ _ h2 _ _ _ h1 _ _
    intro ⟨_, ht, hs⟩
    rw [h1, h2.1] at hs
    exact raiseOK_of_poll (oaf_of_rec hx) ht hs

theorem ExcX.abortReady' {n : Nat} {e : Exn} {u : View} (h : ExcX n e u) : AbortReady u := by
  obtain ⟨⟨_, _, _, _, _, hs, _, hd, _⟩, hsy, hsh, ⟨f1, f2, _⟩, hat⟩ := h
  exact ⟨hsy, hsh, f1, f2, hat, hd, fun h => by simp [hs] at h⟩

theorem ExcX.abortReady {n : Nat} {e : Exn} {u : View} (h : HF u ∨ ExcX n e u) : HF u ∨ AbortReady u := by
  rcases h with h | h
  · exact Or.inl h
  · exact Or.inr h.abortReady'

/-- the `except Exception` arm of execute() when the operation itself raised `e` -/
theorem execExceptionPath_spec (cfg : Cfg) (tl : Bool) (a n : Nat) (e : Exn) (u : View)
    (h : HF u ∨ ExcX n e u) :
    ⦃fun w => ⌜view cfg w = u⌝⦄ execExceptionPath cfg tl a e
    ⦃outPost cfg fun v => HF v ∨ HdX (n + 1) v⦄ := by
  have h2 := execExceptionPath2_spec cfg tl a n e
  have hcc := checkAbortCaught_spec cfg tl a
  have hae := execAbortExit_spec cfg tl a e
  mvcgen -leave -trivial [execExceptionPath, h2, hcc, hae]
  all_goals try exact cfg
  all_goals try refine SPred.pure_mono ?_
  · exact exit_out
  · rename_i h2 _ _ h1 _ hb
    intro s hs
    have hs' := hs.2 hb
    rw [h1, h2] at hs'
    exact abort_after_poll (ExcX.abortReady h) hs'
  · rename_i h2 _ _ h1 _ hb
    intro s hs
    have := hs.1 (Bool.eq_false_iff.mpr hb)
    rw [h1, h2] at this
    rcases after_poll h (fun h => h.1.pending) this with hh | hh
    · exact Or.inl hh
    · rw [hh]; exact h
  · rename_i h2 _ _ h1 _ _
    intro ⟨_, ht, hs⟩
    rw [h1, h2] at hs
    exact raiseOK_of_poll (ExcX.oaf h) ht hs

/-- an exception out of `check_abort` / `on_attempt_start` / the operation -/
def PreErr (n : Nat) (e : Exn) (v : View) (t : List (Req × Ans)) : Prop :=
  HF v ∨ (v.mon.opAfterFault = false ∧ (e.isAbort = true → AbortReady v) ∧
    (e.isAbort = false → e.isException = true → e.isExhausted = false → ExcX n e v) ∧
    (e.isException = false ∨ e.isExhausted = true → MayP v.mon t e))

theorem HdX.abortReady {n : Nat} {u : View} (h : HdX n u) : AbortReady u := by
  obtain ⟨⟨_, _, _, _, hs, _, hd, _⟩, hsy, hsh, ⟨f1, f2, _⟩, hat⟩ := h
  exact ⟨hsy, hsh, f1, f2, hat, hd, fun h => by simp [hs] at h⟩

theorem HdX.opExc {cfg : Cfg} {n : Nat} {u : View} (h : HdX n u) (e : Exn) :
    ExcX n e { u with mon := opStep cfg u.mon (.raise e 0), attempts := n + 1 } := by
  obtain ⟨h1, hsy, hsh, ⟨f1, f2, f3⟩, hat⟩ := h
  refine ⟨?_, ?_⟩
  · have := h1.opExc (cfg := cfg) e 0
    simpa [ExcP, Sync] using this
  · obtain ⟨h11, _⟩ := h1
    simp_all [Base, Sync, Shape, Flags, opStep, step]

theorem HdX.opVal {cfg : Cfg} {n : Nat} {u : View} (h : HdX n u) (x : Nat) :
    ValX cfg n x { u with mon := opStep cfg u.mon (.value x 0), attempts := n + 1 } := by
  obtain ⟨h1, hsy, hsh, ⟨f1, f2, f3⟩, hat⟩ := h
  refine ⟨?_, ?_⟩
  · have := h1.opVal (cfg := cfg) x 0
    simpa [ValP, Sync] using this
  · obtain ⟨h11, _⟩ := h1
    simp_all [Base, Sync, Shape, Flags, opStep, step]

theorem view_setAttempts (cfg : Cfg) (w : World) (a : Nat) :
    view cfg { w with attempts := a } = { view cfg w with attempts := a } := rfl

theorem opStep_flags (cfg : Cfg) (m : St) (a : Ans) :
    (opStep cfg m a).hookFault = m.hookFault := by
  simp [opStep, step]

theorem pre_ok {cfg : Cfg} {n x : Nat} {u v1 v2 v : View} (h : HF u ∨ HdX n u)
    (h1 : v1 = { u with mon := pollStep cfg u.mon }) (h2 : v2 = { v1 with attempts := n + 1 })
    (hv : v = { v2 with mon := opStep cfg v2.mon (.value x 0) }) : HF v ∨ ValX cfg n x v := by
  rcases after_poll h (fun h => h.1.pending) h1 with hh | hh
  · exact Or.inl (hh.of_flag (by rw [hv, h2]; exact opStep_flags cfg _ _))
  · rw [hh] at h2
    rcases h with h | h
    · exact Or.inl (h.of_flag (by rw [hv, h2]; exact opStep_flags cfg _ _))
    · right; subst hv h2; exact h.opVal x

theorem pre_err_op {cfg : Cfg} {n : Nat} {e : Exn} {u v1 v2 v : View} {t : List (Req × Ans)} (h : HF u ∨ HdX n u)
    (h1 : v1 = { u with mon := pollStep cfg u.mon }) (h2 : v2 = { v1 with attempts := n + 1 })
    (hv : e ≠ .stuck → v = { v2 with mon := opStep cfg v2.mon (.raise e 0) })
    (ho : v.mon.opAfterFault = (v2.mon.opAfterFault || v2.mon.fault))
    (hh : v.mon.hookFault = v2.mon.hookFault) : PreErr n e v t := by
  rcases after_poll h (fun h => h.1.pending) h1 with hp | hp
  · exact Or.inl (hp.of_flag (by rw [hh, h2]))
  · rw [hp] at h2
    rcases h with h | h
    · exact Or.inl (h.of_flag (by rw [hh, h2]))
    · right
      have hfl := h.2.2.2.1
      have hoaf : v.mon.opAfterFault = false := by
        rw [ho, h2]; simp [hfl.1, hfl.2.1]
      by_cases hs : e = .stuck
      · subst hs
        exact ⟨hoaf, by simp [Exn.isAbort], by simp [Exn.isException], fun _ => MayP.thrown (Thrown.stuck t)⟩
      · have hx : ExcX n e v := by rw [hv hs, h2]; exact h.opExc e
        refine ⟨hoaf, fun _ => hx.abortReady', fun _ _ _ => hx, fun hm => ?_⟩
        left
        exact ⟨by simp [opRaised, hx.1.2.2.1], hm⟩

theorem setAttempts_spec (cfg : Cfg) (v : View) (a : Nat) :
    ⦃fun w => ⌜view cfg w = v⌝⦄ (modify fun w => { w with attempts := a } : M Unit)
    ⦃post⟨fun _ w => ⌜view cfg w = { v with attempts := a }⌝, fun _ _ => ⌜False⌝⟩⦄ := by
  mvcgen
  all_goals (subst_vars; simp_all +zetaDelta [view])

theorem execPre_spec (cfg : Cfg) (tl : Bool) (a n : Nat) (u : View) (h : HF u ∨ HdX n u) (ha : a = n + 1) :
    ⦃fun w => ⌜view cfg w = u⌝⦄ execPre cfg tl a
    ⦃post⟨fun x w => ⌜HF (view cfg w) ∨ ValX cfg n x (view cfg w)⌝,
          fun e w => ⌜PreErr n e (view cfg w) w.trace⌝⟩⦄ := by
  have hsa := setAttempts_spec cfg
  subst ha
  mvcgen -leave -trivial [execPre, hsa]
  all_goals try exact cfg
  all_goals try refine SPred.pure_mono ?_
  · rename_i h5 _ _ h4 _ _ h3 _ _ h2 t _ _ h1 _ _ h0
    intro _
    refine pre_ok (v2 := view cfg t.snd) h (h5 ▸ h4) ?_ (h0.trans h1)
    rw [← h3, ← h2]; rfl
  · rename_i h5 _ _ h4 _ _ h3 _ _ h2 t _ _
    intro ⟨a2, a1, a0⟩
    refine pre_err_op (v2 := view cfg t.snd) h (h5 ▸ h4) ?_ a2 a1 a0
    rw [← h3, ← h2]; rfl
  · exact fun h => Or.inl h.2
  · rename_i h1 e' s
    intro ⟨a3, _, a1, a0, _⟩
    rw [h1] at a1
    refine after_raise h a1 fun h hv hsb => ?_
    have hab : AbortReady (view cfg s) := h.abortReady.sameBut hsb
    refine ⟨by rw [hsb.1]; exact h.2.oaf, fun _ => hab, fun hna hex _ => ?_, fun hm => ?_⟩
    · have hne : e' ≠ .libAbort := fun hc => by subst hc; simp [Exn.isAbort] at hna
      have := a0 hex hne
      rw [hv] at this; cases this
    · by_cases hne : e' = .libAbort
      · subst hne; simp [Exn.isException, Exn.isExhausted] at hm
      · exact MayP.thrown (a3 hne)

theorem PreErr.abort {n : Nat} {e : Exn} {v : View} {t : List (Req × Ans)} (h : PreErr n e v t)
    (ha : e.isAbort = true) : HF v ∨ AbortReady v := by
  rcases h with h | h
  · exact Or.inl h
  · exact Or.inr (h.2.1 ha)

theorem PreErr.exc {n : Nat} {e : Exn} {v : View} {t : List (Req × Ans)} (h : PreErr n e v t)
    (ha : ¬ e.isAbort = true) (hx : e.isException = true) (he : ¬ e.isExhausted = true) : HF v ∨ ExcX n e v := by
  rcases h with h | h
  · exact Or.inl h
  · exact Or.inr (h.2.2.1 (by simpa using ha) hx (by simpa using he))

theorem PreErr.raise {n : Nat} {e : Exn} {v : View} {t : List (Req × Ans)} (h : PreErr n e v t)
    (hm : e.isException = false ∨ e.isExhausted = true) : RaiseOK v t e := by
  rcases h with h | h
  · exact Or.inl h
  · exact Or.inr ⟨h.1, h.2.2.2 hm⟩

/-- the `except` ladder of execute() for an exception raised before the operation returned -/
theorem execHandler_spec (cfg : Cfg) (tl : Bool) (a n : Nat) (e : Exn) :
    ⦃fun w => ⌜PreErr n e (view cfg w) w.trace⌝⦄ execHandler cfg tl a e
    ⦃outPost cfg fun v => HF v ∨ HdX (n + 1) v⦄ := by
  have hx := execExceptionPath_spec cfg tl a n e
  have hae := execAbortExit_spec cfg tl a e
  mvcgen -leave -trivial [execHandler, hx, hae]
  all_goals try exact cfg
  all_goals try refine SPred.pure_mono ?_
  · exact exit_out
  · rename_i ha
    exact fun s h => h.abort ha
  · rename_i he _ h
    subst he
    exact fun _ => h.raise (Or.inl rfl)
  · rename_i hk _ h
    exact fun _ => h.raise (Or.inl (Exn.kiSe_flags hk))
  · rename_i hx _ h
    exact fun _ => h.raise (Or.inr hx)
  · rename_i ha _ _ he hx
    exact fun s h => h.exc ha hx he
  · rename_i hx _ h
    exact fun _ => h.raise (Or.inl (Bool.eq_false_iff.mpr hx))

theorem XErr.of {v : View} {t : List (Req × Ans)} {e : Exn} (ho : v.mon.opAfterFault = false)
    (hm : e.isAbort = false → MayP v.mon t e) (ha : e.isAbort = true → AbortReady v) : XErr v t e :=
  Or.inr ⟨ho, hm, ha⟩

theorem ValX.rec' {cfg : Cfg} {n x : Nat} {u v : View} {c : Classification} (h : ValX cfg n x u)
    (hrc : cfg.resultClassifier = true)
    (hs : sameBut (recView { u with mon := pollStep cfg (resStep cfg u.mon (some c)) } c .result none (some x)) v) :
    RecX n v ∧ v.mon.deferred = false := by
  have hr := h.1.rec' hrc hs
  refine ⟨⟨hr.1, ?_⟩, hr.2.2⟩
  obtain ⟨⟨h1, h2, h3, h4, h5, h6, h7, h8, h9⟩, ⟨_, _, ⟨f1, f2, f3⟩, hat⟩⟩ := h
  obtain ⟨s1, s2, s3, s4, s5, s6⟩ := hs
  have := hr.1.2.1
  cases hab : cfg.abortIf <;>
    simp_all [Base, Sync, Shape, Flags, recView, pollStep, resStep, step, record]

theorem resStep_flags (cfg : Cfg) (m : St) (c : Classification) :
    (pollStep cfg (resStep cfg m (some c))).hookFault = m.hookFault ∧
    (pollStep cfg (resStep cfg m (some c))).opAfterFault = m.opAfterFault := by
  cases hab : cfg.abortIf <;> simp [pollStep, resStep, step, record, hab]

theorem ValX.oaf {cfg : Cfg} {n x : Nat} {u : View} (h : HF u ∨ ValX cfg n x u) :
    HF u ∨ u.mon.opAfterFault = false := by
  rcases h with h | h
  · exact Or.inl h
  · exact Or.inr h.2.oaf

theorem handleFailure_resx (cfg : Cfg) (tl : Bool) (n x : Nat) (c : Classification) (a : Nat) (u : View)
    (h : HF u ∨ ValX cfg n x u) (hrc : cfg.resultClassifier = true) :
    ⦃fun w => ⌜view cfg w = { u with mon := pollStep cfg (resStep cfg u.mon (some c)) }⌝⦄
    handleFailure cfg tl c a .result none (some x)
    ⦃post⟨fun d w => ⌜HF (view cfg w) ∨
            (RecX n (view cfg w) ∧ (view cfg w).mon.deferred = false ∧ (d = .raise → hard (view cfg w).lastStop))⌝,
          fun e w => ⌜XErr (view cfg w) w.trace e⌝⟩⦄ := by
  have hf := handleFailure_spec cfg tl { u with mon := pollStep cfg (resStep cfg u.mon (some c)) } c a
    .result none (some x)
  mvcgen [hf]
  all_goals ((try subst_vars) <;> (try intros))
  · rename_i h3 h4
    rcases h with h | h
    · exact Or.inl (h.of_flag (h3.1 ▸ (resStep_flags cfg _ c).1))
    · have := h.rec' hrc h3
      exact Or.inr ⟨this.1, this.2, h4⟩
  · rename_i hs hc
    obtain ⟨c1, c2, c3⟩ := hc
    rcases h with h | h
    · exact Or.inl (h.of_flag (c2.trans (resStep_flags cfg _ c).1))
    · refine XErr.of ?_ (fun _ => Src.mayP hs) (fun ha => ?_)
      · rw [c1]
        simpa [recView, (resStep_flags cfg _ c).2] using h.2.oaf
      · have := h.rec' hrc (c3 ha)
        exact this.1.abortReady this.2

theorem xerr_of_raise {v : View} {t : List (Req × Ans)} {e : Exn} (h : RaiseOK v t e)
    (hx : e.isException = false) : XErr v t e := by
  have hna := (Exn.base_flags hx).1
  rcases h with h | h
  · exact Or.inl h
  · exact Or.inr ⟨h.1, fun _ => h.2, fun ha => by rw [hna] at ha; cases ha⟩

theorem xerr_of_herr {cfg : Cfg} {n : Nat} {u : View} {w : World} {e : Exn} {P : Prop}
    (h : HF u ∨ (RecX n u ∧ u.mon.deferred = false ∧ P)) (hs : Src cfg w e)
    (he : HErr u (view cfg w) e) : XErr (view cfg w) w.trace e := by
  obtain ⟨h1, h2, h3⟩ := he
  rcases h with h | ⟨hr, hd, _⟩
  · exact Or.inl (h.of_flag h2)
  · refine XErr.of (by rw [h1]; exact hr.2.oaf) (fun _ => Src.mayP hs) (fun ha => ?_)
    obtain ⟨hsb, hdd⟩ := h3 ha
    exact (hr.hsame hsb).abortReady (hdd hd)

theorem xerr_of_poll {u v : View} {t : List (Req × Ans)} {e : Exn} (h : HF u ∨ AbortReady u)
    (ht : e.isAbort = false → Thrown t e) (hs : v.mon.hookFault = false → sameBut u v) : XErr v t e :=
  after_raise h hs fun h _ hsb =>
    ⟨(h.sameBut hsb).2.2.2.1, fun hna => MayP.thrown (ht hna), fun _ => h.sameBut hsb⟩

theorem xerr_of_ferr {u v : View} {t : List (Req × Ans)} {e : Exn} (h : HF u ∨ AbortReady u)
    (ht : Thrown t e) (hf : FErr u v e) : XErr v t e := by
  obtain ⟨h1, h2, h3⟩ := hf
  rcases h with h | h
  · exact Or.inl (h.of_flag h2)
  · exact XErr.of (by rw [h1]; exact h.2.2.2.1) (fun _ => MayP.thrown ht) (fun ha => by rw [h3 ha]; exact h)

theorem ValX.abortReady {cfg : Cfg} {n x : Nat} {u : View} (h : HF u ∨ ValX cfg n x u)
    (hrc : cfg.resultClassifier = true) : HF u ∨ AbortReady u := by
  rcases h with h | ⟨⟨_, _, _, _, _, hs, _, hd, _⟩, hsy, hsh, ⟨f1, f2, _⟩, hat⟩
  · exact Or.inl h
  · exact Or.inr ⟨hsy, hsh, f1, f2, hat, hd, fun h => by simp [hs, hrc] at h⟩

/-- the state between the result classifier's answer and the abort poll -/
theorem pend_abortReady {cfg : Cfg} {n x : Nat} {u : View} (c : Classification) (h : HF u ∨ ValX cfg n x u)
    (hrc : cfg.resultClassifier = true) (hab : cfg.abortIf = true) :
    HF { u with mon := resStep cfg u.mon (some c) } ∨ AbortReady { u with mon := resStep cfg u.mon (some c) } := by
  rcases h with h | ⟨⟨h1, _, h3, h4, h5, hs, h7, hd, h9⟩, ⟨y1, y2, y3, y4⟩, ⟨sh1, sh2, sh3⟩, ⟨f1, f2, f3⟩, hat⟩
  · left; unfold HF at *; simpa [resStep, step, hab] using h
  · right
    simp_all [AbortReady, Sync, Shape, resStep, step]

theorem resStep_none_hookFault (cfg : Cfg) (m : St) : (resStep cfg m none).hookFault = m.hookFault := by
  show (if cfg.resultClassifier then { m with succeeded := true } else m).hookFault = _
  split <;> rfl

theorem succ_view {cfg : Cfg} {n x : Nat} {u v : View} (h : ValX cfg n x u)
    (hv : v = { u with mon := resStep cfg u.mon none }) :
    v.mon.succeeded = true ∧ v.mon.earlierSuccess = false ∧ v.mon.opVal = some x ∧ Base v ∧ v.mon.deferred = false ∧
      v.mon.ops = n + 1 := by
  obtain ⟨⟨h1, _, h3, h4, h5, hs, h7, hd, h9⟩, ⟨y1, y2, y3, y4⟩, ⟨sh1, sh2, sh3⟩, ⟨f1, f2, f3⟩, hat⟩ := h
  subst hv
  cases hrc : cfg.resultClassifier <;> simp_all [Base, Sync, Shape, Flags, resStep]

theorem succ_OutOK {cfg : Cfg} {n x : Nat} {u v : View} {o : Outcome} (h : HF u ∨ ValX cfg n x u)
    (hv : v = { u with mon := resStep cfg u.mon none })
    (ho : IsOutcome v true (some x) (n + 1) none o) : OutOK cfg v o := by
  rcases h with h | h
  · exact Or.inl (h.of_flag (hv ▸ resStep_none_hookFault cfg u.mon))
  · right
    obtain ⟨a1, a2, a3, ⟨_, _, ⟨f1, f2, f3⟩, _⟩, a5, a6⟩ := succ_view h hv
    obtain ⟨el, rfl⟩ := ho
    refine ⟨f1, ?_⟩
    simp [outcomeOk, outcomeOf, C11.successOk, a1, a2, a3, a6, f3]

theorem succ_emit_err {cfg : Cfg} {n x : Nat} {u v : View} {t : List (Req × Ans)} {e : Exn}
    (h : HF u ∨ ValX cfg n x u) (hv : v = { u with mon := resStep cfg u.mon none })
    (ht : Thrown t e) (hx : e.isException = false) : XErr v t e := by
  rcases h with h | h
  · exact Or.inl (h.of_flag (hv ▸ resStep_none_hookFault cfg u.mon))
  · obtain ⟨a1, a2, a3, ⟨_, _, ⟨f1, f2, f3⟩, _⟩, a5, a6⟩ := succ_view h hv
    exact xerr_of_raise (RaiseOK.thrown ht f2) hx

theorem succ_srs_err {cfg : Cfg} {n x : Nat} {u v1 v : View} {t : List (Req × Ans)} {e : Exn}
    (h : HF u ∨ ValX cfg n x u) (hv : v1 = { u with mon := resStep cfg u.mon none }) (ht : Thrown t e)
    (hs : SErr v1 v e) : XErr v t e := by
  obtain ⟨h1, h2, h3⟩ := hs
  rcases h with h | h
  · exact Or.inl (h.of_flag (h2.trans (hv ▸ resStep_none_hookFault cfg u.mon)))
  · obtain ⟨a1, a2, a3, ⟨hsy, hsh, ⟨f1, f2, f3⟩, hat⟩, a5, a6⟩ := succ_view h hv
    refine XErr.of (by rw [h1]; exact f2) (fun _ => MayP.thrown ht) (fun ha => ?_)
    rw [h3 ha]
    exact ⟨hsy, hsh, f1, f2, hat, a5, fun _ _ => rfl⟩

theorem execResultPath_spec (cfg : Cfg) (tl : Bool) (a n x : Nat) (u : View) (h : HF u ∨ ValX cfg n x u)
    (ha : a = n + 1) :
    ⦃fun w => ⌜view cfg w = u⌝⦄ execResultPath cfg tl a x
    ⦃post⟨fun r w => ⌜match r with
                      | some o => OutOK cfg (view cfg w) o
                      | none => HF (view cfg w) ∨ HdX (n + 1) (view cfg w)⌝,
          fun e w => ⌜XErr (view cfg w) w.trace e⌝⟩⦄ := by
  have hsc := shouldClassifyResult_f cfg
  have hf := fun c => handleFailure_resx cfg tl n x c a u h
  have hde := deliverExecute_rec cfg tl n a true
  subst ha
  mvcgen -leave -trivial [execResultPath, execResultFailure, handleSuccessAttemptEnd, hsc, hf, hde]
  all_goals try exact cfg
  all_goals try refine SPred.pure_mono ?_
  -- `on_attempt_end` raised (a hook fault); delivery returned; delivery raised — after success / "raise" / "retry"
  case vc3 | vc14 | vc21 => exact fun h => Or.inl h.2
  case vc11 | vc18 => exact id
  case vc12 | vc19 => exact fun h => xerr_of_raise h.1 h.2
  -- success: the outcome
  · rename_i h5 _ _ _ h4 _ _ h3 _ _ h2 _ _ h1 _ _ h0
    intro _
    obtain ⟨ho, hv⟩ := h0
    rw [h1, h2, h3] at ho hv
    show OutOK cfg (view cfg _) _
    rw [hv]
    exact succ_OutOK h (by rw [h4.1, h5]) ho
  -- success: `emit` raised
  · rename_i h3 _ _ _ h2 _ _ h1 _ _
    intro ⟨ht, hv, hx⟩
    rw [hv, h1]
    exact succ_emit_err h (by rw [h2.1, h3]) ht hx
  -- success: `strategy.record_success()` raised
  · rename_i h2 _ _ _ h1 _ _
    intro ⟨ht, hs⟩
    exact succ_srs_err h (by rw [h1.1, h2]) ht hs
  -- there is a result classifier; the state `handleFailure` starts from
  · rename_i h2 _ _ _ _ _ _
    exact h2.2 rfl
  · rename_i h4 _ _ _ _ h3 _ _ h2 _ _ h1
    intro _
    rw [h1, h2, h3.1, h4]
  -- decision "raise"
  · rename_i hx _ _ h3 _ _ h2 _ _ h1 _
    intro s hs
    rw [hs.1, h1, h2]
    exact rec_after_fail hx h3.1 h3.2
  · rename_i hx _ _
    exact fun h => xerr_of_herr hx h.1 h.2
  -- decision "retry"
  · rename_i hx _ _ hp _ _ h3 _ _ h2 _ _ h1 _
    intro s hs
    rw [hs.1, h1, h2]
    rcases after_poll hx (fun h => h.1.1.pending) hp with hh | hh
    · exact Or.inl (hh.hsame h3.1)
    · rw [hh] at h3
      exact rec_after_fail hx h3.1 h3.2
  · rename_i hx _ _ hp _ _
    intro ⟨hs, he⟩
    rcases after_poll hx (fun h => h.1.1.pending) hp with hh | hh
    · exact Or.inl (hh.of_flag he.2.1)
    · rw [hh] at he
      exact xerr_of_herr hx hs he
  -- the abort polls raised
  · rename_i hx _ _
    exact fun h => xerr_of_poll (abortReady_of_rec hx) h.2.1 h.2.2.1
  · rename_i h2 _ _ _ _ h1 _ _
    intro ⟨_, a3, a2, _, a0⟩
    rw [h1.1, h2] at a2
    exact xerr_of_poll (pend_abortReady _ h (h1.2 rfl) a0) a3 a2
  -- the result classifier raised
  · rename_i h1 _ _
    intro ⟨ht, hf, hrc⟩
    rw [h1] at hf
    exact xerr_of_ferr (ValX.abortReady h hrc) ht hf

/-- the `except` ladder once the operation has returned: only an abort is caught -/
theorem execReturnedHandler_spec (cfg : Cfg) (tl : Bool) (a : Nat) (e : Exn) :
    ⦃fun w => ⌜XErr (view cfg w) w.trace e⌝⦄ execReturnedHandler cfg tl a e
    ⦃outPost cfg fun _ => False⦄ := by
  have hae := execAbortExit_spec cfg tl a e
  mvcgen -leave -trivial [execReturnedHandler, hae]
  all_goals try refine SPred.pure_mono ?_
  · rename_i ha
    exact fun s h => h.elim Or.inl fun h => Or.inr (h.2.2 ha)
  · rename_i ha _ h
    exact fun _ => h.elim Or.inl fun h => Or.inr ⟨h.1, h.2.1 (Bool.eq_false_iff.mpr ha)⟩

theorem execAttempt_spec (cfg : Cfg) (tl : Bool) (a n : Nat) (u : View) (h : HF u ∨ HdX n u) (ha : a = n + 1) :
    ⦃fun w => ⌜view cfg w = u⌝⦄ execAttempt cfg tl a
    ⦃outPost cfg fun v => HF v ∨ HdX (n + 1) v⦄ := by
  have hpre := execPre_spec cfg tl a n u h ha
  have hh := fun e => execHandler_spec cfg tl a n e
  have hrp := fun x v hv => execResultPath_spec cfg tl a n x v hv ha
  have hrh := fun e => execReturnedHandler_spec cfg tl a e
  mvcgen -leave -trivial [execAttempt, hpre, hh, hrp, hrh]
  all_goals try refine SPred.pure_mono ?_
  · rename_i h _
    exact fun _ => h
  · rename_i h
    exact h
  · exact id
  · rename_i h
    exact fun _ => h
  · exact exit_out
  · rename_i h
    exact fun _ => h

theorem HdX.exhausted {cfg : Cfg} {n : Nat} {v : View} {o : Outcome} (h : HdX n v) (hn : n = cfg.maxAttempts)
    (ho : IsOutcome { v with lastStop := some .maxAttemptsGlobal } false none v.attempts none o) :
    v.mon.fault = false ∧ outcomeOk cfg v.mon o = true := by
  obtain ⟨⟨hops, _, hfresh, hrec, hs, _, hd, _⟩, hsy, hsh, ⟨f1, _, f3⟩, hat⟩ := h
  obtain ⟨el, rfl⟩ := ho
  refine ⟨f1, outcomeOk_fail (v := { v with lastStop := some .maxAttemptsGlobal }) hat (by rw [hs]; rfl)
    (failureOk_of hsy hsh rfl (by rw [hd]; rfl) (by rw [hd]; rfl) (Or.inl f3) (Or.inr ?_) (Or.inr ?_))⟩
  · rcases Nat.eq_zero_or_pos n with h0 | hpos
    · exact (hfresh h0).2.2.2.2.trans (hops.trans h0).symm
    · exact (hrec hpos).1
  · rcases Nat.eq_zero_or_pos n with h0 | hpos
    · exact Or.inr ⟨hn.symm.trans h0, rfl⟩
    · exact Or.inl fun h => Nat.ne_of_gt hpos (hops.symm.trans h)

/-- `build_exhausted_outcome` -/
theorem buildExhaustedOutcome_spec (cfg : Cfg) (tl : Bool) (n : Nat) (u : View) (h : HF u ∨ HdX n u)
    (hn : n = cfg.maxAttempts) :
    ⦃fun w => ⌜view cfg w = u⌝⦄ buildExhaustedOutcome cfg tl
    ⦃post⟨fun o w => ⌜OutOK cfg (view cfg w) o⌝, fun e w => ⌜RaiseOK (view cfg w) w.trace e⌝⟩⦄ := by
  mvcgen -leave -trivial [buildExhaustedOutcome, emitMaxAttemptsExceeded]
  case vc4 => exact fun _ _ => cfg  -- the configuration `getRS_v` speaks of (not fixed by the program)
  all_goals try exact cfg
  all_goals try refine SPred.pure_mono ?_
  · rename_i h4 _ _ h3 _ _ h2 _ s1 h1 _ _
    intro ⟨ho, hv⟩
    have e1 : view cfg s1 = { u with lastStop := some .maxAttemptsGlobal } := by rw [h1, h2, h3.1, h4]
    have ha : s1.attempts = u.attempts := congrArg View.attempts e1
    rw [hv, e1]
    rw [e1, ha] at ho
    exact h.elim Or.inl fun h => Or.inr (h.exhausted hn ho)
  · intro ⟨ht, hv, _⟩
    simp only [*]
    exact h.elim Or.inl fun h => RaiseOK.thrown ht h.2.oaf

theorem execLoop_spec (cfg : Cfg) (tl : Bool) : ∀ (fuel a n : Nat) (u : View), HF u ∨ HdX n u → a = n + 1 →
    n + fuel = cfg.maxAttempts →
    ⦃fun w => ⌜view cfg w = u⌝⦄ execLoop cfg tl fuel a
    ⦃post⟨fun o w => ⌜OutOK cfg (view cfg w) o⌝, fun e w => ⌜RaiseOK (view cfg w) w.trace e⌝⟩⦄ := by
  intro fuel
  induction fuel with
  | zero =>
    intro a n u h ha hn
    have hx := buildExhaustedOutcome_spec cfg tl n u h (by omega)
    mvcgen [execLoop, hx]
  | succ f ih =>
    intro a n u h ha hn
    have hat := execAttempt_spec cfg tl a n u h ha
    mvcgen [execLoop, hat]
    all_goals ((try subst_vars) <;> (try intros))
    all_goals (try (simp_all +zetaDelta; done))
    rename_i s hs
    exact ih (n + 1 + 1) (n + 1) (view cfg s) (by simpa using hs) rfl (by omega) s rfl

theorem HdX.init : HdX 0 view0 := by
  refine ⟨Hd.init, ?_⟩
  simp [Base, view0, Sync, Shape, Flags]

/-- how execute() may end with an exception, in the form the monitor states it -/
def RaiseOK' (v : View) (t : List (Req × Ans)) (e : Exn) : Prop :=
  HF v ∨ ((v.mon.fault = false ∨ v.mon.opAfterFault = false) ∧ MayP v.mon t e)

theorem RaiseOK.weaken {v : View} {t : List (Req × Ans)} {e : Exn} (h : RaiseOK v t e) : RaiseOK' v t e := by
  rcases h with h | h
  · exact Or.inl h
  · exact Or.inr ⟨Or.inr h.1, h.2⟩

def FinX (cfg : Cfg) : Except Exn Outcome → World → Prop
  | .ok o, w => Rej w.trace ∨ OutOK cfg (view cfg w) o
  | .error e, w => Rej w.trace ∨ RaiseOK' (view cfg w) w.trace e

/-- an exception out of `Retry.execute`, while `Policy.execute`'s ladder handles it -/
def ErrS (cfg : Cfg) (e : Exn) (w : World) : Prop := Rej w.trace ∨ RaiseOK (view cfg w) w.trace e

/-- `Retry.execute` (and its async twin) -/
theorem runExecute_spec (cfg : Cfg) :
    ⦃fun w => ⌜cur cfg w.trace = {}⌝⦄ runExecute cfg
    ⦃post⟨fun o w => ⌜FinX cfg (.ok o) w⌝, fun e w => ⌜ErrS cfg e w⌝⟩⦄ := by
  have hloop := execLoop_spec cfg cfg.timeline cfg.maxAttempts 1 0 view0 (Or.inr HdX.init) rfl (by omega)
  have hi := initState_spec cfg
  mvcgen [runExecute, hloop, hi]
  · exact Or.inr
  · exact Or.inr

open Policy

theorem polK_polCK (k : Kind) (h : polK k = true) : polCK k = true := by
  cases k <;> simp_all [polK, polCK]

theorem PExt.mono {K K' : Kind → Bool} {w w' : World} (h : PExt K w w') (hk : ∀ k, K k = true → K' k = true) :
    PExt K' w w' := by
  obtain ⟨⟨δ, e, k⟩, hr, ha⟩ := h
  exact ⟨⟨δ, e, fun x hx => hk _ (k x hx)⟩, hr, ha⟩

theorem ErrS.pextC {cfg : Cfg} {e : Exn} {w w' : World} (h : PExt polCK w w')
    (hf : ErrS cfg e w) : ErrS cfg e w' := by
  have hk := keep_pext cfg h
  obtain ⟨⟨δ, he, k⟩, _, _⟩ := h
  simp only [keep, Prod.mk.injEq] at hk
  obtain ⟨k1, k2, k3, k4, k5, k6, k7, k8, k9⟩ := hk
  simp only [ErrS, RaiseOK, HF, MayP, view] at hf ⊢
  rcases hf with hf | hf | ⟨ho, hm⟩
  · left; rw [he]; exact Rej.append δ hf
  · right; left; rw [k9]; exact hf
  · right; right
    refine ⟨by rw [k8]; exact ho, ?_⟩
    rcases hm with h1 | h1 | h1
    · left; simpa [opRaised, k2] using h1
    · exact Or.inr (Or.inl (by rw [he]; exact Thrown.append δ h1))
    · exact Or.inr (Or.inr ⟨h1.1, by rw [k7]; exact h1.2⟩)

theorem ErrS.fin {cfg : Cfg} {e : Exn} {w : World} (h : ErrS cfg e w) : FinX cfg (.error e) w := by
  rcases h with h | h
  · exact Or.inl h
  · exact Or.inr h.weaken

theorem ErrS.thrown {cfg : Cfg} {e e' : Exn} {w : World} (h : ErrS cfg e w) (ht : Thrown w.trace e') :
    ErrS cfg e' w := by
  rcases h with h | h | h
  · exact Or.inl h
  · exact Or.inr (Or.inl h)
  · exact Or.inr (Or.inr ⟨h.1, MayP.thrown ht⟩)

theorem FinX.pext {cfg : Cfg} {r : Except Exn Outcome} {w w' : World} (h : PExt polK w w')
    (hf : FinX cfg r w) : FinX cfg r w' := by
  have hv := view_pext cfg h
  obtain ⟨⟨δ, e, k⟩, _, _⟩ := h
  cases r with
  | ok o =>
    simp only [FinX, hv] at hf ⊢
    rcases hf with hf | hf
    · left; rw [e]; exact Rej.append δ hf
    · exact Or.inr hf
  | error ex =>
    simp only [FinX, RaiseOK', hv] at hf ⊢
    rcases hf with hf | hf | hf
    · left; rw [e]; exact Rej.append δ hf
    · exact Or.inr (Or.inl hf)
    · exact Or.inr (Or.inr ⟨hf.1, by
        rcases hf.2 with h1 | h1 | h1
        · exact Or.inl h1
        · exact Or.inr (Or.inl (by rw [e]; exact Thrown.append δ h1))
        · exact Or.inr (Or.inr h1)⟩)

theorem FinX.thrown {cfg : Cfg} {r : Except Exn Outcome} {e : Exn} {w : World} (hi : FinX cfg r w)
    (h : Thrown w.trace e) : FinX cfg (.error e) w := by
  cases r with
  | ok o =>
    rcases hi with hi | hi | hi
    · exact Or.inl hi
    · exact Or.inr (Or.inl hi)
    · exact Or.inr (Or.inr ⟨Or.inl hi.1, MayP.thrown h⟩)
  | error ex =>
    rcases hi with hi | hi | hi
    · exact Or.inl hi
    · exact Or.inr (Or.inl hi)
    · exact Or.inr (Or.inr ⟨hi.1, MayP.thrown h⟩)

theorem ErrS.pext {cfg : Cfg} {e : Exn} {w w' : World} (h : PExt polK w w') (hf : ErrS cfg e w) : ErrS cfg e w' :=
  ErrS.pextC (PExt.mono h polK_polCK) hf

/-- a handler of the `except` ladder of `_execute_with_retry`, run while `e` is in flight -/
theorem errS_arm {x : M Unit} {cfg : Cfg} (K : Kind → Bool) (e : Exn)
    (hx : ∀ w0, ⦃fun w => ⌜PExt K w0 w⌝⦄ x ⦃pextPost K w0⦄) (hI : ∀ w w', PExt K w w' → ErrS cfg e w → ErrS cfg e w') :
    ⦃fun w => ⌜ErrS cfg e w⌝⦄ x ⦃armPost (fun e => FinX cfg (.error e)) e⦄ :=
  triple_mono (inv_of_pext K _ hx hI) (fun _ h => h) (fun _ _ h => h.fin) (fun _ _ h => (h.1.thrown h.2).fin)

/-- the `except` ladder of `_execute_with_retry` -/
theorem executeLadder_spec (cfg : Cfg) (hret : cfg.hasRetry = true) (e : Exn) :
    ⦃fun w => ⌜ErrS cfg e w⌝⦄ executeLadder cfg e
    ⦃post⟨fun o w => ⌜FinX cfg (.ok o) w⌝, fun e' w => ⌜FinX cfg (.error e') w⌝⟩⦄ :=
  executeLadder_rule e
    (fun _ => errS_arm polK e (fun w0 => handleExhaustedCall_pext polK w0 cfg rfl rfl rfl e) fun _ _ h hf => hf.pext h)
    (fun _ => errS_arm polK e (fun w0 => recordCancel_pext polK w0 cfg rfl) fun _ _ h hf => hf.pext h)
    (fun _ _ _ => errS_arm polCK e (fun w0 => handleExceptionCall_pext polCK w0 cfg hret rfl rfl rfl rfl e false)
      fun _ _ h hf => hf.pextC h)
    (fun _ _ h => h.fin)

theorem finX_of_pext {α : Type} {x : M α} {cfg : Cfg} (r : Except Exn Outcome)
    (hx : ∀ w0, ⦃fun w => ⌜PExt polK w0 w⌝⦄ x ⦃pextPost polK w0⦄) :
    ⦃fun w => ⌜FinX cfg r w⌝⦄ x ⦃exits (fun _ => FinX cfg r) fun e => FinX cfg (.error e)⦄ :=
  triple_raise (inv_of_pext polK _ hx fun _ _ h hf => hf.pext h) fun _ _ h => h.1.thrown h.2

theorem rej_pext {w w' : World} (h : PExt polK w w') (hr : Rej w.trace) : Rej w'.trace := by
  obtain ⟨⟨δ, e, _⟩, _, _⟩ := h
  rw [e]; exact Rej.append δ hr

theorem prelude_thrown {cfg : Cfg} {w : World} {e : Exn} (h0 : cur cfg w.trace = {}) (ht : Thrown w.trace e) :
    FinX cfg (.error e) w := by
  right; right
  refine ⟨Or.inl ?_, MayP.thrown ht⟩
  show (cur cfg w.trace).fault = false
  rw [h0]

def Asked (cfg : Cfg) (d : Bool × CState × Option Event) (w : World) : Prop :=
  cur cfg w.trace = {} ∧ (d.1 = false → Rej w.trace)

theorem breakerAllow_inv (cfg : Cfg) (bc : Breaker.Cfg) :
    ⦃fun w => ⌜cur cfg w.trace = {}⌝⦄ breakerAllow bc
    ⦃post⟨fun d w => ⌜Asked cfg d w⌝, fun e w => ⌜FinX cfg (.error e) w⌝⟩⦄ :=
  triple_of_rel (fun w0 => breakerAllow_pext polK w0 rfl bc) (PExt.refl _)
    (fun _ _ _ hw h => ⟨cur_pext cfg h.1 hw, h.2⟩) (fun _ _ _ _ => False.elim)

/-- `Policy.execute` with a retry component (also `RetryPolicy.execute`, contexts, async twins) -/
theorem execute_retry_spec (cfg : Cfg) (hret : cfg.hasRetry = true) :
    ⦃fun w => ⌜cur cfg w.trace = {}⌝⦄ Policy.execute cfg
    ⦃post⟨fun o w => ⌜FinX cfg (.ok o) w⌝, fun e w => ⌜FinX cfg (.error e) w⌝⟩⦄ :=
  settled_rule (P := fun w => cur cfg w.trace = {}) (fun _ h => h)
    (executeAdmitted_rule (Pd := Asked cfg) (breakerAllow_inv cfg)
      (fun d => triple_raise (inv_of_pext polK (Asked cfg d)
          (fun w0 => emitBreakerEvent_pext polK w0 cfg rfl rfl d.2.2 d.2.1 none)
          fun _ _ h hw => ⟨cur_pext cfg h hw.1, fun hd => rej_pext h (hw.2 hd)⟩)
        fun _ _ h => prelude_thrown h.1.1 h.2)
      (fun _ _ _ h => h.1) (fun _ _ hd h => Or.inl (h.2 (Bool.eq_false_iff.mpr hd)))
      (executeAdmitted2_retry_rule hret (runExecute_spec cfg) (executeLadder_spec cfg hret)
        (fun o => finX_of_pext (.ok o) fun w0 => recordSuccess_pext polK w0 cfg rfl rfl rfl)
        (fun o k => finX_of_pext (.ok o) fun w0 => recordFailure_pext polK w0 cfg rfl rfl rfl k)
        (fun o => finX_of_pext (.ok o) fun w0 => recordCancel_pext polK w0 cfg rfl)))
    (fun o => finX_of_pext (.ok o) fun w0 => recordCancel_pext polK w0 cfg rfl)
    (fun e => finX_of_pext (.error e) fun w0 => recordCancel_pext polK w0 cfg rfl)

theorem step_hookFault (cfg : Cfg) (s : St) (r : Req) (a : Ans) :
    (step cfg s (r, a)).hookFault = ((isAttemptHook r && (a matches .raise ..)) || s.hookFault) := by
  cases r <;> cases a <;> try rfl
  · rename_i b _
    cases b
    · simp only [step]
      split
      · split <;> rfl
      · rfl
    · rfl
  · simp only [step]
    split <;> rfl
  · simp only [step]
    split <;> rfl

theorem hookFault_fold (cfg : Cfg) (t : List (Req × Ans)) :
    (cur cfg t).hookFault = attemptHookFault t := by
  induction t with
  | nil => rfl
  | cons x t ih =>
    rw [cur_cons, step_hookFault, ih]
    rfl

theorem mayPropagate_of {cfg : Cfg} {t : List (Req × Ans)} {e : Exn} (h : MayP (cur cfg t) t e) :
    C11.mayPropagate (run cfg t.reverse) t.reverse e = true := by
  rw [run_reverse]
  unfold C11.mayPropagate raisedByCallback
  rw [raisedBy_reverse]
  rcases h with ⟨h1, h2⟩ | h | ⟨h1, h2⟩
  · rcases h2 with h2 | h2 <;> simp [h1, h2]
  · rcases h with h | h
    · subst h; simp
    · simp [h]
  · subst h1; simp [h2]

theorem ok_unfold (cfg : Cfg) (e : Entry) (t : Trace) (r : Res) :
    Mon.C11.ok cfg e t r =
      (if hasLoop cfg e && e.isExecute && !Mon.rejected t && !Mon.attemptHookFault t then
        (!(run cfg t).fault || ((r matches .raised _) && !(run cfg t).opAfterFault))
        && (match r with
            | .ret _ => false
            | .raised ex => C11.mayPropagate (run cfg t) t ex
            | .outcome o _ => outcomeOk cfg (run cfg t) o)
      else true) := by
  unfold Mon.C11.ok outcomeOk
  rfl

theorem verdict_outcome {cfg : Cfg} {e : Entry} {t : List (Req × Ans)} {o : Outcome} {tl : List TimelineEv}
    (h : Rej t ∨ ((cur cfg t).hookFault = true ∨ ((cur cfg t).fault = false ∧ outcomeOk cfg (cur cfg t) o = true))) :
    Mon.C11.ok cfg e t.reverse (.outcome o tl) = true := by
  rw [ok_unfold, run_reverse, rejected_reverse, attemptHookFault_reverse, ← hookFault_fold cfg]
  split
  · rename_i hg
    simp only [Bool.and_eq_true, Bool.not_eq_true'] at hg
    rcases h with h | h | h
    · simp [Rej, hg.1.2] at h
    · simp [hg.2] at h
    · simp [h.1, h.2]
  · rfl

theorem verdict_raised {cfg : Cfg} {e : Entry} {t : List (Req × Ans)} {ex : Exn}
    (h : Rej t ∨ ((cur cfg t).hookFault = true ∨
      (((cur cfg t).fault = false ∨ (cur cfg t).opAfterFault = false) ∧ MayP (cur cfg t) t ex))) :
    Mon.C11.ok cfg e t.reverse (.raised ex) = true := by
  rw [ok_unfold]
  split
  · rename_i hg
    rw [rejected_reverse, attemptHookFault_reverse, ← hookFault_fold cfg] at hg
    simp only [Bool.and_eq_true, Bool.not_eq_true'] at hg
    rcases h with h | h | h
    · simp [Rej, hg.1.2] at h
    · simp [hg.2] at h
    · have hm := mayPropagate_of h.2
      rw [run_reverse] at hm
      simp only [run_reverse]
      rcases h.1 with h1 | h1 <;> simp [h1, hm]
  · rfl

def GoodX (cfg : Cfg) : Res → World → Prop
  | .outcome o _, w => FinX cfg (.ok o) w
  | .raised e, w => FinX cfg (.error e) w
  | .ret _, _ => False

theorem ok_of_goodX {cfg : Cfg} {e : Entry} {r : Res} {w : World} (h : GoodX cfg r w) :
    Mon.C11.ok cfg e w.trace.reverse r = true := by
  cases r with
  | outcome o tl => exact verdict_outcome h
  | raised ex => exact verdict_raised h
  | ret v => exact h.elim

/--
**C11.**  For every configuration, every entry point and every world, the run satisfies the monitor
`Mon.C11.ok`.  In an `execute()` with a retry loop that the breaker did not refuse and in which no attempt hook
and no `abort_if` raised:

* if a strategy (or its `record_failure` / `record_success`), a classifier, the sleep handler or the sleeper
  raised anything but an abort, `execute()` ends with an exception and the operation is not invoked again;
* `execute()` never returns like `call()`; an exception that leaves it was raised by the LAST invocation and
  is not an `Exception` (or is a RetryExhaustedError of a nested policy), or was raised by one of the caller's
  callbacks, or is the library's ValueError for a sleep handler that did not return a SleepDecision (or the
  model's `stuck`);
* an outcome has `attempts` = number of invocations; `ok` exactly when the last invocation's value was
  accepted as success, no earlier one was and no `record_success` aborted, and then `value` is that object and
  the failure fields are None; otherwise a stop reason is set — SCHEDULED exactly when the handler deferred,
  with `next_sleep_s` the delay it was offered, ABORTED when `record_success` aborted — and `cause`, `last_class`, `last_exception` / `last_result`
  describe the last recorded failure (exactly one of the two), which is the final attempt's unless the run was
  ABORTED; an outcome without any invocation is ABORTED or the `max_attempts = 0` case.

The conjuncts are restated one by one below.
-/
theorem execute_faithful (cfg : Cfg) (e : Entry) (w : World) :
    Mon.C11.ok cfg e (runEntry cfg e w).2.trace.reverse (runEntry cfg e w).1 = true := by
  cases e with
  | call => simp [Mon.C11.ok, Entry.isExecute]
  | pcall => simp [Mon.C11.ok, Entry.isExecute]
  | execute =>
    exact ok_of_goodX (toResO_of_triple (Q := GoodX cfg) _
      (triple_mono (runExecute_spec cfg) (fun _ h => h) (fun _ _ h => h) (fun _ _ h => h.fin)) _
      (C04.cur_start cfg w))
  | pexecute =>
    cases hret : cfg.hasRetry with
    | false => simp [Mon.C11.ok, hasLoop, hret, Entry.isPolicy]
    | true =>
      exact ok_of_goodX (toResO_of_triple (Q := GoodX cfg) _ (execute_retry_spec cfg hret) _
        (C04.cur_start cfg w))

theorem execute_faithful_script (cfg : Cfg) : ∀ (steps : List Step) (w : World),
    ∀ l ∈ (runScript cfg steps w).1, Mon.C11.ok cfg l.entry l.trace l.res = true :=
  forall_script (P := fun e t r => Mon.C11.ok cfg e t r = true) cfg (execute_faithful cfg)

/-- the monitor speaks about this run: an execute() entry with a retry loop, not rejected by the
    breaker, in which no attempt hook and no abort predicate raised -/
def applies (cfg : Cfg) (e : Entry) (t : Trace) : Bool :=
  hasLoop cfg e && e.isExecute && !Mon.rejected t && !Mon.attemptHookFault t

theorem step_deferred_delay (cfg : Cfg) (s : St) (x : Req × Ans)
    (h : s.deferred = true → s.delay.isSome = true) :
    (step cfg s x).deferred = true → (step cfg s x).delay.isSome = true := by
  unfold step
  split
  case h_1 => exact nofun  -- the operation resets `deferred`
  case h_9 => exact fun _ => rfl  -- the sleep handler's answer sets both
  case h_3 | h_7 => split <;> exact h  -- a classification: `record` touches neither
  case h_5 =>  -- the abort poll that records a pending result failure
    split
    · split <;> exact h
    · exact h
  all_goals exact h

theorem deferred_delay (cfg : Cfg) (t : List (Req × Ans)) :
    (cur cfg t).deferred = true → (cur cfg t).delay.isSome = true := by
  induction t with
  | nil => intro h; cases h
  | cons x t ih => exact step_deferred_delay cfg _ x ih

section conjuncts
variable (cfg : Cfg) (e : Entry) (w : World)

theorem outcome_verdict (o : Outcome) (tl : List TimelineEv)
    (happ : applies cfg e (runEntry cfg e w).2.trace.reverse = true)
    (hr : (runEntry cfg e w).1 = .outcome o tl) :
    let s := run cfg (runEntry cfg e w).2.trace.reverse
    s.fault = false ∧ outcomeOk cfg s o = true := by
  have h := execute_faithful cfg e w
  rw [ok_unfold, hr] at h
  unfold applies at happ
  simp only [happ, if_true, Bool.and_eq_true, Bool.or_eq_true, Bool.not_eq_true'] at h
  obtain ⟨h1, h2⟩ := h
  refine ⟨?_, h2⟩
  rcases h1 with h1 | h1
  · exact h1
  · simp at h1

/-- **attempts_eq_invocations.**  `attempts` of the outcome is the number of times the operation
    was invoked. -/
theorem attempts_eq_invocations (o : Outcome) (tl : List TimelineEv)
    (happ : applies cfg e (runEntry cfg e w).2.trace.reverse = true)
    (hr : (runEntry cfg e w).1 = .outcome o tl) :
    o.attempts = (run cfg (runEntry cfg e w).2.trace.reverse).ops := by
  have h := (outcome_verdict cfg e w o tl happ hr).2
  simp only [outcomeOk, Bool.and_eq_true, beq_iff_eq] at h
  exact h.1.1

/-- **ok_iff_final_success.**  `ok` is true exactly when the LAST invocation returned a value that
    was classified as success, no earlier invocation's was, and no `record_success` hook of a
    strategy aborted the run; `value` is then the object that invocation returned, and the failure
    fields are all None. -/
theorem ok_iff_final_success (o : Outcome) (tl : List TimelineEv)
    (happ : applies cfg e (runEntry cfg e w).2.trace.reverse = true)
    (hr : (runEntry cfg e w).1 = .outcome o tl) :
    let s := run cfg (runEntry cfg e w).2.trace.reverse
    (o.ok = (s.succeeded && !s.earlierSuccess && !s.abortedSuccess)) ∧
    (o.ok = true → o.value = s.opVal ∧ s.opVal.isSome = true ∧ o.stop = none ∧ o.lastClass = none ∧
      o.lastExc = none ∧ o.lastResult = none ∧ o.cause = none ∧ o.nextSleep = none) := by
  have h := (outcome_verdict cfg e w o tl happ hr).2
  simp only [outcomeOk, Bool.and_eq_true, beq_iff_eq] at h
  refine ⟨h.1.2, fun hok => ?_⟩
  have h3 := h.2
  rw [hok] at h3
  simpa [C11.successOk, and_assoc] using h3

/-- **failure_fields_describe_final_failure.**  When `ok` is false: a stop reason is set; `cause`,
    `last_class`, `last_exception` / `last_result` are those of the last RECORDED failure (the
    first classification after the invocation that failed, its exception object or returned
    value), exactly one of `last_exception` / `last_result` is set (none of the failure fields if
    nothing was recorded), and unless the run was ABORTED that failure is the final attempt's; an
    outcome without any invocation is either ABORTED or the `max_attempts = 0` case. -/
theorem failure_fields_describe_final_failure (o : Outcome) (tl : List TimelineEv)
    (happ : applies cfg e (runEntry cfg e w).2.trace.reverse = true)
    (hr : (runEntry cfg e w).1 = .outcome o tl) (hok : o.ok = false) :
    let s := run cfg (runEntry cfg e w).2.trace.reverse
    o.value = none ∧ o.stop.isSome = true ∧ o.cause = s.recCause ∧ o.lastClass = s.recCls.map (·.klass) ∧
    o.lastExc = s.recExc.map Exn.ref ∧ o.lastResult = s.recVal ∧
    (s.recCause = some .exception → s.recExc.isSome = true ∧ s.recVal = none) ∧
    (s.recCause = some .result → s.recVal.isSome = true ∧ s.recExc = none) ∧
    (s.recCause = none → s.recExc = none ∧ s.recVal = none ∧ s.recCls = none) ∧
    (o.stop = some .aborted ∨ s.recAt = s.ops) ∧
    (o.stop = some .aborted ∨ s.ops ≠ 0 ∨ (cfg.maxAttempts = 0 ∧ o.stop = some .maxAttemptsGlobal)) := by
  have h := (outcome_verdict cfg e w o tl happ hr).2
  simp only [outcomeOk, Bool.and_eq_true, beq_iff_eq] at h
  have h3 := h.2
  rw [hok] at h3
  simp only [Bool.false_eq_true, if_false, C11.failureOk, Bool.and_eq_true, beq_iff_eq, Bool.or_eq_true,
    Option.isNone_iff_eq_none, bne_iff_ne, ne_eq] at h3
  obtain ⟨⟨⟨⟨⟨⟨⟨⟨⟨⟨⟨a1, a2⟩, a3⟩, a4⟩, a5⟩, a6⟩, a7⟩, a8⟩, a9⟩, a10⟩, a11⟩, a12⟩ := h3
  refine ⟨a1, a2, a6, a7, a8, a9, ?_, ?_, ?_, a11, ?_⟩
  · intro hc; rw [hc] at a10; simpa using a10
  · intro hc; rw [hc] at a10; simpa using a10
  · intro hc; rw [hc] at a10; simpa [and_assoc] using a10
  · rcases a12 with (a | a) | a
    · exact Or.inl a
    · exact Or.inr (Or.inl a)
    · exact Or.inr (Or.inr a)

/-- **next_sleep_iff_scheduled.**  When `ok` is false: the stop reason is SCHEDULED exactly when the
    sleep handler of the final attempt answered DEFER, and `next_sleep_s` is then the delay that
    handler was offered and otherwise None — so `next_sleep_s` is set exactly for deferred runs. -/
theorem next_sleep_iff_scheduled (o : Outcome) (tl : List TimelineEv)
    (happ : applies cfg e (runEntry cfg e w).2.trace.reverse = true)
    (hr : (runEntry cfg e w).1 = .outcome o tl) (hok : o.ok = false) :
    let s := run cfg (runEntry cfg e w).2.trace.reverse
    (o.stop = some .scheduled ↔ s.deferred = true) ∧
    o.nextSleep = (if s.deferred then s.delay else none) ∧
    (o.nextSleep.isSome = true ↔ o.stop = some .scheduled) := by
  have h := (outcome_verdict cfg e w o tl happ hr).2
  simp only [outcomeOk, Bool.and_eq_true, beq_iff_eq] at h
  have h3 := h.2
  rw [hok] at h3
  simp only [Bool.false_eq_true, if_false, C11.failureOk, Bool.and_eq_true, beq_iff_eq] at h3
  obtain ⟨⟨⟨⟨⟨⟨⟨⟨⟨⟨⟨a1, a2⟩, a3⟩, a4⟩, a5⟩, a6⟩, a7⟩, a8⟩, a9⟩, a10⟩, a11⟩, a12⟩ := h3
  have hd := deferred_delay cfg (runEntry cfg e w).2.trace
  rw [← run_reverse] at hd
  have h1 : (o.stop = some .scheduled ↔ (run cfg (runEntry cfg e w).2.trace.reverse).deferred = true) := by
    cases hdf : (run cfg (runEntry cfg e w).2.trace.reverse).deferred <;> simp_all
  refine ⟨h1, a4, ?_⟩
  rw [a4, h1]
  cases hdf : (run cfg (runEntry cfg e w).2.trace.reverse).deferred
  · simp
  · simpa using hd hdf

/-- **propagation (⊆).**  What comes out of execute() as an exception is: something the LAST
    invocation of the operation raised that is not an `Exception` (cancellation kinds) or is a
    RetryExhaustedError (nested policy); or an error raised by one of the caller's callbacks; or
    the ValueError for a sleep handler that did not return a SleepDecision (`stuck`: model only). -/
theorem propagation (ex : Exn)
    (happ : applies cfg e (runEntry cfg e w).2.trace.reverse = true)
    (hr : (runEntry cfg e w).1 = .raised ex) :
    C11.mayPropagate (run cfg (runEntry cfg e w).2.trace.reverse) (runEntry cfg e w).2.trace.reverse ex = true := by
  have h := execute_faithful cfg e w
  rw [ok_unfold, hr] at h
  unfold applies at happ
  simp only [happ, if_true, Bool.and_eq_true] at h
  exact h.2

/-- execute() never returns like call() -/
theorem never_ret (v : Nat)
    (happ : applies cfg e (runEntry cfg e w).2.trace.reverse = true) : (runEntry cfg e w).1 ≠ .ret v := by
  intro hr
  have h := execute_faithful cfg e w
  rw [ok_unfold, hr] at h
  unfold applies at happ
  simp [happ] at h

/-- **propagation (⊇) — the F5 regression theorem.**  If a strategy, a strategy's
    `record_failure` / `record_success`, the classifier, the result classifier, the sleep handler
    or the sleeper raised anything but an abort (`fault`), then execute() ends with an exception
    — it does not return an outcome, so the error was not swallowed — and the operation was not
    invoked again afterwards — so the error was not handled as a failed attempt and retried.  In
    particular this holds after the operation has RETURNED (the `attempt_state.returned` repair). -/
theorem callback_errors_propagate
    (happ : applies cfg e (runEntry cfg e w).2.trace.reverse = true)
    (hf : (run cfg (runEntry cfg e w).2.trace.reverse).fault = true) :
    (∃ ex, (runEntry cfg e w).1 = .raised ex) ∧
      (run cfg (runEntry cfg e w).2.trace.reverse).opAfterFault = false := by
  have h := execute_faithful cfg e w
  rw [ok_unfold] at h
  unfold applies at happ
  simp only [happ, if_true, Bool.and_eq_true, Bool.or_eq_true, Bool.not_eq_true', hf] at h
  obtain ⟨h1, _⟩ := h
  rcases h1 with h1 | ⟨h1, h2⟩
  · cases h1
  · refine ⟨?_, h2⟩
    cases hr : (runEntry cfg e w).1 with
    | raised ex => exact ⟨ex, rfl⟩
    | ret v => rw [hr] at h1; simp at h1
    | outcome o tl => rw [hr] at h1; simp at h1

/-- …equivalently: an outcome is returned only if no such callback raised. -/
theorem outcome_means_no_callback_error (o : Outcome) (tl : List TimelineEv)
    (happ : applies cfg e (runEntry cfg e w).2.trace.reverse = true)
    (hr : (runEntry cfg e w).1 = .outcome o tl) :
    (run cfg (runEntry cfg e w).2.trace.reverse).fault = false :=
  (outcome_verdict cfg e w o tl happ hr).1

end conjuncts

/-! Non-vacuity: as for C04 the hypotheses are about `runEntry`; the instances are exhibited through
    the compiled driver by `harness/families/loop.py` (every stop reason × cause × abort point is
    counted in its `distribution`).  At the level of the monitor alone: -/

/-- an ABORTED outcome carrying the failure recorded for an EARLIER attempt is accepted … -/
example : Mon.C11.ok { abortIf := true } .execute
    [(.abortIf, .bool false 0), (.op 1, .raise (.ordinary 1 .transient) 0), (.abortIf, .bool false 0),
     (.classify "o1", .klass ⟨.transient, none⟩ 0), (.abortIf, .bool false 0),
     (.strategy .default .ctx ⟨1, .transient, none, none, 60, .exception⟩, .delay (.fin 1) 0),
     (.sleeper .dflt 1, .unit 0), (.abortIf, .bool false 0), (.op 2, .raise (.ordinary 2 .unknown) 0),
     (.abortIf, .bool true 0)]
    (.outcome { ok := false, value := none, stop := some .aborted, attempts := 2, lastClass := some .transient,
                lastExc := some "o1", lastResult := none, cause := some .exception, elapsed := 0,
                nextSleep := none } []) = true := by decide

/-- … but not one that claims the LAST attempt's exception, which was never recorded -/
example : Mon.C11.ok { abortIf := true } .execute
    [(.abortIf, .bool false 0), (.op 1, .raise (.ordinary 1 .transient) 0), (.abortIf, .bool false 0),
     (.classify "o1", .klass ⟨.transient, none⟩ 0), (.abortIf, .bool false 0),
     (.strategy .default .ctx ⟨1, .transient, none, none, 60, .exception⟩, .delay (.fin 1) 0),
     (.sleeper .dflt 1, .unit 0), (.abortIf, .bool false 0), (.op 2, .raise (.ordinary 2 .unknown) 0),
     (.abortIf, .bool true 0)]
    (.outcome { ok := false, value := none, stop := some .aborted, attempts := 2, lastClass := some .unknown,
                lastExc := some "o2", lastResult := none, cause := some .exception, elapsed := 0,
                nextSleep := none } []) = false := by decide

end Redress.Props.C11
