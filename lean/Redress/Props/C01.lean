/-
  C01 — Attempt caps (global, per-class, UNKNOWN, non-retryable) are never exceeded.

  Theorems are about `Mon.C01.ok`, the monitor the driver also evaluates on implementation traces:
  for EVERY configuration, EVERY answer stream (outcome sequences, durations, callback faults …)
  and every entry point, the monitor accepts the model's run.

  The monitor (`Mon.C01.St`) counts the operation's invocations (`ops`); `pending` is the class of the last
  classified failure as long as no invocation has followed it, and the next invocation turns it into one
  more of `retries k` ("attempts that followed a failure of class `k`"); `dead` says that a PERMANENT / AUTH /
  PERMISSION failure was seen and `bad` that the operation was invoked after that.  The verdict bounds `ops`
  by `max_attempts`, `retries k` by the per-class and UNKNOWN caps, and wants `bad` false.

  Plan: the monitor as a fold over the world's log (`cur`); a view of the world — the monitor and the runner's
  own two counters (`view`); every procedure that does not invoke the operation or a classifier keeps the view
  (footprints); the loop invariant `Rel`: the monitor's `retries` (+1 for the pending class) are dominated by the
  runner's counters, which the runner keeps within the caps by checking them before it grants a retry; one spec
  per procedure, induction on the fuel of the loops; the policy shell around the loop invokes nothing the
  monitor counts (`Lemmas/PolicyFrame`).
-/
import Redress.Lemmas.PolicyFrame
import Redress.Monitors

open Std.Do

namespace Redress.Props.C01
open Redress Redress.Retry Redress.Mon Redress.Mon.C01

def cur (tr : List (Req × Ans)) : St := tr.foldr (fun x s => step s x) {}

@[simp] theorem cur_cons (x : Req × Ans) (t : List (Req × Ans)) : cur (x :: t) = step (cur t) x := rfl

theorem run_reverse (t : List (Req × Ans)) : run t.reverse = cur t := by
  simp [run, cur, List.foldl_reverse]

def inertK : Kind → Bool
  | .op | .classify | .resultClassify => false
  | _ => true

theorem step_inert (s : St) (x : Req × Ans) (h : inertK x.1.kind = true) : step s x = s := by
  obtain ⟨r, a⟩ := x
  cases r <;> simp_all [inertK, Req.kind, step, classOf?]

theorem cur_append_inert (δ t : List (Req × Ans)) (h : ∀ x ∈ δ, inertK x.1.kind = true) :
    cur (δ ++ t) = cur t :=
  foldr_append_inert step {} _ step_inert δ t h

structure View where
  mon : St
  counts : EClass → Nat
  unknown : Nat

def view (w : World) : View := ⟨cur w.trace, w.rs.perClassCounts, w.rs.unknownAttempts⟩

theorem view_foot (w w' : World) (h : Foot inertK w w') : view w' = view w := by
  obtain ⟨δ, e, k⟩ := h.trace
  have h1 := congrArg RState.perClassCounts h.rs
  have h2 := congrArg RState.unknownAttempts h.rs
  simp only [view, e, cur_append_inert δ _ k]
  simp_all

abbrev same (v : View) : PostCond α (.except Exn (.arg World .pure)) :=
  post⟨fun _ w => ⌜view w = v⌝, fun _ w => ⌜view w = v⌝⟩

section leaves
variable (v : View) (cfg : Cfg) (tl : Bool)

theorem emit_v (ev : Event) (a s : Nat) (k : Option EClass) (e : Option Exn) (st : Option StopReason)
    (c : Option Cause) (cl : Option Classification) :
    ⦃fun w => ⌜view w = v⌝⦄ emit cfg tl ev a s k e st c cl ⦃same v⦄ :=
  view_of_foot view (fun w0 => emit_foot inertK w0 rfl rfl cfg tl ev a s k e st c cl) view_foot v

theorem setStop_v (s : StopReason) : ⦃fun w => ⌜view w = v⌝⦄ setStop s ⦃same v⦄ :=
  view_of_foot view (fun w0 => setStop_foot inertK w0 s) view_foot v

theorem checkAbort_v (a : Nat) : ⦃fun w => ⌜view w = v⌝⦄ checkAbort cfg tl a ⦃same v⦄ :=
  view_of_foot view (fun w0 => checkAbort_foot inertK w0 rfl rfl rfl cfg tl a) view_foot v

theorem stopWith_v (s : StopReason) (ev : Event) (a : Nat) (k : EClass) (e : Option Exn) (c : Cause) :
    ⦃fun w => ⌜view w = v⌝⦄ stopWith cfg tl s ev a k e c
    ⦃post⟨fun d w => ⌜d = .raise ∧ view w = v⌝, fun _ w => ⌜view w = v⌝⟩⦄ :=
  view_of_foot' view (fun w0 => stopWith_foot inertK w0 rfl rfl cfg tl s ev a k e c) view_foot v

theorem recordStrategySuccess_v : ⦃fun w => ⌜view w = v⌝⦄ recordStrategySuccess cfg ⦃same v⦄ :=
  view_of_foot view (fun w0 => recordStrategySuccess_foot inertK w0 rfl cfg) view_foot v

theorem stratRecordFailure_v (key : SKey) (k : EClass) :
    ⦃fun w => ⌜view w = v⌝⦄ stratRecordFailure cfg key k ⦃same v⦄ :=
  view_of_foot view (fun w0 => stratRecordFailure_foot inertK w0 rfl cfg key k) view_foot v

theorem callStrategy_v (key : SKey) (kind : SKind) (ctx : BackoffCtx) :
    ⦃fun w => ⌜view w = v⌝⦄ callStrategy key kind ctx ⦃same v⦄ :=
  view_of_foot view (fun w0 => callStrategy_foot inertK w0 rfl key kind ctx) view_foot v

theorem callAttemptStart_v (a : Nat) : ⦃fun w => ⌜view w = v⌝⦄ callAttemptStart cfg a ⦃same v⦄ :=
  view_of_foot view (fun w0 => callAttemptStart_foot inertK w0 rfl cfg a) view_foot v

theorem callAttemptEndFromOutcome_v (a : Nat) (o : AOutcome) :
    ⦃fun w => ⌜view w = v⌝⦄ callAttemptEndFromOutcome cfg a o ⦃same v⦄ :=
  view_of_foot view (fun w0 => callAttemptEndFromOutcome_foot inertK w0 rfl cfg a o) view_foot v

theorem callBeforeSleep_v (ctx : BackoffCtx) (s : Nat) :
    ⦃fun w => ⌜view w = v⌝⦄ callBeforeSleep cfg ctx s ⦃same v⦄ :=
  view_of_foot view (fun w0 => callBeforeSleep_foot inertK w0 rfl cfg ctx s) view_foot v

theorem callSleeper_v (s : Nat) : ⦃fun w => ⌜view w = v⌝⦄ callSleeper cfg s ⦃same v⦄ :=
  view_of_foot view (fun w0 => callSleeper_foot inertK w0 rfl cfg s) view_foot v

theorem callSleepHandler_v (lvl : Lvl) (ctx : BackoffCtx) (s : Nat) :
    ⦃fun w => ⌜view w = v⌝⦄ callSleepHandler lvl ctx s ⦃same v⦄ :=
  view_of_foot view (fun w0 => callSleepHandler_foot inertK w0 rfl lvl ctx s) view_foot v

theorem buildOutcome_v (ok : Bool) (value : Option Nat) (n : Nat) (ns : Option Nat) :
    ⦃fun w => ⌜view w = v⌝⦄ buildOutcome ok value n ns ⦃same v⦄ :=
  view_of_foot view (fun w0 => buildOutcome_foot inertK w0 ok value n ns) view_foot v

theorem emitAbortedOnce_v (a : Nat) : ⦃fun w => ⌜view w = v⌝⦄ emitAbortedOnce cfg tl a ⦃same v⦄ :=
  view_of_foot view (fun w0 => emitAbortedOnce_foot inertK w0 rfl rfl cfg tl a) view_foot v

theorem abortOutcome_v (a : Nat) : ⦃fun w => ⌜view w = v⌝⦄ abortOutcome cfg tl a ⦃same v⦄ :=
  view_of_foot view (fun w0 => abortOutcome_foot inertK w0 rfl rfl cfg tl a) view_foot v

theorem handleSleepDecision_v (act : SleepDecision) (a s : Nat) :
    ⦃fun w => ⌜view w = v⌝⦄ handleSleepDecision cfg tl act a s
    ⦃post⟨fun r w => ⌜(r = act ∧ act ≠ .other) ∧ view w = v⌝, fun _ w => ⌜view w = v⌝⟩⦄ :=
  view_of_foot' view (fun w0 => handleSleepDecision_foot inertK w0 rfl rfl cfg tl act a s) view_foot v

theorem handleSuccessAttemptEnd_v (a x : Nat) :
    ⦃fun w => ⌜view w = v⌝⦄ handleSuccessAttemptEnd cfg tl a x ⦃same v⦄ :=
  view_of_foot view (fun w0 => handleSuccessAttemptEnd_foot inertK w0 rfl rfl rfl rfl cfg tl a x) view_foot v

theorem handleAbortAttemptEnd_v (a : Nat) (e : Exn) :
    ⦃fun w => ⌜view w = v⌝⦄ handleAbortAttemptEnd cfg a e ⦃same v⦄ :=
  view_of_foot view (fun w0 => handleAbortAttemptEnd_foot inertK w0 rfl cfg a e) view_foot v

theorem raiseExhaustedCall_v : ⦃fun w => ⌜view w = v⌝⦄ raiseExhaustedCall cfg ⦃same v⦄ :=
  view_of_foot view (fun w0 => raiseExhaustedCall_foot inertK w0 rfl rfl cfg) view_foot v

theorem buildExhaustedOutcome_v : ⦃fun w => ⌜view w = v⌝⦄ buildExhaustedOutcome cfg tl ⦃same v⦄ :=
  view_of_foot view (fun w0 => buildExhaustedOutcome_foot inertK w0 rfl rfl cfg tl) view_foot v

theorem deliverCall_v (act : Action) (orig : Option Exn) (fb : ExhaustedFields) :
    ⦃fun w => ⌜view w = v⌝⦄ deliverCall act orig fb
    ⦃post⟨fun r w => ⌜(r = none ∧ act = .continue_) ∧ view w = v⌝, fun _ w => ⌜view w = v⌝⟩⦄ :=
  view_of_foot' view (fun w0 => deliverCall_foot inertK w0 act orig fb) view_foot v

theorem deliverExecute_v (act : Action) (o : AOutcome) :
    ⦃fun w => ⌜view w = v⌝⦄ deliverExecute cfg tl act o
    ⦃post⟨fun r w => ⌜(r = none → act = .continue_) ∧ view w = v⌝, fun _ w => ⌜view w = v⌝⟩⦄ :=
  view_of_foot' view (fun w0 => deliverExecute_foot inertK w0 rfl rfl cfg tl act o) view_foot v

end leaves

attribute [local spec] emit_v setStop_v checkAbort_v stopWith_v recordStrategySuccess_v
  stratRecordFailure_v callStrategy_v callAttemptStart_v callAttemptEndFromOutcome_v callBeforeSleep_v
  callSleeper_v callSleepHandler_v buildOutcome_v emitAbortedOnce_v abortOutcome_v handleSleepDecision_v
  handleSuccessAttemptEnd_v handleAbortAttemptEnd_v raiseExhaustedCall_v buildExhaustedOutcome_v

theorem modifyAS_v (v : View) (f : AState → AState) : ⦃fun w => ⌜view w = v⌝⦄ modifyAS f ⦃same v⦄ := by
  mvcgen [modifyAS]

/-- the view reads the two counters of the runner's state only -/
theorem modifyRS_v (v : View) (f : RState → RState) (hc : ∀ r, (f r).perClassCounts = r.perClassCounts)
    (hu : ∀ r, (f r).unknownAttempts = r.unknownAttempts) :
    ⦃fun w => ⌜view w = v⌝⦄ modifyRS f ⦃same v⦄ := by
  apply triple_of_run
  intro w hw
  show view { w with rs := f w.rs } = v
  simpa only [view, hc, hu] using hw

theorem view_setAs (w : World) (x : AState) : view { w with as := x } = view w := rfl
theorem view_setAttempts (w : World) (x : Nat) : view { w with attempts := x } = view w := rfl

theorem budgetConsume_v (v : View) (cfg : Cfg) : ⦃fun w => ⌜view w = v⌝⦄ budgetConsume cfg ⦃same v⦄ := by
  mvcgen [budgetConsume]
  all_goals (subst_vars; simp_all [view, step, classOf?])

attribute [local spec] budgetConsume_v modifyAS_v

/-- What is left of a verification condition once the specs fit: the views of the intermediate worlds are
    equal; rewriting with the hypotheses closes it — among them what was stated about the ghost view by `have`
    just before the `mvcgen` call (`hg`: the verdict at `u`; `ho`, `hgo`: invariant and verdict after one more
    invocation; `hg0`: the verdict of the empty log).

    The specs below run `mvcgen -leave -trivial […]; vc_intro; vc_close`: neither `mleave` nor `mvcgen_trivial`,
    each of which costs more than generating the conditions.  `-trivial` is left out where a callee's
    precondition names the view by a pattern (`{ u with mon := … }`, `⟨clsStep …, bumpCount …, …⟩`) that only
    `mvcgen_trivial`'s `assumption` can match: the `handleFailure*` chain and `execAttempt_spec`.  Plain `mvcgen`
    remains where the procedure writes the world directly (`modifyAS`, `budgetConsume`, `initState`) and for the
    three specs over `ask_spec`. -/
macro "vc_close" : tactic => `(tactic| all_goals simp +contextual only [*, ne_eq, not_false_eq_true, and_self,
  and_true, true_and, implies_true, forall_const, reduceCtorEq, false_implies, not_true_eq_false, restore_dummy])

theorem grantRetry_v (v : View) (cfg : Cfg) (tl : Bool) (c : Classification) (a : Nat) (cause : Cause) (e : Option Exn) (key : SKey)
    (kind : SKind) (rem : Nat) :
    ⦃fun w => ⌜view w = v⌝⦄ grantRetry cfg tl c a cause e key kind rem ⦃same v⦄ := by
  mvcgen -leave -trivial [grantRetry, getRS, modifyRS_v]
  vc_intro
  vc_close

attribute [local spec] grantRetry_v

theorem handleFailure2_v (v : View) (cfg : Cfg) (tl : Bool) (c : Classification) (a : Nat) (cause : Cause) (e : Option Exn) :
    ⦃fun w => ⌜view w = v⌝⦄ handleFailure2 cfg tl c a cause e ⦃same v⦄ := by
  mvcgen -leave -trivial [handleFailure2, elapsed, modifyRS_v]
  vc_intro
  vc_close

attribute [local spec] handleFailure2_v

theorem sleepAction_v (v : View) (cfg : Cfg) (tl : Bool) (a s : Nat) (ctx : BackoffCtx) :
    ⦃fun w => ⌜view w = v⌝⦄ sleepAction cfg tl a s ctx ⦃same v⦄ := by
  mvcgen -leave -trivial [sleepAction]
  vc_intro
  vc_close

attribute [local spec] sleepAction_v

theorem finalizeAttempt_v (v : View) (cfg : Cfg) (tl : Bool) (a : Nat) (d : Decision) (act : Option SleepDecision)
    (cls : Option Classification) (e : Option Exn) (r : Option Nat) (c : Option Cause) :
    ⦃fun w => ⌜view w = v⌝⦄ finalizeAttempt cfg tl a d act cls e r c
    ⦃post⟨fun o w => ⌜(o.decision = .retry → d ≠ .raise) ∧ view w = v⌝, fun _ w => ⌜view w = v⌝⟩⦄ := by
  mvcgen -leave -trivial [finalizeAttempt, getRS, elapsed]
  vc_intro
  all_goals subst_vars
  all_goals simp +zetaDelta +contextual only [*, ne_eq, not_false_eq_true, and_self, implies_true, reduceCtorEq,
    false_implies]

attribute [local spec] finalizeAttempt_v

theorem failureOutcome_v (v : View) (cfg : Cfg) (tl : Bool) (a : Nat) (d : Decision) (cls : Option Classification) (e : Option Exn)
    (r : Option Nat) (c : Option Cause) :
    ⦃fun w => ⌜view w = v⌝⦄ failureOutcome cfg tl a d cls e r c
    ⦃post⟨fun o w => ⌜(o.decision = .retry → d ≠ .raise) ∧ view w = v⌝, fun _ w => ⌜view w = v⌝⟩⦄ := by
  mvcgen -leave -trivial [failureOutcome]
  vc_intro
  vc_close


structure Good (cfg : Cfg) (m : St) : Prop where
  ops : m.ops ≤ cfg.maxAttempts
  bad : m.bad = false
  per : ∀ k l, cfg.perClass k = some l → m.retries k ≤ l
  unk : ∀ l, cfg.maxUnknown = some l → m.retries .unknown ≤ l

def opStep (m : St) : St := step m (.op 0, .unit 0)

theorem step_op (m : St) (n : Nat) (a : Ans) : step m (.op n, a) = opStep m := rfl

def clsStep (m : St) (k : EClass) : St :=
  { m with pending := some k, dead := m.dead || k.nonRetryable }

/-- Loop invariant while the loop may still go on, after at most `n` operation invocations:
    the monitor's retry counts are dominated by the runner's own counters, which are within the caps. -/
structure Rel (cfg : Cfg) (n : Nat) (v : View) : Prop where
  ops : v.mon.ops ≤ n
  bad : v.mon.bad = false
  dead : v.mon.dead = false
  per : ∀ k, v.mon.retries k + (if v.mon.pending = some k then 1 else 0) ≤ v.counts k
  cap : ∀ k l, cfg.perClass k = some l → v.counts k ≤ l
  unk : v.mon.retries .unknown + (if v.mon.pending = some .unknown then 1 else 0) ≤ v.unknown
  ucap : ∀ l, cfg.maxUnknown = some l → v.unknown ≤ l

theorem Rel.good {cfg : Cfg} {n : Nat} {v : View} (h : Rel cfg n v) (hn : n ≤ cfg.maxAttempts) :
    Good cfg v.mon := by
  refine ⟨Nat.le_trans h.ops hn, h.bad, fun k l hl => ?_, fun l hl => ?_⟩
  · have h1 := h.per k
    have h2 := h.cap k l hl
    omega
  · have h1 := h.unk
    have h2 := h.ucap l hl
    omega

theorem Rel.mono {cfg : Cfg} {n n' : Nat} {v : View} (h : Rel cfg n v) (hn : n ≤ n') : Rel cfg n' v :=
  ⟨Nat.le_trans h.ops hn, h.bad, h.dead, h.per, h.cap, h.unk, h.ucap⟩

theorem Good.congr {cfg : Cfg} {m m' : St} (h : Good cfg m) (ho : m'.ops = m.ops) (hb : m'.bad = m.bad)
    (hr : m'.retries = m.retries) : Good cfg m' :=
  ⟨ho ▸ h.ops, hb ▸ h.bad, hr ▸ h.per, hr ▸ h.unk⟩

/-- an `op` request keeps the invariant: the pending class (if any) becomes one more counted retry -/
theorem Rel.opStep {cfg : Cfg} {n : Nat} {v : View} (h : Rel cfg n v) :
    Rel cfg (n + 1) { v with mon := opStep v.mon } := by
  unfold C01.opStep step
  simp only
  cases hp : v.mon.pending with
  | none =>
    refine ⟨by simpa using h.ops, by simp [h.bad, h.dead], by simp [h.dead], fun k => ?_, h.cap, ?_, h.ucap⟩
    · have := h.per k; simp_all
    · have := h.unk; simp_all
  | some k0 =>
    refine ⟨by simpa using h.ops, by simp [h.bad, h.dead], by simp [h.dead], fun k => ?_, h.cap, ?_, h.ucap⟩
    · have := h.per k
      by_cases hk : k = k0
      · subst hk; simp_all
      · have hk' : ¬ k0 = k := fun e => hk e.symm
        simp_all
    · have := h.unk
      by_cases hk : EClass.unknown = k0
      · subst hk; simp_all
      · have hk' : ¬ k0 = EClass.unknown := fun e => hk e.symm
        simp_all

theorem Rel.fail {cfg : Cfg} {n : Nat} {u : View} {k : EClass} (h : Rel cfg n u)
    (hcap : ∀ l, cfg.perClass k = some l → u.counts k + 1 ≤ l)
    (hnr : k.nonRetryable = false)
    (hu : k = .unknown → ∀ l, cfg.maxUnknown = some l → u.unknown + 1 ≤ l) :
    Rel cfg n ⟨clsStep u.mon k, bumpCount u.counts k, if k = .unknown then u.unknown + 1 else u.unknown⟩ := by
  refine ⟨h.ops, h.bad, by simp [clsStep, h.dead, hnr], fun k' => ?_, fun k' l hl => ?_, ?_, fun l hl => ?_⟩
  · have := h.per k'
    by_cases hk : k' = k
    · subst hk; simp [clsStep, bumpCount]; split at this <;> omega
    · have hk' : ¬ k = k' := fun e => hk e.symm
      simp [clsStep, bumpCount, hk, hk']; split at this <;> omega
  · by_cases hk : k' = k
    · subst hk; simpa [bumpCount] using hcap l hl
    · simpa [bumpCount, hk] using h.cap k' l hl
  · have := h.unk
    by_cases hk : k = .unknown
    · subst hk; simp [clsStep]; split at this <;> omega
    · simp [clsStep, hk]; split at this <;> omega
  · by_cases hk : k = .unknown
    · simpa [hk] using hu hk l hl
    · simpa [hk] using h.ucap l hl

theorem Good.cls {cfg : Cfg} {m : St} (h : Good cfg m) (k : EClass) : Good cfg (clsStep m k) :=
  h.congr rfl rfl rfl

theorem step_classify_other (m : St) (x : String) (a : Ans) (h : ∀ c d, a = .klass c d → False) :
    step m (.classify x, a) = m := by
  cases a <;> first | rfl | exact (h _ _ rfl).elim

theorem step_resultClassify_other (m : St) (x : Nat) (a : Ans) (h : ∀ c d, a = .klass c d → False) :
    step m (.resultClassify x, a) = m := by
  cases a <;> first | rfl | exact (h _ _ rfl).elim

theorem ask_spec (v : View) (r : Req) :
    ⦃fun w => ⌜view w = v⌝⦄ ask r
    ⦃post⟨fun a w => ⌜(∀ e d, a ≠ .raise e d) ∧ view w = { v with mon := step v.mon (r, a) }⌝,
          fun e w => ⌜∃ d, view w = { v with mon := step v.mon (r, .raise e d) }⌝⟩⦄ :=
  ask_view view (fun v x => { v with mon := step v.mon x }) (fun _ _ => rfl) v r

theorem invokeOp_spec (v : View) (a : Nat) :
    ⦃fun w => ⌜view w = v⌝⦄ invokeOp a
    ⦃post⟨fun _ w => ⌜view w = { v with mon := opStep v.mon }⌝,
          fun _ w => ⌜view w = { v with mon := opStep v.mon }⌝⟩⦄ := by
  mvcgen [invokeOp, ask_spec]
  all_goals subst_vars
  · exact (‹_ ∧ _›).2
  · exact (‹_ ∧ _›).2
  · exact fun ⟨_, h⟩ => h

theorem callClassifier_spec (v : View) (e : Exn) :
    ⦃fun w => ⌜view w = v⌝⦄ callClassifier e
    ⦃post⟨fun c w => ⌜view w = { v with mon := clsStep v.mon c.klass }⌝, fun _ w => ⌜view w = v⌝⟩⦄ := by
  mvcgen [callClassifier, ask_spec]
  all_goals subst_vars
  · exact (‹_ ∧ _›).2
  · obtain ⟨_, h⟩ := ‹_ ∧ _›
    rw [h, step_classify_other _ _ _ ‹_›]
  · exact fun ⟨_, h⟩ => h

theorem shouldClassifyResult_spec (v : View) (cfg : Cfg) (x : Nat) :
    ⦃fun w => ⌜view w = v⌝⦄ shouldClassifyResult cfg x
    ⦃post⟨fun r w => ⌜match r with
                      | none => view w = v
                      | some c => view w = { v with mon := clsStep v.mon c.klass }⌝,
          fun _ w => ⌜view w = v⌝⟩⦄ := by
  mvcgen [shouldClassifyResult, ask_spec]
  all_goals subst_vars
  · exact (‹_ ∧ _›).2
  · exact (‹_ ∧ _›).2
  · obtain ⟨_, h⟩ := ‹_ ∧ _›
    rw [h, step_resultClassify_other _ _ _ ‹_›]
  · exact fun ⟨_, h⟩ => h

attribute [local spec] invokeOp_spec callClassifier_spec shouldClassifyResult_spec

abbrev failPost (cfg : Cfg) (n : Nat) : PostCond Decision (.except Exn (.arg World .pure)) :=
  post⟨fun d w => ⌜Good cfg (view w).mon ∧ (d ≠ .raise → Rel cfg n (view w))⌝,
       fun _ w => ⌜Good cfg (view w).mon⌝⟩

theorem recordFailure_v (v : View) (c : Classification) (cause : Cause) (e : Option Exn) (r : Option Nat) :
    ⦃fun w => ⌜view w = v⌝⦄ Retry.recordFailure c cause e r ⦃same v⦄ := by
  mvcgen -leave -trivial [Retry.recordFailure, modifyRS_v]
  vc_intro
  vc_close

attribute [local spec] recordFailure_v

theorem overPerClass_false {cfg : Cfg} {f : EClass → Nat} {k : EClass}
    (h : overPerClass cfg (bumpCount f k) k = false) : ∀ l, cfg.perClass k = some l → f k + 1 ≤ l := by
  intro l hl
  simp [overPerClass, hl, bumpCount] at h
  omega

theorem overUnknown_false {cfg : Cfg} {n : Nat} (h : ¬ overUnknown cfg n = true) :
    ∀ l, cfg.maxUnknown = some l → n ≤ l := by
  intro l hl
  simp [overUnknown, hl] at h
  omega

theorem failPost_of_rel {cfg : Cfg} {n : Nat} {d : Decision} {w : World} {v : View} (hrel : Rel cfg n v)
    (hn : n ≤ cfg.maxAttempts) (hv : view w = v) : Good cfg (view w).mon ∧ (d ≠ .raise → Rel cfg n (view w)) :=
  hv ▸ ⟨hrel.good hn, fun _ => hrel⟩

theorem handleUnknown_spec (cfg : Cfg) (tl : Bool) (c : Classification) (a : Nat) (cause : Cause)
    (e : Option Exn) (n : Nat) (u : View) (hr : Rel cfg n u)
    (hn : n ≤ cfg.maxAttempts) (hk : c.klass = .unknown)
    (hcap : overPerClass cfg (bumpCount u.counts c.klass) c.klass = false) :
    ⦃fun w => ⌜view w = ⟨clsStep u.mon c.klass, bumpCount u.counts c.klass, u.unknown⟩⌝⦄
    handleUnknown cfg tl c a cause e ⦃failPost cfg n⦄ := by
  have hg : Good cfg (clsStep u.mon c.klass) := (hr.good hn).cls _
  mvcgen -leave [handleUnknown, getRS, modifyRS]
  vc_intro
  -- the UNKNOWN cap is not exceeded and `handleFailure2` has run: the invariant holds with the new counters
  case vc3 =>
    have hrel := hr.fail (overPerClass_false hcap) (by simp [hk, EClass.nonRetryable]) (fun _ => by
      have := overUnknown_false ‹¬overUnknown cfg _ = true›
      simp_all +zetaDelta [view])
    exact failPost_of_rel hrel hn (by simp_all +zetaDelta [view])
  -- the cap is exceeded: the handler stops, the view is as before
  all_goals (simp_all +zetaDelta [view]; done)

theorem handleFailure1_spec (cfg : Cfg) (tl : Bool) (c : Classification) (a : Nat) (cause : Cause)
    (e : Option Exn) (n : Nat) (u : View) (hr : Rel cfg n u) (hn : n ≤ cfg.maxAttempts) :
    ⦃fun w => ⌜view w = ⟨clsStep u.mon c.klass, bumpCount u.counts c.klass, u.unknown⟩⌝⦄
    handleFailure1 cfg tl c a cause e ⦃failPost cfg n⦄ := by
  have hg : Good cfg (clsStep u.mon c.klass) := (hr.good hn).cls _
  mvcgen -leave [handleFailure1, getRS, handleUnknown_spec]
  vc_intro
  -- a retryable class other than UNKNOWN within its cap, and `handleFailure2` has run
  case vc11 =>
    have hc : _ = bumpCount u.counts c.klass := congrArg View.counts ‹view _ = ⟨_, _, _⟩›
    have hrel := hr.fail (overPerClass_false (by rw [← hc]; simpa using ‹¬overPerClass cfg _ _ = true›))
      (by simpa using ‹¬c.klass.nonRetryable = true›) (fun h => absurd h ‹¬c.klass = .unknown›)
    exact failPost_of_rel hrel hn (by simp_all +zetaDelta [view])
  -- the other branches stop, or hand over to `handleUnknown_spec`
  all_goals (simp_all +zetaDelta [view]; done)

theorem handleFailure_spec (cfg : Cfg) (tl : Bool) (c : Classification) (a : Nat) (cause : Cause)
    (e : Option Exn) (r : Option Nat) (n : Nat) (u : View) (hr : Rel cfg n u)
    (hn : n ≤ cfg.maxAttempts) :
    ⦃fun w => ⌜view w = { u with mon := clsStep u.mon c.klass }⌝⦄
    handleFailure cfg tl c a cause e r ⦃failPost cfg n⦄ := by
  have hg : Good cfg (clsStep u.mon c.klass) := (hr.good hn).cls _
  mvcgen -leave [handleFailure, modifyRS, handleFailure1_spec]
  vc_intro
  all_goals (simp_all +zetaDelta [view]; done)

theorem deliverCall_r (v : View) (o : AOutcome) (rs : RState) (a : Nat) (fr : Bool) (orig : Option Exn)
    (fb : ExhaustedFields) :
    ⦃fun w => ⌜view w = v⌝⦄ deliverCall (determineAction o rs a fr) orig fb
    ⦃post⟨fun r w => ⌜(r = none ∧ o.decision = .retry) ∧ view w = v⌝, fun _ w => ⌜view w = v⌝⟩⦄ :=
  triple_mono (deliverCall_v v _ orig fb) (fun _ h => h)
    (fun _ _ h => ⟨⟨h.1.1, (determineAction_continue_iff _ _ _ _).mp h.1.2⟩, h.2⟩) (fun _ _ h => h)

theorem deliverExecute_r (v : View) (cfg : Cfg) (tl : Bool) (o : AOutcome) (rs : RState) (a : Nat) (fr : Bool) :
    ⦃fun w => ⌜view w = v⌝⦄ deliverExecute cfg tl (determineAction o rs a fr) o
    ⦃post⟨fun r w => ⌜(r = none → o.decision = .retry) ∧ view w = v⌝, fun _ w => ⌜view w = v⌝⟩⦄ :=
  triple_mono (deliverExecute_v v cfg tl _ o) (fun _ h => h)
    (fun _ _ h => ⟨fun hn => (determineAction_continue_iff _ _ _ _).mp (h.1 hn), h.2⟩) (fun _ _ h => h)

-- (`deliverCall_v` / `deliverExecute_v` are not registered: with both in scope `mvcgen` takes the general one)
attribute [local spec] deliverCall_r deliverExecute_r

/-- the sleep protocol and `_finalize_attempt` keep what the failure handler established; an outcome that
    lets the loop go on comes from a decision to retry -/
theorem failureOutcome_rel (cfg : Cfg) (tl : Bool) (a : Nat) (d : Decision) (cls : Option Classification)
    (e : Option Exn) (r : Option Nat) (c : Option Cause) (n : Nat) (v : View) (hg : Good cfg v.mon)
    (hrel : d ≠ .raise → Rel cfg n v) :
    ⦃fun w => ⌜view w = v⌝⦄ failureOutcome cfg tl a d cls e r c
    ⦃post⟨fun o w => ⌜Good cfg (view w).mon ∧ (o.decision = .retry → Rel cfg n (view w))⌝,
          fun _ w => ⌜Good cfg (view w).mon⌝⟩⦄ :=
  triple_mono (failureOutcome_v v cfg tl a d cls e r c) (fun _ h => h)
    (fun _ _ h => ⟨h.2 ▸ hg, fun ho => h.2 ▸ hrel (h.1 ho)⟩) (fun _ _ h => h ▸ hg)


theorem handleException_spec (cfg : Cfg) (tl : Bool) (e : Exn) (a n : Nat) (u : View)
    (hr : Rel cfg n u) (hn : n ≤ cfg.maxAttempts) :
    ⦃fun w => ⌜view w = u⌝⦄ handleException cfg tl e a ⦃failPost cfg n⦄ := by
  have hg := hr.good hn
  have hhf := fun c => handleFailure_spec cfg tl c a .exception (some e) none n u hr hn
  mvcgen -leave -trivial [handleException, hhf]
  vc_intro
  vc_close


abbrev attemptPost (cfg : Cfg) (n : Nat) : PostCond (Option α) (.except Exn (.arg World .pure)) :=
  post⟨fun r w => ⌜Good cfg (view w).mon ∧ (r = none → Rel cfg n (view w))⌝,
       fun _ w => ⌜Good cfg (view w).mon⌝⟩

theorem callExceptionPath_spec (cfg : Cfg) (a : Nat) (e : Exn) (n : Nat) (u : View)
    (hr : Rel cfg n u) (hn : n ≤ cfg.maxAttempts) :
    ⦃fun w => ⌜view w = u⌝⦄ callExceptionPath cfg a e ⦃attemptPost cfg n⦄ := by
  have hg := hr.good hn
  have hfo := fun d cls v hg hrel => failureOutcome_rel cfg false a d cls (some e) none (some .exception) n v hg hrel
  have hhe := handleException_spec cfg false e a n u hr hn
  mvcgen -leave -trivial [callExceptionPath, getRS, hfo, hhe]
  vc_intro
  vc_close

attribute [local spec] callExceptionPath_spec

theorem callOpHandler_spec (cfg : Cfg) (a : Nat) (e : Exn) (n : Nat) (u : View)
    (hr : Rel cfg n u) (hn : n ≤ cfg.maxAttempts) :
    ⦃fun w => ⌜view w = u⌝⦄ callOpHandler cfg a e ⦃attemptPost cfg n⦄ := by
  have hg := hr.good hn
  mvcgen -leave -trivial [callOpHandler]
  vc_intro
  vc_close

theorem callResultFailure_spec (cfg : Cfg) (a x : Nat) (c : Classification) (n : Nat) (u : View)
    (hr : Rel cfg n u) (hn : n ≤ cfg.maxAttempts) :
    ⦃fun w => ⌜view w = { u with mon := clsStep u.mon c.klass }⌝⦄ callResultFailure cfg a x c
    ⦃attemptPost cfg n⦄ := by
  have hg : Good cfg (clsStep u.mon c.klass) := (hr.good hn).cls _
  have hfo := fun d cls v hg hrel => failureOutcome_rel cfg false a d cls none (some x) (some .result) n v hg hrel
  have hhf := handleFailure_spec cfg false c a .result none (some x) n u hr hn
  mvcgen -leave -trivial [callResultFailure, getRS, hfo, hhf]
  vc_intro
  vc_close

attribute [local spec] callOpHandler_spec

theorem callResultPath_spec (cfg : Cfg) (a x : Nat) (n : Nat) (u : View)
    (hr : Rel cfg n u) (hn : n ≤ cfg.maxAttempts) :
    ⦃fun w => ⌜view w = u⌝⦄ callResultPath cfg a x ⦃attemptPost cfg n⦄ := by
  have hg := hr.good hn
  have hrf := fun c => callResultFailure_spec cfg a x c n u hr hn
  mvcgen -leave -trivial [callResultPath, hrf]
  vc_intro
  vc_close

attribute [local spec] callResultPath_spec

theorem callAttempt_spec (cfg : Cfg) (a : Nat) (n : Nat) (u : View)
    (hr : Rel cfg n u) (hn : n + 1 ≤ cfg.maxAttempts) :
    ⦃fun w => ⌜view w = u⌝⦄ callAttempt cfg a ⦃attemptPost cfg (n + 1)⦄ := by
  have hg := hr.good (Nat.le_of_succ_le hn)   -- for the exits before the operation is invoked
  have ho := hr.opStep                         -- the precondition of the result path and of the `except` ladder
  have hgo := ho.good hn                       -- for the exits by which the operation's own error propagates
  mvcgen -leave -trivial [callAttempt]
  vc_intro
  all_goals try simp +zetaDelta only [view_setAs] at *
  vc_close

theorem callLoop_spec (cfg : Cfg) : ∀ (fuel a n : Nat) (u : View), Rel cfg n u → n + fuel = cfg.maxAttempts →
    ⦃fun w => ⌜view w = u⌝⦄ callLoop cfg fuel a
    ⦃post⟨fun _ w => ⌜Good cfg (view w).mon⌝, fun _ w => ⌜Good cfg (view w).mon⌝⟩⦄ := by
  intro fuel
  induction fuel with
  | zero =>
    intro a n u hr hn
    have hg := hr.good (by omega)
    mvcgen -leave -trivial [callLoop]
    vc_intro
    vc_close
  | succ f ih =>
    intro a n u hr hn
    have hg := hr.good (by omega)
    have hn1 : n + 1 ≤ cfg.maxAttempts := by omega
    have h2 := fun u hr => ih (a + 1) (n + 1) u hr (by omega)
    have h1 := callAttempt_spec cfg a n u hr hn1
    mvcgen -leave -trivial [callLoop, h1, h2]
    vc_intro
    vc_close

theorem initState_spec (m : St) :
    ⦃fun w => ⌜cur w.trace = m⌝⦄ initState
    ⦃post⟨fun _ w => ⌜view w = ⟨m, fun _ => 0, 0⟩⌝, fun _ w => ⌜view w = ⟨m, fun _ => 0, 0⟩⌝⟩⦄ := by
  mvcgen [initState]
  all_goals (subst_vars; simp_all +zetaDelta [view])

theorem Rel.init (cfg : Cfg) : Rel cfg 0 ⟨{}, fun _ => 0, 0⟩ :=
  ⟨Nat.le_refl _, rfl, rfl, fun _ => by simp, fun _ _ _ => Nat.zero_le _, by simp, fun _ _ => Nat.zero_le _⟩

attribute [local spec] initState_spec

/-- `Retry.call` (and its async twin): the monitor's verdict holds at the end, however it ends -/
theorem runCall_spec (cfg : Cfg) :
    ⦃fun w => ⌜cur w.trace = {}⌝⦄ runCall cfg
    ⦃post⟨fun _ w => ⌜Good cfg (view w).mon⌝, fun _ w => ⌜Good cfg (view w).mon⌝⟩⦄ := by
  have hloop := callLoop_spec cfg cfg.maxAttempts 1 0 ⟨{}, fun _ => 0, 0⟩ (Rel.init cfg) (by omega)
  have hg0 : Good cfg ({} : St) := (Rel.init cfg).good (Nat.zero_le _)
  mvcgen -leave -trivial [runCall, hloop]
  vc_intro
  vc_close

theorem execResultFailure_spec (cfg : Cfg) (tl : Bool) (a x : Nat) (c : Classification) (n : Nat)
    (u : View) (hr : Rel cfg n u) (hn : n ≤ cfg.maxAttempts) :
    ⦃fun w => ⌜view w = { u with mon := clsStep u.mon c.klass }⌝⦄ execResultFailure cfg tl a x c
    ⦃attemptPost cfg n⦄ := by
  have hg : Good cfg (clsStep u.mon c.klass) := (hr.good hn).cls _
  have hfo := fun d cls v hg hrel => failureOutcome_rel cfg tl a d cls none (some x) (some .result) n v hg hrel
  have hhf := handleFailure_spec cfg tl c a .result none (some x) n u hr hn
  mvcgen -leave -trivial [execResultFailure, getRS, hfo, hhf]
  vc_intro
  vc_close


theorem execResultPath_spec (cfg : Cfg) (tl : Bool) (a x : Nat) (n : Nat) (u : View)
    (hr : Rel cfg n u) (hn : n ≤ cfg.maxAttempts) :
    ⦃fun w => ⌜view w = u⌝⦄ execResultPath cfg tl a x ⦃attemptPost cfg n⦄ := by
  have hg := hr.good hn
  have hrf := fun c => execResultFailure_spec cfg tl a x c n u hr hn
  mvcgen -leave -trivial [execResultPath, hrf]
  vc_intro
  vc_close

theorem execPre_spec (cfg : Cfg) (tl : Bool) (a : Nat) (n : Nat) (u : View) (hr : Rel cfg n u) :
    ⦃fun w => ⌜view w = u⌝⦄ execPre cfg tl a
    ⦃post⟨fun _ w => ⌜Rel cfg (n + 1) (view w)⌝, fun _ w => ⌜Rel cfg (n + 1) (view w)⌝⟩⦄ := by
  have hr1 := hr.mono (Nat.le_succ n)
  have ho := hr.opStep
  mvcgen -leave -trivial [execPre]
  vc_intro
  all_goals try simp +zetaDelta only [view_setAttempts] at *
  vc_close

theorem execAbortExit_v (v : View) (cfg : Cfg) (tl : Bool) (a : Nat) (e : Exn) :
    ⦃fun w => ⌜view w = v⌝⦄ execAbortExit cfg tl a e
    ⦃post⟨fun r w => ⌜r ≠ none ∧ view w = v⌝, fun _ w => ⌜view w = v⌝⟩⦄ := by
  mvcgen -leave -trivial [execAbortExit]
  vc_intro
  vc_close

theorem checkAbortCaught_v (v : View) (cfg : Cfg) (tl : Bool) (a : Nat) :
    ⦃fun w => ⌜view w = v⌝⦄ checkAbortCaught cfg tl a ⦃same v⦄ := by
  mvcgen -leave -trivial [checkAbortCaught, abortToTrue]
  vc_intro
  vc_close

attribute [local spec] execAbortExit_v checkAbortCaught_v

theorem execExceptionPath3_spec (cfg : Cfg) (tl : Bool) (a : Nat) (e : Exn) (d : Decision) (n : Nat)
    (v : View) (hg : Good cfg v.mon) (hr : d ≠ .raise → Rel cfg n v) :
    ⦃fun w => ⌜view w = v⌝⦄ execExceptionPath3 cfg tl a e d ⦃attemptPost cfg n⦄ := by
  have hfo := fun cls => failureOutcome_rel cfg tl a d cls (some e) none (some .exception) n v hg hr
  mvcgen -leave -trivial [execExceptionPath3, getRS, hfo]
  vc_intro
  vc_close

attribute [local spec] execExceptionPath3_spec

theorem execExceptionPath2_spec (cfg : Cfg) (tl : Bool) (a : Nat) (e : Exn) (n : Nat) (u : View)
    (hr : Rel cfg n u) (hn : n ≤ cfg.maxAttempts) :
    ⦃fun w => ⌜view w = u⌝⦄ execExceptionPath2 cfg tl a e ⦃attemptPost cfg n⦄ := by
  have hg := hr.good hn
  have hhe := handleException_spec cfg tl e a n u hr hn
  mvcgen -leave -trivial [execExceptionPath2, getRS, hhe]
  vc_intro
  vc_close

attribute [local spec] execExceptionPath2_spec

theorem execExceptionPath_spec (cfg : Cfg) (tl : Bool) (a : Nat) (e : Exn) (n : Nat) (u : View)
    (hr : Rel cfg n u) (hn : n ≤ cfg.maxAttempts) :
    ⦃fun w => ⌜view w = u⌝⦄ execExceptionPath cfg tl a e ⦃attemptPost cfg n⦄ := by
  have hg := hr.good hn
  mvcgen -leave -trivial [execExceptionPath]
  vc_intro
  vc_close

attribute [local spec] execExceptionPath_spec

theorem execHandler_spec (cfg : Cfg) (tl : Bool) (a : Nat) (e : Exn) (n : Nat) (u : View)
    (hr : Rel cfg n u) (hn : n ≤ cfg.maxAttempts) :
    ⦃fun w => ⌜view w = u⌝⦄ execHandler cfg tl a e ⦃attemptPost cfg n⦄ := by
  have hg := hr.good hn
  mvcgen -leave -trivial [execHandler]
  vc_intro
  vc_close

theorem execReturnedHandler_spec (cfg : Cfg) (tl : Bool) (a : Nat) (e : Exn) (v : View)
    (hg : Good cfg v.mon) :
    ⦃fun w => ⌜view w = v⌝⦄ execReturnedHandler cfg tl a e
    ⦃post⟨fun r w => ⌜Good cfg (view w).mon ∧ r ≠ none⌝, fun _ w => ⌜Good cfg (view w).mon⌝⟩⦄ := by
  mvcgen -leave -trivial [execReturnedHandler]
  vc_intro
  vc_close

theorem execAttempt_spec (cfg : Cfg) (tl : Bool) (a : Nat) (n : Nat) (u : View)
    (hr : Rel cfg n u) (hn : n + 1 ≤ cfg.maxAttempts) :
    ⦃fun w => ⌜view w = u⌝⦄ execAttempt cfg tl a ⦃attemptPost cfg (n + 1)⦄ := by
  have hg := hr.good (Nat.le_of_succ_le hn)
  have hpre := execPre_spec cfg tl a n u hr
  have hh := fun e v hv => execHandler_spec cfg tl a e (n + 1) v hv hn
  have hrp := fun x v hv => execResultPath_spec cfg tl a x (n + 1) v hv hn
  have hrh := fun e v hv => execReturnedHandler_spec cfg tl a e v hv
  mvcgen -leave [execAttempt, hpre, hh, hrp, hrh]
  vc_intro
  vc_close

theorem execLoop_spec (cfg : Cfg) (tl : Bool) : ∀ (fuel a n : Nat) (u : View), Rel cfg n u →
    n + fuel = cfg.maxAttempts →
    ⦃fun w => ⌜view w = u⌝⦄ execLoop cfg tl fuel a
    ⦃post⟨fun _ w => ⌜Good cfg (view w).mon⌝, fun _ w => ⌜Good cfg (view w).mon⌝⟩⦄ := by
  intro fuel
  induction fuel with
  | zero =>
    intro a n u hr hn
    have hg := hr.good (by omega)
    mvcgen -leave -trivial [execLoop]
    vc_intro
    vc_close
  | succ f ih =>
    intro a n u hr hn
    have hg := hr.good (by omega)
    have hn1 : n + 1 ≤ cfg.maxAttempts := by omega
    have h2 := fun u hr => ih (a + 1) (n + 1) u hr (by omega)
    have h1 := execAttempt_spec cfg tl a n u hr hn1
    mvcgen -leave -trivial [execLoop, h1, h2]
    vc_intro
    vc_close

/-- `Retry.execute` (and its async twin) -/
theorem runExecute_spec (cfg : Cfg) :
    ⦃fun w => ⌜cur w.trace = {}⌝⦄ runExecute cfg
    ⦃post⟨fun _ w => ⌜Good cfg (view w).mon⌝, fun _ w => ⌜Good cfg (view w).mon⌝⟩⦄ := by
  have hloop := execLoop_spec cfg cfg.timeline cfg.maxAttempts 1 0 ⟨{}, fun _ => 0, 0⟩ (Rel.init cfg) (by omega)
  have hg0 : Good cfg ({} : St) := (Rel.init cfg).good (Nat.zero_le _)
  mvcgen -leave -trivial [runExecute, hloop]
  vc_intro
  all_goals simp +zetaDelta only [] at *
  vc_close

open Policy

def nonOpK : Kind → Bool
  | .op => false
  | _ => true

/-- what the verdict reads of the monitor state -/
def seen (m : St) : Nat × Bool × (EClass → Nat) := (m.ops, m.bad, m.retries)

theorem step_nonOp (s : St) (x : Req × Ans) (h : nonOpK x.1.kind = true) : seen (step s x) = seen s := by
  obtain ⟨r, a⟩ := x
  cases r
  case op => cases h
  all_goals (simp only [step]; split <;> rfl)

theorem cur_append_nonOp (δ t : List (Req × Ans)) (h : ∀ x ∈ δ, nonOpK x.1.kind = true) :
    seen (cur (δ ++ t)) = seen (cur t) :=
  foldr_append_proj step {} seen _ step_nonOp δ t h

theorem seen_foot (w w' : World) (h : Foot nonOpK w w') : seen (cur w'.trace) = seen (cur w.trace) := by
  obtain ⟨δ, e, k⟩ := h.trace
  rw [e]
  exact cur_append_nonOp δ _ k

theorem good_foot (cfg : Cfg) (w w' : World) (h : Foot nonOpK w w') (hg : Good cfg (cur w.trace)) :
    Good cfg (cur w'.trace) := by
  have := seen_foot w w' h
  simp only [seen, Prod.mk.injEq] at this
  exact hg.congr this.1 this.2.1 this.2.2

theorem ops_foot (n : Nat) (w w' : World) (h : Foot nonOpK w w') (hg : (cur w.trace).ops ≤ n) :
    (cur w'.trace).ops ≤ n := by
  have : (cur w'.trace).ops = (cur w.trace).ops := congrArg Prod.fst (seen_foot w w' h)
  omega

theorem opStep_ops (m : St) : (opStep m).ops = m.ops + 1 := by
  unfold opStep step
  cases m.pending <;> rfl

theorem good_empty (cfg : Cfg) : Good cfg ({} : St) := (Rel.init cfg).good (Nat.zero_le _)

abbrev goodPost (cfg : Cfg) : PostCond α (.except Exn (.arg World .pure)) :=
  post⟨fun _ w => ⌜Good cfg (cur w.trace)⌝, fun _ w => ⌜Good cfg (cur w.trace)⌝⟩

section policyLeaves
variable (cfg : Cfg)

theorem initCtx_v (v : View) : ⦃fun w => ⌜view w = v⌝⦄ initCtx ⦃same v⦄ :=
  view_of_foot view (fun w0 => initCtx_foot inertK w0) view_foot v

theorem checkBreaker_v (v : View) : ⦃fun w => ⌜view w = v⌝⦄ checkBreaker cfg ⦃same v⦄ :=
  view_of_foot view (fun w0 => checkBreaker_foot inertK w0 rfl rfl rfl cfg) view_foot v

theorem breakerAllow_v (v : View) (bc : Breaker.Cfg) :
    ⦃fun w => ⌜view w = v⌝⦄ breakerAllow bc ⦃same v⦄ :=
  view_of_foot view (fun w0 => breakerAllow_foot inertK w0 rfl bc) view_foot v

theorem emitBreakerEvent_v (v : View) (ev : Option Event) (st : CState) (k : Option EClass) :
    ⦃fun w => ⌜view w = v⌝⦄ emitBreakerEvent cfg ev st k ⦃same v⦄ :=
  view_of_foot view (fun w0 => emitBreakerEvent_foot inertK w0 rfl rfl cfg ev st k) view_foot v

theorem checkAbortNoRetry_v (v : View) : ⦃fun w => ⌜view w = v⌝⦄ checkAbortNoRetry cfg ⦃same v⦄ :=
  view_of_foot view (fun w0 => checkAbortNoRetry_foot inertK w0 rfl rfl cfg) view_foot v

theorem noRetryStartHook_v (v : View) : ⦃fun w => ⌜view w = v⌝⦄ noRetryStartHook cfg ⦃same v⦄ :=
  view_of_foot view (fun w0 => noRetryStartHook_foot inertK w0 rfl cfg) view_foot v

end policyLeaves

theorem invokeOp_ops (a : Nat) :
    ⦃fun w => ⌜(cur w.trace).ops = 0⌝⦄ invokeOp a ⦃keeps fun w => (cur w.trace).ops ≤ 1⦄ := by
  -- `invokeOp_spec`: the monitor afterwards is `opStep` of the monitor before, on both exits
  apply triple_of_run
  intro w h0
  have hops : ∀ w', view w' = { view w with mon := opStep (view w).mon } → (cur w'.trace).ops ≤ 1 := fun w' h => by
    have : (cur w'.trace).ops = (opStep (cur w.trace)).ops := congrArg (fun v => v.mon.ops) h
    rw [this, opStep_ops, h0]
    exact Nat.le_refl 1
  have := adequacy (invokeOp_spec (view w) a) w rfl
  split <;> simp only [*] at this ⊢ <;> exact hops _ this

theorem shell_nonOp (k : Kind) (h : shellK k = true) : nonOpK k = true := by cases k <;> first | rfl | cases h

theorem admit_inert (k : Kind) (h : admitK k = true) : inertK k = true := by cases k <;> first | rfl | cases h

theorem cur_admit (m : St) (w w' : World) (h : Foot admitK w w') (hm : cur w.trace = m) : cur w'.trace = m :=
  (congrArg View.mon (view_foot w w' (h.mono admit_inert))).trans hm

/-- `Policy.call` with a retry component (also `RetryPolicy.call`, `@retry`, contexts, async twins):
    nothing outside the retry loop invokes the operation -/
theorem call_retry_spec (cfg : Cfg) (hret : cfg.hasRetry = true) :
    ⦃fun w => ⌜cur w.trace = {}⌝⦄ Policy.call cfg ⦃goodPost cfg⦄ :=
  call_retry_frame cfg (fun w w' h => cur_admit {} w w' (h.mono admitK_of_allowK)) (fun w w' h => good_foot cfg w w' (h.mono shell_nonOp))
    (fun _ h => h ▸ good_empty cfg) hret (runCall_spec cfg)

/-- `Policy.execute` with a retry component -/
theorem execute_retry_spec (cfg : Cfg) (hret : cfg.hasRetry = true) :
    ⦃fun w => ⌜cur w.trace = {}⌝⦄ Policy.execute cfg ⦃goodPost cfg⦄ :=
  execute_retry_frame cfg (fun w w' h => cur_admit {} w w' (h.mono admitK_of_allowK)) (fun w w' h => good_foot cfg w w' (h.mono shell_nonOp))
    (fun _ h => h ▸ good_empty cfg) hret (runExecute_spec cfg)

abbrev opsPost (n : Nat) : PostCond α (.except Exn (.arg World .pure)) :=
  post⟨fun _ w => ⌜(cur w.trace).ops ≤ n⌝, fun _ w => ⌜(cur w.trace).ops ≤ n⌝⟩

/-- `Policy.call` without a retry component: the operation is invoked at most once -/
theorem call_nr_spec (cfg : Cfg) (hret : cfg.hasRetry = false) :
    ⦃fun w => ⌜(cur w.trace).ops = 0⌝⦄ Policy.call cfg ⦃opsPost 1⦄ :=
  call_nr_frame cfg (fun w w' h h0 => congrArg St.ops (cur_admit _ w w' h rfl) ▸ h0)
    (fun w w' h => ops_foot 1 w w' (h.mono shell_nonOp)) (fun _ h => h ▸ Nat.zero_le 1) hret (invokeOp_ops 1)

/-- `Policy.execute` without a retry component -/
theorem execute_nr_spec (cfg : Cfg) (hret : cfg.hasRetry = false) :
    ⦃fun w => ⌜(cur w.trace).ops = 0⌝⦄ Policy.execute cfg ⦃opsPost 1⦄ :=
  execute_nr_frame cfg (fun w w' h h0 => congrArg St.ops (cur_admit _ w w' h rfl) ▸ h0)
    (fun w w' h => ops_foot 1 w w' (h.mono shell_nonOp)) (fun _ h => h ▸ Nat.zero_le 1) hret (invokeOp_ops 1)

theorem verdict_of_good {cfg : Cfg} {e : Entry} {m : St} (hl : hasLoop cfg e = true) (h : Good cfg m) :
    verdict cfg e m = true := by
  unfold verdict
  simp only [hl, if_true, Bool.and_eq_true, decide_eq_true_eq, Bool.not_eq_true', List.all_eq_true]
  refine ⟨⟨⟨h.ops, h.bad⟩, fun k _ => ?_⟩, ?_⟩
  · cases hk : cfg.perClass k with
    | none => rfl
    | some l => simpa using h.per k l hk
  · cases hk : cfg.maxUnknown with
    | none => rfl
    | some l => simpa using h.unk l hk

theorem verdict_of_ops {cfg : Cfg} {e : Entry} {m : St} (hl : hasLoop cfg e = false) (h : m.ops ≤ 1) :
    verdict cfg e m = true := by
  unfold verdict
  simp [hl, h]

theorem cur_start (w : World) : cur (startWorld w).trace = {} := rfl

/--
**C01.**  For every configuration, every entry point (`Retry`/`Policy` × `call`/`execute`; the async
twins, `RetryPolicy`, contexts and `@retry` are these by argument forwarding), and every world — i.e.
every answer stream (outcomes of every class, exception- or result-classified, any durations, any
callback raising anything at any invocation), every clock value and every state of a shared budget
or breaker — the run satisfies the caps monitor:

* the operation is invoked at most `max_attempts` times (at most once without a retry component);
* it is never invoked after a failure classified PERMANENT, AUTH or PERMISSION;
* the attempts that follow failures of class `K` never exceed `per_class_max_attempts[K]`;
* the attempts that follow UNKNOWN failures never exceed `max_unknown_attempts`.
-/
theorem caps_hold (cfg : Cfg) (e : Entry) (w : World) :
    Mon.C01.ok cfg e (runEntry cfg e w).2.trace.reverse (runEntry cfg e w).1 = true := by
  unfold Mon.C01.ok
  rw [run_reverse]
  cases e with
  | call =>
    exact verdict_of_good (cfg := cfg) (e := .call) (hl := rfl)
      (toRes_of_triple (Q := fun _ w => Good cfg (cur w.trace)) (runCall_spec cfg) _ (cur_start w))
  | execute =>
    exact verdict_of_good (cfg := cfg) (e := .execute) (hl := rfl)
      (toResO_of_triple (Q := fun _ w => Good cfg (cur w.trace)) _ (runExecute_spec cfg) _ (cur_start w))
  | pcall =>
    cases hret : cfg.hasRetry with
    | true =>
      exact verdict_of_good (hl := by simp [hasLoop, hret])
        (toRes_of_triple (Q := fun _ w => Good cfg (cur w.trace)) (call_retry_spec cfg hret) _ (cur_start w))
    | false =>
      exact verdict_of_ops (cfg := cfg) (hl := by simp [hasLoop, hret, Entry.isPolicy])
        (toRes_of_triple (Q := fun _ w => (cur w.trace).ops ≤ 1) (call_nr_spec cfg hret) _ rfl)
  | pexecute =>
    cases hret : cfg.hasRetry with
    | true =>
      exact verdict_of_good (hl := by simp [hasLoop, hret])
        (toResO_of_triple (Q := fun _ w => Good cfg (cur w.trace)) _ (execute_retry_spec cfg hret) _ (cur_start w))
    | false =>
      exact verdict_of_ops (cfg := cfg) (hl := by simp [hasLoop, hret, Entry.isPolicy])
        (toResO_of_triple (Q := fun _ w => (cur w.trace).ops ≤ 1) _ (execute_nr_spec cfg hret) _ rfl)

/-- …and therefore of every call in every script of calls and clock advances on ONE policy object
    ("no counter carries over between calls"): whatever state earlier calls left behind. -/
theorem caps_hold_script (cfg : Cfg) : ∀ (steps : List Step) (w : World),
    ∀ l ∈ (runScript cfg steps w).1, Mon.C01.ok cfg l.entry l.trace l.res = true :=
  forall_script (P := fun e t r => Mon.C01.ok cfg e t r = true) cfg (caps_hold cfg)

end Redress.Props.C01
