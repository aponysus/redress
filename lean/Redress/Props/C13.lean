/-
  C13 — Abort and cancellation stop work immediately and are never retried.

  First half: `abort_cancel_hold` — for EVERY configuration, answer stream and entry point the monitor
  `Mon.C13.ok` (the one the driver also evaluates on implementation traces; it has no guard) accepts the
  model's run.  Second half (from `Accepted`): what acceptance means, conjunct by conjunct, for any log —
  `poll_before_every_attempt`, `poll_before_every_sleep`, `nothing_after_abort`, `abort_ends_aborted`,
  `cancellation_propagates_unchanged`, `at_most_one_cancellation`, in terms of `PolledSince`, `AbortSignal`,
  `CancelSignal`.  After an abort the verdict accepts, besides `AbortRetryError` / an ABORTED outcome, the
  error some callback other than the operation raised afterwards, and the model's `.stuck` (`Org`).

  The argument.  `cur cfg t` is the monitor state on the newest-first log `t`.  It moves only at a poll of
  `abort_if`, an invocation of the operation, a sleep (`req_cases`, `stepLive_*`), and at whichever callback
  first raises a cancellation.  `viewOf` is that state while no cancellation has been seen; everything else
  the library does is a *leaf*: if the view is `v` before (`Kept cfg v`), it is `v` after, unless one of the
  leaf's callbacks raised a cancellation `e` that is now in flight and recorded (`CancV`; either way `ErrL`
  on the exceptional exit: `leafPost`).  A run is followed through three phases of the monitor (`LiveW`:
  nothing aborted; `ReadyW`: and polled; `QuietW`: perhaps aborted, not cancelled), an exception in flight
  through what the verdict will ask of it (`Fin`; inside an attempt, where an `Exception` would be handled,
  the stronger `FinS`).

  Suffixes: `_l` = leaf (`leafPost`); `_w` = specification on the phases of a procedure that moves the
  monitor; `_spec` = specification of a loop / policy procedure (`livePost`, `xPost`, `outPost`); `_live`,
  `_ready`, `_quiet`, `_fin`, `_finO` = a leaf instantiated at that phase / invariant.
-/
import Redress.Lemmas.PolicyFrame
import Redress.Monitors

open Std.Do


namespace Redress.Props.C13
open Redress Redress.Retry Redress.Mon Redress.Mon.C13

def cur (cfg : Cfg) (tr : List (Req × Ans)) : St := tr.foldr (fun x s => step cfg s x) {}

@[simp] theorem cur_cons (cfg : Cfg) (x : Req × Ans) (t : List (Req × Ans)) :
    cur cfg (x :: t) = step cfg (cur cfg t) x := rfl

theorem run_reverse (cfg : Cfg) (t : List (Req × Ans)) : run cfg t.reverse = cur cfg t := by
  simp [run, cur, List.foldl_reverse]

/-- requests whose *answer* (unless it raises a cancellation-type exception) never moves the monitor -/
def inertK : Kind → Bool
  | .abortIf | .op | .sleeper => false
  | _ => true

/-- breaker bookkeeping: never moves the monitor -/
def brkK : Kind → Bool
  | .breakerSuccess | .breakerFailure | .breakerCancel => true
  | _ => false

theorem isRecord_of_brk (r : Req) (h : brkK r.kind = true) : isRecord r = true := by
  cases r <;> simp_all [brkK, Req.kind, isRecord]

theorem isRecord_inert (r : Req) (h : isRecord r = true) : inertK r.kind = true := by
  cases r <;> simp_all [inertK, Req.kind, isRecord]

theorem step_record (cfg : Cfg) (s : St) (x : Req × Ans) (h : isRecord x.1 = true) : step cfg s x = s := by
  simp [step, h]

theorem cur_append_brk (cfg : Cfg) (δ t : List (Req × Ans)) (h : ∀ x ∈ δ, brkK x.1.kind = true) :
    cur cfg (δ ++ t) = cur cfg t :=
  foldr_append_inert (step cfg) {} (fun x => brkK x.1.kind = true)
    (fun s x hx => step_record cfg s x (isRecord_of_brk _ hx)) δ t h

def cancelMark (s : St) (a : Ans) : St :=
  match a with
  | .raise e _ => if e.isCancelKind then { s with cancelled := some e } else s
  | _ => s

theorem step_none (cfg : Cfg) (s : St) (x : Req × Ans) (hc : s.cancelled = none) :
    step cfg s x = if isRecord x.1 then s else cancelMark (stepLive cfg s x) x.2 := by
  obtain ⟨r, a⟩ := x
  unfold step cancelMark
  simp only [hc]
  split
  · rfl
  · cases a <;> rfl

theorem step_some (cfg : Cfg) (s : St) (x : Req × Ans) (c : Exn) (hc : s.cancelled = some c) :
    (step cfg s x).cancelled = some c := by
  simp only [step, hc]
  split <;> simp [hc]

theorem stepLive_inert (cfg : Cfg) (s : St) (x : Req × Ans) (h : inertK x.1.kind = true) :
    stepLive cfg s x = s := by
  obtain ⟨r, a⟩ := x
  cases r <;> simp_all [inertK, Req.kind, stepLive]

theorem req_cases (r : Req) :
    r = .abortIf ∨ (∃ n, r = .op n) ∨ (∃ l d, r = .sleeper l d) ∨ inertK r.kind = true := by
  cases r <;> simp [inertK, Req.kind]

theorem inert_not_action {r : Req} (h : inertK r.kind = true) :
    r ≠ .abortIf ∧ isOp r = false ∧ isSleeper r = false := by
  cases r <;> simp_all [inertK, Req.kind, isOp, isSleeper]

def saysAbort : Ans → Bool
  | .bool true _ => true
  | _ => false

theorem saysAbort_iff {a : Ans} : saysAbort a = true ↔ ∃ d, a = .bool true d := by
  cases a with
  | bool b d => cases b <;> simp [saysAbort]
  | _ => simp [saysAbort]

def raisesAbort : Ans → Bool
  | .raise e _ => e.isAbort
  | _ => false

theorem raisesAbort_iff {a : Ans} : raisesAbort a = true ↔ ∃ e d, a = .raise e d ∧ e.isAbort = true := by
  cases a <;> simp [raisesAbort]

theorem stepLive_abortIf (cfg : Cfg) (s : St) (a : Ans) :
    stepLive cfg s (.abortIf, a) = { s with polled := true, aborted := saysAbort a || s.aborted } := by
  cases a with
  | bool b d => cases b <;> rfl
  | _ => rfl

def acted (cfg : Cfg) (s : St) : St :=
  { s with bad := s.bad || s.aborted || (cfg.abortIf && !s.polled), polled := false }

theorem stepLive_op (cfg : Cfg) (s : St) (n : Nat) (a : Ans) :
    stepLive cfg s (.op n, a) = { acted cfg s with aborted := raisesAbort a || s.aborted } := by
  cases a with
  | raise e d => cases h : e.isAbort <;> simp [stepLive, acted, raisesAbort, h]
  | _ => rfl

theorem stepLive_sleeper (cfg : Cfg) (s : St) (l : Lvl) (d : Nat) (a : Ans) :
    stepLive cfg s (.sleeper l d, a) = acted cfg s := rfl

theorem acted_ok {cfg : Cfg} {s : St} {x : Req × Ans} (hx : isOp x.1 = true ∨ isSleeper x.1 = true)
    (hb : (stepLive cfg s x).bad = false) : s.aborted = false ∧ (cfg.abortIf = true → s.polled = true) := by
  obtain ⟨r, a⟩ := x
  have hb' : (acted cfg s).bad = false := by
    rcases req_cases r with rfl | ⟨n, rfl⟩ | ⟨l, d, rfl⟩ | hk
    · simp [isOp, isSleeper] at hx
    · rwa [stepLive_op] at hb
    · exact hb
    · simp [(inert_not_action hk).2] at hx
  simp only [acted, Bool.or_eq_false_iff, Bool.and_eq_false_imp, Bool.not_eq_eq_eq_not, Bool.not_false] at hb'
  exact ⟨hb'.1.2, hb'.2⟩

/-- What the C13 argument looks at: the monitor state while no cancellation has been seen
    (after one, the model does nothing any more but breaker bookkeeping). -/
def viewOf (m : St) : Option St :=
  match m.cancelled with
  | none => some m
  | some _ => none

def view (cfg : Cfg) (w : World) : Option St := viewOf (cur cfg w.trace)

theorem viewOf_eq_some {m m' : St} : viewOf m = some m' ↔ m = m' ∧ m.cancelled = none := by
  unfold viewOf
  split <;> simp_all

theorem viewOf_eq_none {m : St} : viewOf m = none ↔ m.cancelled ≠ none := by
  unfold viewOf
  split <;> simp_all

theorem viewOf_of_none {m : St} (h : m.cancelled = none) : viewOf m = some m := by
  simp [viewOf, h]

def CancV (cfg : Cfg) (v : Option St) (e : Exn) (w : World) : Prop :=
  e.isCancelKind = true ∧ ∃ m, v = some m ∧ cur cfg w.trace = { m with cancelled := some e }

def ErrL (cfg : Cfg) (v : Option St) (e : Exn) (w : World) : Prop :=
  viewOf (cur cfg w.trace) = v ∨ CancV cfg v e w

theorem view_brk (cfg : Cfg) (w w' : World) (h : Foot brkK w w') : view cfg w' = view cfg w := by
  obtain ⟨δ, e, k⟩ := h.trace
  unfold view
  rw [e, cur_append_brk cfg δ _ k]

theorem errL_exception {cfg : Cfg} {v : Option St} {e : Exn} {w : World} (h : ErrL cfg v e w)
    (he : e.isException = true) : viewOf (cur cfg w.trace) = v := by
  rcases h with h | ⟨hk, _⟩
  · exact h
  · simp [Exn.cancelKind_flags hk] at he

theorem errL_abort {cfg : Cfg} {v : Option St} {e : Exn} {w : World} (h : ErrL cfg v e w)
    (he : e.isAbort = true) : viewOf (cur cfg w.trace) = v := by
  rcases h with h | ⟨hk, _⟩
  · exact h
  · simp [(Exn.base_flags (Exn.cancelKind_flags hk)).1] at he


/-- The view of the log `t` is `v`: what a leaf keeps.  It is a structure over the log (not the equation
    `view cfg w = v` over the world) so that, where a leaf's specification is applied, the `v` is taken from
    the hypotheses rather than solved for by reflexivity, and so that it survives every change of the world
    that leaves the log alone. -/
structure Kept (cfg : Cfg) (v : Option St) (t : List (Req × Ans)) : Prop where
  eq : viewOf (cur cfg t) = v

abbrev leafPost (cfg : Cfg) (v : Option St) : PostCond α (.except Exn (.arg World .pure)) :=
  post⟨fun _ w => ⌜Kept cfg v w.trace⌝, fun e w => ⌜ErrL cfg v e w⌝⟩

theorem step_inert (cfg : Cfg) (m : St) (r : Req) (a : Ans) (hk : inertK r.kind = true) :
    viewOf (step cfg m (r, a)) = viewOf m ∨
      ∃ e d, a = .raise e d ∧ e.isCancelKind = true ∧ m.cancelled = none ∧
        step cfg m (r, a) = { m with cancelled := some e } := by
  cases hc : m.cancelled with
  | some c => left; simp [viewOf, hc, step_some cfg m _ c hc]
  | none =>
    rw [step_none cfg m _ hc]
    split
    · left; rfl
    · rw [stepLive_inert cfg m _ hk]
      cases a with
      | raise e d =>
        by_cases hk' : e.isCancelKind = true
        · right; exact ⟨e, d, rfl, hk', rfl, by simp [cancelMark, hk']⟩
        · left; simp [cancelMark, hk']
      | _ => left; rfl

theorem Kept.cons {cfg : Cfg} {v : Option St} {t : List (Req × Ans)} (h : Kept cfg v t) (r : Req) (a : Ans)
    (hk : inertK r.kind = true) (ha : ∀ e d, ¬ a = Ans.raise e d) : Kept cfg v ((r, a) :: t) := by
  rcases step_inert cfg (cur cfg t) r a hk with h' | ⟨e, d, rfl, _⟩
  · exact ⟨h'.trans h.eq⟩
  · exact (ha e d rfl).elim

theorem Kept.raise {cfg : Cfg} {v : Option St} {t : List (Req × Ans)} {w' : World} (h : Kept cfg v t) (r : Req)
    (e : Exn) (d : Nat) (hk : inertK r.kind = true) (hw : w'.trace = (r, .raise e d) :: t) : ErrL cfg v e w' := by
  unfold ErrL CancV
  rw [hw]
  rcases step_inert cfg (cur cfg t) r (.raise e d) hk with h' | ⟨e', d', he, hk', hc, hs⟩
  · exact Or.inl (h'.trans h.eq)
  · cases he
    exact Or.inr ⟨hk', _, h.eq.symm.trans (viewOf_of_none hc), hs⟩

theorem ask_l (cfg : Cfg) (v : Option St) (r : Req) (hk : inertK r.kind = true) :
    ⦃fun w => ⌜Kept cfg v w.trace⌝⦄ ask r ⦃leafPost cfg v⦄ :=
  ask_triple r (fun _ a h ha => h.cons r a hk ha) (fun _ e d h => h.raise r e d hk rfl)

theorem askHook_l (cfg : Cfg) (v : Option St) (r : Req) (hk : inertK r.kind = true) :
    ⦃fun w => ⌜Kept cfg v w.trace⌝⦄ askHook r ⦃leafPost cfg v⦄ :=
  askHook_triple' r (fun _ _ h => h) (fun _ a h ha => h.cons r a hk ha) (fun _ e d h => h.raise r e d hk rfl)

section leafL
attribute [local spec] ask_l askHook_l

/-- What `mvcgen` leaves of a leaf, once the specifications of its parts are in place: implications
    `A → A`, and at a `raise` of the library's own that the view is still kept. -/
macro "l_close" : tactic => `(tactic| all_goals first | exact id | exact Or.inl (Kept.eq ‹_›))

variable (cfg : Cfg) (v : Option St) (tl : Bool)

/-- `except Exception: pass`: what it swallows was no cancellation -/
theorem swallow_l (e : Exn) :
    ⦃fun w => ⌜ErrL cfg v e w⌝⦄ swallowException e ⦃leafPost cfg v⦄ := by
  mvcgen [swallowException]
  exact ⟨errL_exception ‹_› ‹_›⟩

attribute [local spec] swallow_l

theorem askMetric_l (ev : Event) (a s : Nat) (t : Tags) :
    ⦃fun w => ⌜Kept cfg v w.trace⌝⦄ askMetric ev a s t ⦃leafPost cfg v⦄ := by
  mvcgen [askMetric]

theorem askLog_l (ev : Event) (a s : Nat) (t : Tags) (ra : Option Int) :
    ⦃fun w => ⌜Kept cfg v w.trace⌝⦄ askLog ev a s t ra ⦃leafPost cfg v⦄ := by
  mvcgen [askLog]

attribute [local spec] askMetric_l askLog_l

theorem emit_l (ev : Event) (a s : Nat) (k : Option EClass) (e : Option Exn) (st : Option StopReason)
    (c : Option Cause) (cl : Option Classification) :
    ⦃fun w => ⌜Kept cfg v w.trace⌝⦄ emit cfg tl ev a s k e st c cl ⦃leafPost cfg v⦄ := by
  mvcgen [emit, metricHook, recordTimeline]
  l_close

theorem buildOutcome_l (ok : Bool) (value : Option Nat) (n : Nat) (ns : Option Nat) :
    ⦃fun w => ⌜Kept cfg v w.trace⌝⦄ buildOutcome ok value n ns ⦃leafPost cfg v⦄ := by
  mvcgen [buildOutcome, getRS, elapsed]

attribute [local spec] emit_l buildOutcome_l

theorem recordStrategySuccess_l :
    ⦃fun w => ⌜Kept cfg v w.trace⌝⦄ recordStrategySuccess cfg ⦃leafPost cfg v⦄ := by
  mvcgen [recordStrategySuccess, getRS]
  l_close

theorem stratRecordFailure_l (key : SKey) (k : EClass) :
    ⦃fun w => ⌜Kept cfg v w.trace⌝⦄ stratRecordFailure cfg key k ⦃leafPost cfg v⦄ := by
  mvcgen [stratRecordFailure]
  l_close

theorem callStrategy_l (key : SKey) (kind : SKind) (ctx : BackoffCtx) :
    ⦃fun w => ⌜Kept cfg v w.trace⌝⦄ callStrategy key kind ctx ⦃leafPost cfg v⦄ := by
  mvcgen [callStrategy]
  l_close

theorem callClassifier_l (e : Exn) :
    ⦃fun w => ⌜Kept cfg v w.trace⌝⦄ callClassifier e ⦃leafPost cfg v⦄ := by
  mvcgen [callClassifier]
  l_close

theorem shouldClassifyResult_l (x : Nat) :
    ⦃fun w => ⌜Kept cfg v w.trace⌝⦄ shouldClassifyResult cfg x ⦃leafPost cfg v⦄ := by
  mvcgen [shouldClassifyResult]
  l_close

theorem callAttemptStart_l (a : Nat) :
    ⦃fun w => ⌜Kept cfg v w.trace⌝⦄ callAttemptStart cfg a ⦃leafPost cfg v⦄ := by
  mvcgen [callAttemptStart, elapsed]
  l_close

theorem callAttemptEnd_l (attempt : Nat) (cls : Option Classification) (exc : Option Exn)
    (result : Option Nat) (d : AttemptDecision) (stop : Option StopReason) (cause : Option Cause)
    (sleep : Option Nat) :
    ⦃fun w => ⌜Kept cfg v w.trace⌝⦄ callAttemptEnd cfg attempt cls exc result d stop cause sleep
    ⦃leafPost cfg v⦄ := by
  mvcgen [callAttemptEnd, elapsed]
  l_close

attribute [local spec] callAttemptEnd_l recordStrategySuccess_l stratRecordFailure_l callStrategy_l callClassifier_l

theorem callAttemptEndFromOutcome_l (a : Nat) (o : AOutcome) :
    ⦃fun w => ⌜Kept cfg v w.trace⌝⦄ callAttemptEndFromOutcome cfg a o ⦃leafPost cfg v⦄ := by
  mvcgen [callAttemptEndFromOutcome]

theorem callBeforeSleep_l (ctx : BackoffCtx) (s : Nat) :
    ⦃fun w => ⌜Kept cfg v w.trace⌝⦄ callBeforeSleep cfg ctx s ⦃leafPost cfg v⦄ := by
  mvcgen [callBeforeSleep]
  l_close

theorem callSleepHandler_l (lvl : Lvl) (ctx : BackoffCtx) (s : Nat) :
    ⦃fun w => ⌜Kept cfg v w.trace⌝⦄ callSleepHandler lvl ctx s ⦃leafPost cfg v⦄ := by
  mvcgen [callSleepHandler]
  l_close

theorem emitAbortedOnce_l (a : Nat) :
    ⦃fun w => ⌜Kept cfg v w.trace⌝⦄ emitAbortedOnce cfg tl a ⦃leafPost cfg v⦄ := by
  mvcgen [emitAbortedOnce, getRS, setStop, modifyRS]
  l_close

attribute [local spec] emitAbortedOnce_l

theorem abortOutcome_l (a : Nat) :
    ⦃fun w => ⌜Kept cfg v w.trace⌝⦄ abortOutcome cfg tl a ⦃leafPost cfg v⦄ := by
  mvcgen [abortOutcome]
  l_close

theorem handleSleepDecision_l (act : SleepDecision) (a s : Nat) :
    ⦃fun w => ⌜Kept cfg v w.trace⌝⦄ handleSleepDecision cfg tl act a s ⦃leafPost cfg v⦄ := by
  mvcgen [handleSleepDecision, getRS, setStop, modifyRS]
  l_close

theorem handleSuccessAttemptEnd_l (a x : Nat) :
    ⦃fun w => ⌜Kept cfg v w.trace⌝⦄ handleSuccessAttemptEnd cfg tl a x ⦃leafPost cfg v⦄ := by
  mvcgen [handleSuccessAttemptEnd]
  l_close

theorem handleAbortAttemptEnd_l (a : Nat) (e : Exn) :
    ⦃fun w => ⌜Kept cfg v w.trace⌝⦄ handleAbortAttemptEnd cfg a e ⦃leafPost cfg v⦄ := by
  mvcgen [handleAbortAttemptEnd, getAS, modifyAS]
  l_close

theorem emitMaxAttemptsExceeded_l :
    ⦃fun w => ⌜Kept cfg v w.trace⌝⦄ emitMaxAttemptsExceeded cfg tl ⦃leafPost cfg v⦄ := by
  mvcgen [emitMaxAttemptsExceeded, getRS, setStop, modifyRS]
  l_close

attribute [local spec] emitMaxAttemptsExceeded_l abortOutcome_l

theorem raiseExhaustedCall_l :
    ⦃fun w => ⌜Kept cfg v w.trace⌝⦄ raiseExhaustedCall cfg ⦃leafPost cfg v⦄ := by
  mvcgen [raiseExhaustedCall, getRS]
  l_close

theorem buildExhaustedOutcome_l :
    ⦃fun w => ⌜Kept cfg v w.trace⌝⦄ buildExhaustedOutcome cfg tl ⦃leafPost cfg v⦄ := by
  mvcgen [buildExhaustedOutcome]
  l_close

theorem deliverCall_l (act : Action) (orig : Option Exn) (fb : ExhaustedFields) :
    ⦃fun w => ⌜Kept cfg v w.trace⌝⦄ deliverCall act orig fb ⦃leafPost cfg v⦄ := by
  mvcgen [deliverCall]
  l_close

theorem deliverExecute_l (act : Action) (o : AOutcome) :
    ⦃fun w => ⌜Kept cfg v w.trace⌝⦄ deliverExecute cfg tl act o ⦃leafPost cfg v⦄ := by
  mvcgen [deliverExecute]
  l_close

theorem stopWith_l (s : StopReason) (ev : Event) (a : Nat) (k : EClass) (e : Option Exn) (c : Cause) :
    ⦃fun w => ⌜Kept cfg v w.trace⌝⦄ stopWith cfg tl s ev a k e c ⦃leafPost cfg v⦄ := by
  mvcgen [stopWith, setStop, modifyRS]
  l_close

/-- the embedded budget logs its verdict -/
theorem budgetConsume_l :
    ⦃fun w => ⌜Kept cfg v w.trace⌝⦄ budgetConsume cfg ⦃leafPost cfg v⦄ := by
  mvcgen [budgetConsume]
  exact Kept.cons ‹_› _ _ rfl (fun _ _ h => Ans.noConfusion h)

attribute [local spec] stopWith_l budgetConsume_l


theorem grantRetry_l (c : Classification) (a : Nat) (cause : Cause) (e : Option Exn) (key : SKey)
    (kind : SKind) (rem : Nat) :
    ⦃fun w => ⌜Kept cfg v w.trace⌝⦄ grantRetry cfg tl c a cause e key kind rem ⦃leafPost cfg v⦄ := by
  mvcgen [grantRetry, getRS, modifyRS]
  l_close

attribute [local spec] grantRetry_l

theorem handleFailure2_l (c : Classification) (a : Nat) (cause : Cause) (e : Option Exn) :
    ⦃fun w => ⌜Kept cfg v w.trace⌝⦄ handleFailure2 cfg tl c a cause e ⦃leafPost cfg v⦄ := by
  mvcgen [handleFailure2, elapsed, modifyRS]
  l_close

attribute [local spec] handleFailure2_l

theorem handleUnknown_l (c : Classification) (a : Nat) (cause : Cause) (e : Option Exn) :
    ⦃fun w => ⌜Kept cfg v w.trace⌝⦄ handleUnknown cfg tl c a cause e ⦃leafPost cfg v⦄ := by
  mvcgen [handleUnknown, getRS, modifyRS]
  l_close

attribute [local spec] handleUnknown_l

theorem handleFailure1_l (c : Classification) (a : Nat) (cause : Cause) (e : Option Exn) :
    ⦃fun w => ⌜Kept cfg v w.trace⌝⦄ handleFailure1 cfg tl c a cause e ⦃leafPost cfg v⦄ := by
  mvcgen [handleFailure1, getRS]
  l_close

attribute [local spec] handleFailure1_l

theorem handleFailure_l (c : Classification) (a : Nat) (cause : Cause) (e : Option Exn) (r : Option Nat) :
    ⦃fun w => ⌜Kept cfg v w.trace⌝⦄ handleFailure cfg tl c a cause e r ⦃leafPost cfg v⦄ := by
  mvcgen [handleFailure, Retry.recordFailure, modifyRS]
  l_close

attribute [local spec] handleFailure_l

theorem handleException_l (e : Exn) (a : Nat) :
    ⦃fun w => ⌜Kept cfg v w.trace⌝⦄ handleException cfg tl e a ⦃leafPost cfg v⦄ := by
  mvcgen [handleException]
  l_close

theorem finalizeAttempt_l (a : Nat) (d : Decision) (act : Option SleepDecision)
    (cls : Option Classification) (e : Option Exn) (r : Option Nat) (c : Option Cause) :
    ⦃fun w => ⌜Kept cfg v w.trace⌝⦄ finalizeAttempt cfg tl a d act cls e r c ⦃leafPost cfg v⦄ := by
  mvcgen [finalizeAttempt, getRS, elapsed, setStop, modifyRS]
  l_close

open Policy

theorem emitBreakerEvent_l (ev : Option Event) (st : CState) (k : Option EClass) :
    ⦃fun w => ⌜Kept cfg v w.trace⌝⦄ emitBreakerEvent cfg ev st k ⦃leafPost cfg v⦄ := by
  mvcgen [emitBreakerEvent]
  l_close

attribute [local spec] emitBreakerEvent_l

theorem breakerAllow_l (bc : Breaker.Cfg) :
    ⦃fun w => ⌜Kept cfg v w.trace⌝⦄ breakerAllow bc ⦃leafPost cfg v⦄ := by
  mvcgen [breakerAllow]
  exact Kept.cons ‹_› _ _ rfl (fun _ _ h => Ans.noConfusion h)

theorem checkBreaker_l : ⦃fun w => ⌜Kept cfg v w.trace⌝⦄ checkBreaker cfg ⦃leafPost cfg v⦄ := by
  have h := breakerAllow_l cfg v
  mvcgen [checkBreaker, h]
  l_close

theorem recordSuccess_l : ⦃fun w => ⌜Kept cfg v w.trace⌝⦄ Policy.recordSuccess cfg ⦃leafPost cfg v⦄ := by
  mvcgen [Policy.recordSuccess]
  exact Kept.cons ‹_› _ _ rfl (fun _ _ h => Ans.noConfusion h)

theorem recordFailure_l (k : EClass) :
    ⦃fun w => ⌜Kept cfg v w.trace⌝⦄ Policy.recordFailure cfg k ⦃leafPost cfg v⦄ := by
  mvcgen [Policy.recordFailure]
  exact Kept.cons ‹_› _ _ rfl (fun _ _ h => Ans.noConfusion h)

theorem noRetryStartHook_l : ⦃fun w => ⌜Kept cfg v w.trace⌝⦄ noRetryStartHook cfg ⦃leafPost cfg v⦄ := by
  mvcgen [noRetryStartHook, xElapsed]
  l_close

theorem noRetryEndHook_l (exc : Option Exn) (r : Option Nat) (d : AttemptDecision)
    (stop : Option StopReason) (cause : Option Cause) :
    ⦃fun w => ⌜Kept cfg v w.trace⌝⦄ noRetryEndHook cfg exc r d stop cause ⦃leafPost cfg v⦄ := by
  mvcgen [noRetryEndHook, xElapsed]
  l_close

attribute [local spec] noRetryEndHook_l recordFailure_l

theorem classifyForBreaker_l (e : Exn) :
    ⦃fun w => ⌜Kept cfg v w.trace⌝⦄ classifyForBreaker cfg e ⦃leafPost cfg v⦄ := by
  mvcgen [classifyForBreaker]
  l_close

attribute [local spec] classifyForBreaker_l

theorem handleExhaustedCall_l (e : Exn) :
    ⦃fun w => ⌜Kept cfg v w.trace⌝⦄ handleExhaustedCall cfg e ⦃leafPost cfg v⦄ := by
  mvcgen [handleExhaustedCall]

theorem handleExceptionCall_l (e : Exn) (b : Bool) :
    ⦃fun w => ⌜Kept cfg v w.trace⌝⦄ handleExceptionCall cfg e b ⦃leafPost cfg v⦄ := by
  mvcgen [handleExceptionCall]
  l_close

theorem recordCancel_l :
    ⦃fun w => ⌜Kept cfg v w.trace⌝⦄ Policy.recordCancel cfg ⦃leafPost cfg v⦄ := by
  mvcgen [Policy.recordCancel]
  exact Kept.cons ‹_› _ _ rfl (fun _ _ h => Ans.noConfusion h)

attribute [local spec] recordCancel_l

theorem handleAbortCall_l (e : Exn) :
    ⦃fun w => ⌜Kept cfg v w.trace⌝⦄ handleAbortCall cfg e ⦃leafPost cfg v⦄ := by
  mvcgen [handleAbortCall]
  l_close

end leafL


def Raised (tr : List (Req × Ans)) (e : Exn) : Prop :=
  ∃ x ∈ tr, isOp x.1 = false ∧ ∃ d, x.2 = Ans.raise e d

theorem Raised.mono {t : List (Req × Ans)} {e : Exn} (δ : List (Req × Ans)) (h : Raised t e) :
    Raised (δ ++ t) e := by
  obtain ⟨x, hx, h1, h2⟩ := h
  exact ⟨x, by simp [hx], h1, h2⟩

theorem raisedBy_iff (t : List (Req × Ans)) (e : Exn) :
    Mon.raisedBy (fun r => !isOp r) t e = true ↔ Raised t e := by
  unfold Mon.raisedBy Raised
  simp only [List.any_eq_true, Bool.and_eq_true, Bool.not_eq_true']
  constructor
  · rintro ⟨x, hx, h1, h2⟩
    refine ⟨x, hx, h1, ?_⟩
    split at h2
    · rename_i e' d heq
      exact ⟨d, by simp_all⟩
    · cases h2
  · rintro ⟨x, hx, h1, d, h2⟩
    exact ⟨x, hx, h1, by simp [h2]⟩

def notOp (r : Req) : Bool := !isOp r

theorem raised_of_exc {w0 w : World} {e : Exn} (h : FX.ExcS notOp FX.noOwn w0 w e) :
    e = .stuck ∨ Raised w.trace e :=
  h.cases.imp id fun ⟨r, d, hm, hq, _⟩ => ⟨(r, .raise e d), hm, by simpa [notOp] using hq, d, rfl⟩


structure Live (m : St) : Prop where
  aborted : m.aborted = false
  cancelled : m.cancelled = none
  bad : m.bad = false

structure Ready (cfg : Cfg) (m : St) : Prop extends Live m where
  polled : cfg.abortIf = true → m.polled = true

/-- an escaping exception is an abort, or comes from a callback other than the operation
    (`.stuck`: model-only, ill-shaped answer stream) -/
def Org (e : Exn) (w : World) : Prop := e.isAbort = true ∨ e = .stuck ∨ Raised w.trace e

structure Fin (cfg : Cfg) (e : Exn) (w : World) : Prop where
  bad : (cur cfg w.trace).bad = false
  canc : ∀ c, (cur cfg w.trace).cancelled = some c → e = c ∧ c.isCancelKind = true
  abt : (cur cfg w.trace).aborted = true → (cur cfg w.trace).cancelled = none → Org e w

structure FinS (cfg : Cfg) (e : Exn) (w : World) : Prop extends Fin cfg e w where
  strong : (cur cfg w.trace).aborted = true → (cur cfg w.trace).cancelled = none →
    e.isAbort = true ∨ e.isException = false

theorem finS_iff {cfg : Cfg} {e : Exn} {w : World} : FinS cfg e w ↔
    (cur cfg w.trace).bad = false ∧
    (∀ c, (cur cfg w.trace).cancelled = some c → e = c ∧ c.isCancelKind = true) ∧
    ((cur cfg w.trace).aborted = true → (cur cfg w.trace).cancelled = none → Org e w) ∧
    ((cur cfg w.trace).aborted = true → (cur cfg w.trace).cancelled = none →
      e.isAbort = true ∨ e.isException = false) :=
  ⟨fun h => ⟨h.bad, h.canc, h.abt, h.strong⟩, fun h => ⟨⟨h.1, h.2.1, h.2.2.1⟩, h.2.2.2⟩⟩

theorem finS_of_canc {cfg : Cfg} {m : St} {e : Exn} {w : World} (hk : e.isCancelKind = true)
    (hc : cur cfg w.trace = { m with cancelled := some e }) (hb : m.bad = false) : FinS cfg e w := by
  rw [finS_iff, hc]
  simp [hb, hk]

theorem finS_of_errL {cfg : Cfg} {m : St} {e : Exn} {w : World} (h : ErrL cfg (some m) e w)
    (hb : m.bad = false)
    (ha : m.aborted = true → e.isAbort = true ∨ (e.isException = false ∧ (e = .stuck ∨ Raised w.trace e))) :
    FinS cfg e w := by
  rcases h with h | ⟨hk, m', hm', hc⟩
  · obtain ⟨h1, h2⟩ := viewOf_eq_some.mp h
    rw [finS_iff, h1]
    refine ⟨hb, by simp [h1 ▸ h2], fun a _ => ?_, fun a _ => ?_⟩
    · rcases ha a with h | h
      · exact Or.inl h
      · exact Or.inr h.2
    · rcases ha a with h | h
      · exact Or.inl h
      · exact Or.inr h.1
  · cases hm'
    exact finS_of_canc hk hc hb

theorem step_dur (cfg : Cfg) (m : St) (r : Req) (e : Exn) (d : Nat) :
    step cfg m (r, .raise e d) = step cfg m (r, .raise e 0) := by
  have h : stepLive cfg m (r, .raise e d) = stepLive cfg m (r, .raise e 0) := by
    rcases req_cases r with rfl | ⟨n, rfl⟩ | ⟨l, d', rfl⟩ | hk
    · rfl
    · rfl
    · rfl
    · rw [stepLive_inert cfg m _ hk, stepLive_inert cfg m _ hk]
  unfold step
  simp only [h]

/-- One exchange, as the monitor sees it.  (On the raising exit the logged duration is irrelevant to the
    monitor, `step_dur`; `0` stands for it.) -/
theorem ask_cur (cfg : Cfg) (r : Req) (m : St) :
    ⦃fun w => ⌜cur cfg w.trace = m⌝⦄ ask r
    ⦃post⟨fun a w => ⌜cur cfg w.trace = step cfg m (r, a) ∧ ∀ e d, ¬ a = Ans.raise e d⌝,
          fun e w => ⌜cur cfg w.trace = step cfg m (r, .raise e 0) ∧ (isOp r = false → Raised w.trace e)⌝⟩⦄ :=
  ask_triple r (fun _ _ h ha => ⟨h ▸ rfl, ha⟩)
    (fun _ e d h => ⟨h ▸ step_dur cfg _ r e d, fun hr => ⟨_, List.mem_cons_self, hr, d, rfl⟩⟩)

theorem step_abortIf (cfg : Cfg) (m : St) (a : Ans) (hc : m.cancelled = none) :
    step cfg m (.abortIf, a) =
      cancelMark { m with polled := true, aborted := saysAbort a || m.aborted } a := by
  rw [step_none cfg m _ hc, stepLive_abortIf]
  rfl

def afterOp (m : St) : St := { m with polled := false }

def abortedOp (m : St) : St := { m with polled := false, aborted := true }

def cancelledOp (m : St) (e : Exn) : St := { m with polled := false, cancelled := some e }

theorem cancelMark_ok {s : St} {a : Ans} (ha : ∀ e d, ¬ a = Ans.raise e d) : cancelMark s a = s := by
  cases a with
  | raise e d => exact (ha e d rfl).elim
  | _ => rfl

theorem raisesAbort_ok {a : Ans} (ha : ∀ e d, ¬ a = Ans.raise e d) : raisesAbort a = false := by
  cases a with
  | raise e d => exact (ha e d rfl).elim
  | _ => rfl

theorem Ready.acted_eq {cfg : Cfg} {m : St} (hm : Ready cfg m) : acted cfg m = afterOp m := by
  obtain ⟨⟨h1, h2, h3⟩, h4⟩ := hm
  cases m
  cases hab : cfg.abortIf <;> simp_all [acted, afterOp]

theorem step_op_ok (cfg : Cfg) (m : St) (a : Ans) (hm : Ready cfg m)
    (ha : ∀ e d, ¬ a = Ans.raise e d) (n : Nat) : step cfg m (.op n, a) = afterOp m := by
  rw [step_none cfg m _ hm.cancelled, stepLive_op, hm.acted_eq, raisesAbort_ok ha]
  exact cancelMark_ok ha

theorem step_op_raise (cfg : Cfg) (m : St) (n : Nat) (e : Exn) (d : Nat) (hm : Ready cfg m) :
    step cfg m (.op n, .raise e d) =
      if e.isAbort then abortedOp m else if e.isCancelKind then cancelledOp m e else afterOp m := by
  rw [step_none cfg m _ hm.cancelled, stepLive_op, hm.acted_eq]
  cases ha : e.isAbort
  · cases hk : e.isCancelKind <;> simp [isRecord, cancelMark, raisesAbort, afterOp, cancelledOp, ha, hk]
  · simp [isRecord, cancelMark, raisesAbort, afterOp, abortedOp, ha, Exn.not_cancelKind (Exn.abort_flags ha).1]

theorem step_sleeper_ok (cfg : Cfg) (m : St) (a : Ans) (hm : Ready cfg m)
    (ha : ∀ e d, ¬ a = Ans.raise e d) (l : Lvl) (n : Nat) : step cfg m (.sleeper l n, a) = afterOp m := by
  rw [step_none cfg m _ hm.cancelled, stepLive_sleeper, hm.acted_eq]
  exact cancelMark_ok ha

theorem step_sleeper_raise (cfg : Cfg) (m : St) (l : Lvl) (n : Nat) (e : Exn) (d : Nat)
    (hm : Ready cfg m) :
    step cfg m (.sleeper l n, .raise e d) = if e.isCancelKind then cancelledOp m e else afterOp m := by
  rw [step_none cfg m _ hm.cancelled, stepLive_sleeper, hm.acted_eq]
  cases hk : e.isCancelKind <;> simp [isRecord, cancelMark, afterOp, cancelledOp, hk]

theorem Ready.live_afterOp {cfg : Cfg} {m : St} (hm : Ready cfg m) : Live (afterOp m) :=
  ⟨hm.aborted, hm.cancelled, hm.bad⟩


structure Quiet (m : St) : Prop where
  cancelled : m.cancelled = none
  bad : m.bad = false

def LiveW (cfg : Cfg) (w : World) : Prop := Live (cur cfg w.trace)
def ReadyW (cfg : Cfg) (w : World) : Prop := Ready cfg (cur cfg w.trace)
def QuietW (cfg : Cfg) (w : World) : Prop := Quiet (cur cfg w.trace)

theorem ready_iff {cfg : Cfg} {m : St} : Ready cfg m ↔
    m.aborted = false ∧ m.cancelled = none ∧ m.bad = false ∧ (cfg.abortIf = true → m.polled = true) :=
  ⟨fun h => ⟨h.aborted, h.cancelled, h.bad, h.polled⟩, fun h => ⟨⟨h.1, h.2.1, h.2.2.1⟩, h.2.2.2⟩⟩

theorem finS_of_live {cfg : Cfg} {e : Exn} {w : World} (h : LiveW cfg w) : FinS cfg e w :=
  ⟨⟨h.bad, by simp [h.cancelled], by simp [h.aborted]⟩, by simp [h.aborted]⟩

theorem fin_of_liveW {cfg : Cfg} {e : Exn} {w : World} (h : LiveW cfg w) : Fin cfg e w :=
  (finS_of_live h).toFin

theorem LiveW.quiet {cfg : Cfg} {w : World} (h : LiveW cfg w) : QuietW cfg w := ⟨h.cancelled, h.bad⟩

theorem finS_of_quiet {cfg : Cfg} {e : Exn} {w : World} (h : QuietW cfg w) (he : e.isAbort = true ∨ e = .stuck) :
    FinS cfg e w :=
  ⟨⟨h.bad, by simp [h.cancelled], fun _ _ => he.imp id Or.inl⟩, fun _ _ => he.imp id (fun h => by rw [h]; rfl)⟩

theorem finS_of_sleeper {cfg : Cfg} {m : St} {e : Exn} {w : World} (hm : Ready cfg m)
    (hc : cur cfg w.trace = if e.isCancelKind then cancelledOp m e else C13.afterOp m) :
    FinS cfg e w := by
  by_cases hk : e.isCancelKind = true
  · rw [if_pos hk] at hc
    exact finS_of_canc (m := afterOp m) hk hc hm.bad
  · rw [if_neg hk] at hc
    exact finS_of_live (show Live _ from hc ▸ hm.live_afterOp)

theorem finS_of_op {cfg : Cfg} {m : St} {e : Exn} {w : World} (hm : Ready cfg m)
    (hc : cur cfg w.trace =
      if e.isAbort then abortedOp m else if e.isCancelKind then cancelledOp m e else C13.afterOp m) :
    FinS cfg e w := by
  by_cases ha : e.isAbort = true
  · rw [if_pos ha] at hc
    exact finS_of_quiet ⟨by rw [hc]; exact hm.cancelled, by rw [hc]; exact hm.bad⟩ (Or.inl ha)
  · exact finS_of_sleeper hm (by rw [hc, if_neg ha])

theorem cancelled_none_of {cfg : Cfg} {e : Exn} {w : World}
    (h : ∀ c, (cur cfg w.trace).cancelled = some c → e = c ∧ c.isCancelKind = true)
    (he : e.isCancelKind = false) : (cur cfg w.trace).cancelled = none := by
  cases hc : (cur cfg w.trace).cancelled with
  | none => rfl
  | some c =>
    obtain ⟨rfl, h2⟩ := h c hc
    simp_all

theorem Fin.quiet {cfg : Cfg} {e : Exn} {w : World} (h : Fin cfg e w) (hk : e.isCancelKind = false) :
    QuietW cfg w := ⟨cancelled_none_of h.canc hk, h.bad⟩

theorem FinS.live {cfg : Cfg} {e : Exn} {w : World} (h : FinS cfg e w) (hx : e.isException = true)
    (ha : e.isAbort = false) : LiveW cfg w := by
  have hc := cancelled_none_of h.canc (Exn.not_cancelKind hx)
  refine ⟨?_, hc, h.bad⟩
  cases hab : (cur cfg w.trace).aborted with
  | false => rfl
  | true => rcases h.strong hab hc with h' | h' <;> simp_all

theorem fin_post {α : Type} {x : M α} {cfg : Cfg} {P : World → Prop} {Q : α → World → Prop}
    (h : ⦃fun w => ⌜P w⌝⦄ x ⦃post⟨fun a w => ⌜Q a w⌝, fun e w => ⌜FinS cfg e w⌝⟩⦄) :
    ⦃fun w => ⌜P w⌝⦄ x ⦃post⟨fun a w => ⌜Q a w⌝, fun e w => ⌜Fin cfg e w⌝⟩⦄ :=
  triple_mono h (fun _ h => h) (fun _ _ h => h) (fun _ _ h => h.toFin)

theorem fin_pre {α : Type} {x : M α} {cfg : Cfg} {e : Exn} {Q : α → World → Prop} {E : Exn → World → Prop}
    (h : ⦃fun w => ⌜Fin cfg e w⌝⦄ x ⦃post⟨fun a w => ⌜Q a w⌝, fun e w => ⌜E e w⌝⟩⦄) :
    ⦃fun w => ⌜FinS cfg e w⌝⦄ x ⦃post⟨fun a w => ⌜Q a w⌝, fun e w => ⌜E e w⌝⟩⦄ :=
  triple_mono h (fun _ h => h.toFin) (fun _ _ h => h) (fun _ _ h => h)

theorem keep_live_of {α : Type} {x : M α} (cfg : Cfg) (P : St → Prop) (hP : ∀ m, P m → Live m)
    (hl : ∀ v, ⦃fun w => ⌜Kept cfg v w.trace⌝⦄ x ⦃leafPost cfg v⦄) :
    ⦃fun w => ⌜P (cur cfg w.trace)⌝⦄ x
    ⦃post⟨fun _ w => ⌜P (cur cfg w.trace)⌝, fun e w => ⌜FinS cfg e w⌝⟩⦄ :=
  triple_of_rel' (fun w0 _ => hl (some (cur cfg w0.trace))) (fun _ hw => ⟨viewOf_of_none (hP _ hw).cancelled⟩)
    (fun _ _ _ hw h1 => (viewOf_eq_some.mp h1.eq).1 ▸ hw)
    (fun _ _ _ hw h1 => finS_of_errL h1 (hP _ hw).bad (by simp [(hP _ hw).aborted]))

section
variable {α : Type} {x : M α} {cfg : Cfg} (hl : ∀ v, ⦃fun w => ⌜Kept cfg v w.trace⌝⦄ x ⦃leafPost cfg v⦄)
include hl

theorem live_of : ⦃fun w => ⌜LiveW cfg w⌝⦄ x ⦃post⟨fun _ w => ⌜LiveW cfg w⌝, fun e w => ⌜Fin cfg e w⌝⟩⦄ :=
  fin_post (keep_live_of cfg Live (fun _ h => h) hl)

theorem ready_of : ⦃fun w => ⌜ReadyW cfg w⌝⦄ x ⦃post⟨fun _ w => ⌜ReadyW cfg w⌝, fun e w => ⌜Fin cfg e w⌝⟩⦄ :=
  fin_post (keep_live_of cfg (Ready cfg) (fun _ h => h.toLive) hl)

end

theorem fin_of_errL {cfg : Cfg} {m : St} {e : Exn} {w : World} (h : ErrL cfg (some m) e w)
    (hb : m.bad = false) (ho : e = .stuck ∨ Raised w.trace e) : Fin cfg e w := by
  rcases h with h | ⟨hk, m', hm', hcur⟩
  · obtain ⟨e1, e2⟩ := viewOf_eq_some.mp h
    exact ⟨e1 ▸ hb, by simp [e2], fun _ _ => Or.inr ho⟩
  · cases hm'
    exact (finS_of_canc hk hcur hb).toFin

theorem keep_quiet_of {α : Type} {x : M α} (cfg : Cfg) (P : St → Prop) (hP : ∀ m, P m → Quiet m)
    (hl : ∀ v, ⦃fun w => ⌜Kept cfg v w.trace⌝⦄ x ⦃leafPost cfg v⦄)
    (hx : ∀ w0, ⦃fun w => ⌜FX.FootX notOp w0 w⌝⦄ x ⦃FX.fxPost notOp w0⦄) :
    ⦃fun w => ⌜P (cur cfg w.trace)⌝⦄ x
    ⦃post⟨fun _ w => ⌜P (cur cfg w.trace)⌝, fun e w => ⌜Fin cfg e w⌝⟩⦄ :=
  triple_of_rel' (fun w0 _ => triple_and (hl (some (cur cfg w0.trace))) (hx w0))
    (fun w hw => ⟨⟨viewOf_of_none (hP _ hw).cancelled⟩, FX.FootX.refl w⟩)
    (fun _ _ _ hw h => (viewOf_eq_some.mp h.1.eq).1 ▸ hw)
    (fun _ _ _ hw h => fin_of_errL h.1 (hP _ hw).bad (raised_of_exc h.2.toS))


theorem Live.poll {cfg : Cfg} {m : St} (hm : Live m) (a : Ans) (ha : ∀ e d, ¬ a = Ans.raise e d) :
    Quiet (step cfg m (.abortIf, a)) ∧ (saysAbort a = false → Ready cfg (step cfg m (.abortIf, a))) := by
  obtain ⟨h1, h2, h3⟩ := hm
  rw [step_abortIf cfg m a h2]
  cases a with
  | raise e d => exact (ha e d rfl).elim
  | _ => exact ⟨⟨by simp [cancelMark, h2], by simp [cancelMark, h3]⟩, by simp [saysAbort, cancelMark, ready_iff, h1, h2, h3]⟩

theorem poll_spec (cfg : Cfg) :
    ⦃fun w => ⌜LiveW cfg w⌝⦄ ask .abortIf
    ⦃post⟨fun a w => ⌜QuietW cfg w ∧ (saysAbort a = false → ReadyW cfg w)⌝, fun e w => ⌜FinS cfg e w⌝⟩⦄ := by
  refine triple_of_rel (fun w0 => ask_cur cfg .abortIf (cur cfg w0.trace)) (fun _ => rfl)
    (fun w a w' hw h => ?_) (fun w e w' hw h => ?_)
  · unfold QuietW ReadyW
    rw [h.1]
    exact hw.poll a h.2
  · rw [step_abortIf cfg _ _ hw.cancelled] at h
    by_cases hk : e.isCancelKind = true
    · exact finS_of_canc (m := { cur cfg w.trace with polled := true }) hk
        (by simpa [cancelMark, hk, saysAbort] using h.1) hw.bad
    · refine finS_of_live ⟨?_, ?_, ?_⟩ <;> simp [h.1, cancelMark, hk, saysAbort, hw.aborted, hw.cancelled, hw.bad]

theorem isOp_of_swallowed {r : Req} (h : FX.swallowed r = true) : isOp r = false := by
  cases r <;> simp_all [FX.swallowed, isOp]

theorem emit_quiet (cfg : Cfg) (tl : Bool) (ev : Event) (a s : Nat) (k : Option EClass) (e : Option Exn)
    (st : Option StopReason) (c : Option Cause) (cl : Option Classification) :
    ⦃fun w => ⌜QuietW cfg w⌝⦄ emit cfg tl ev a s k e st c cl
    ⦃post⟨fun _ w => ⌜QuietW cfg w⌝, fun e w => ⌜FinS cfg e w⌝⟩⦄ := by
  refine triple_of_rel' (fun w0 _ => triple_and (emit_l cfg (some (cur cfg w0.trace)) tl ev a s k e st c cl)
      (FX.emit_fx FX.swallowed w0 cfg tl ev a s k e st c cl (fun _ => rfl) (fun _ _ => rfl)))
    (fun w hw => ⟨⟨viewOf_of_none hw.cancelled⟩, FX.FootX.refl w⟩)
    (fun _ _ _ hw h => show Quiet _ from (viewOf_eq_some.mp h.1.eq).1 ▸ hw) (fun _ e' _ hw h => ?_)
  refine finS_of_errL h.1 hw.bad (fun _ => Or.inr ?_)
  rcases h.2.toS.cases with rfl | ⟨r, d, hm, hq, hs⟩
  · exact ⟨rfl, Or.inl rfl⟩
  · exact ⟨hs hq, Or.inr ⟨_, hm, isOp_of_swallowed hq, d, rfl⟩⟩

/-- `_RetryState.check_abort`: when it returns, the predicate has been polled (if there is one) -/
theorem checkAbort_w (cfg : Cfg) (tl : Bool) (a : Nat) :
    ⦃fun w => ⌜LiveW cfg w⌝⦄ checkAbort cfg tl a
    ⦃post⟨fun _ w => ⌜ReadyW cfg w⌝, fun e w => ⌜FinS cfg e w⌝⟩⦄ := by
  have h1 := poll_spec cfg
  have h2 := emit_quiet cfg tl
  mvcgen -leave -trivial [checkAbort, setStop, modifyRS, h1, h2]
  vc_intro
  case vc2 => exact (‹_ ∧ (_ → _)›).2 rfl
  case vc3 => exact (‹_ ∧ (_ → _)›).1
  case vc4 => exact finS_of_quiet ‹_› (Or.inl rfl)
  case vc5 => exact finS_of_quiet (‹_ ∧ (_ → _)›).1 (Or.inr rfl)
  case vc6 => exact ⟨‹_›, fun hab => absurd hab ‹_›⟩
  all_goals assumption

theorem Ready.op_ok {cfg : Cfg} {m : St} {w : World} {n : Nat} {a : Ans} (hm : Ready cfg m)
    (h : cur cfg w.trace = step cfg m (.op n, a) ∧ ∀ e d, ¬ a = Ans.raise e d) : LiveW cfg w := by
  unfold LiveW
  rw [h.1, step_op_ok cfg m a hm h.2]
  exact hm.live_afterOp

theorem Ready.sleeper_ok {cfg : Cfg} {m : St} {w : World} {l : Lvl} {n : Nat} {a : Ans} (hm : Ready cfg m)
    (h : cur cfg w.trace = step cfg m (.sleeper l n, a) ∧ ∀ e d, ¬ a = Ans.raise e d) : LiveW cfg w := by
  unfold LiveW
  rw [h.1, step_sleeper_ok cfg m a hm h.2]
  exact hm.live_afterOp

theorem invokeOp_w (cfg : Cfg) (a : Nat) :
    ⦃fun w => ⌜ReadyW cfg w⌝⦄ invokeOp a
    ⦃post⟨fun _ w => ⌜LiveW cfg w⌝, fun e w => ⌜FinS cfg e w⌝⟩⦄ := by
  mvcgen -leave -trivial [invokeOp, ask_cur]
  vc_intro
  case vc2 => exact Ready.op_ok ‹ReadyW cfg _› ‹_›
  case vc3 => exact finS_of_live (Ready.op_ok ‹ReadyW cfg _› ‹_›)
  case vc4 =>
    have hm : ReadyW cfg _ := ‹_›
    exact finS_of_op hm ((‹cur cfg _ = _ ∧ _›).1.trans (step_op_raise cfg _ _ _ 0 hm))
  all_goals assumption

theorem callSleeper_w (cfg : Cfg) (s : Nat) :
    ⦃fun w => ⌜ReadyW cfg w⌝⦄ callSleeper cfg s
    ⦃post⟨fun _ w => ⌜LiveW cfg w⌝, fun e w => ⌜FinS cfg e w⌝⟩⦄ := by
  mvcgen -leave -trivial [callSleeper, ask_cur]
  vc_intro
  case vc2 => exact Ready.sleeper_ok ‹ReadyW cfg _› ‹_›
  case vc3 =>
    have hm : ReadyW cfg _ := ‹_›
    exact finS_of_sleeper hm ((‹cur cfg _ = _ ∧ _›).1.trans (step_sleeper_raise cfg _ _ _ _ 0 hm))
  all_goals assumption


abbrev livePost (cfg : Cfg) : PostCond α (.except Exn (.arg World .pure)) :=
  post⟨fun _ w => ⌜LiveW cfg w⌝, fun e w => ⌜Fin cfg e w⌝⟩

theorem sleepAction_spec (cfg : Cfg) (tl : Bool) (a s : Nat) (ctx : BackoffCtx) :
    ⦃fun w => ⌜ReadyW cfg w⌝⦄ sleepAction cfg tl a s ctx ⦃livePost cfg⦄ := by
  have h1 := ready_of (fun v => callBeforeSleep_l cfg v ctx s)
  have h2 := fin_post (callSleeper_w cfg s)
  have h3 := fun lvl => ready_of (fun v => callSleepHandler_l cfg v lvl ctx s)
  have h4 := fun act => ready_of (fun v => handleSleepDecision_l cfg v tl act a s)
  mvcgen -leave -trivial [sleepAction, h1, h2, h3, h4]
  vc_intro
  case vc7 => exact Ready.toLive ‹_›
  all_goals assumption

theorem failureOutcome_spec (cfg : Cfg) (tl : Bool) (a : Nat) (d : Decision)
    (cls : Option Classification) (e : Option Exn) (r : Option Nat) (c : Option Cause) :
    ⦃fun w => ⌜ReadyW cfg w⌝⦄ failureOutcome cfg tl a d cls e r c ⦃livePost cfg⦄ := by
  have h1 := fun d act => live_of (fun v => finalizeAttempt_l cfg v tl a d act cls e r c)
  have h2 := sleepAction_spec cfg tl a
  mvcgen -leave -trivial [failureOutcome, h1, h2]
  vc_intro
  case vc1 => exact Ready.toLive ‹_›
  all_goals assumption

theorem deliverCall_live (cfg : Cfg) (act : Action) (orig : Option Exn) (fb : ExhaustedFields) :
    ⦃fun w => ⌜LiveW cfg w⌝⦄ deliverCall act orig fb ⦃livePost cfg⦄ :=
  live_of (fun v => deliverCall_l cfg v act orig fb)

theorem callExceptionPath_spec (cfg : Cfg) (a : Nat) (e : Exn) :
    ⦃fun w => ⌜LiveW cfg w⌝⦄ callExceptionPath cfg a e ⦃livePost cfg⦄ := by
  have h1 := fin_post (checkAbort_w cfg false a)
  have h2 := ready_of (fun v => handleException_l cfg v false e a)
  have h3 := fun d cls => failureOutcome_spec cfg false a d cls (some e) none (some .exception)
  have h4 := fun o => live_of (fun v => callAttemptEndFromOutcome_l cfg v a o)
  have h5 := fun act => deliverCall_live cfg act (some e) default
  mvcgen -leave -trivial [callExceptionPath, getRS, modifyAS, h1, h2, h3, h4, h5]
  vc_intro
  case vc6 => exact Ready.toLive ‹ReadyW cfg _›
  all_goals assumption

theorem handleAbortAttemptEnd_quiet (cfg : Cfg) (a : Nat) (e : Exn) :
    ⦃fun w => ⌜QuietW cfg w⌝⦄ handleAbortAttemptEnd cfg a e
    ⦃post⟨fun _ w => ⌜QuietW cfg w⌝, fun e w => ⌜Fin cfg e w⌝⟩⦄ :=
  keep_quiet_of cfg Quiet (fun _ h => h) (fun v => handleAbortAttemptEnd_l cfg v a e)
    (fun w0 => FX.handleAbortAttemptEnd_fx notOp w0 cfg a e (fun _ => rfl))

/-- the `except` ladder around `func()`: an abort ends the run, a cancellation passes through, an
    `Exception` is handled while the run is still alive -/
theorem callOpHandler_spec (cfg : Cfg) (a : Nat) (e : Exn) :
    ⦃fun w => ⌜FinS cfg e w⌝⦄ callOpHandler cfg a e ⦃livePost cfg⦄ := by
  unfold callOpHandler
  split
  · next ha =>
    have h1 := handleAbortAttemptEnd_quiet cfg a e
    have h2 := fun ev a s k e st c cl => fin_post (emit_quiet cfg false ev a s k e st c cl)
    refine triple_mono (P := QuietW cfg) ?_ (fun _ h => h.toFin.quiet (Exn.not_cancelKind (Exn.abort_flags ha).1))
      (fun _ _ h => h) (fun _ _ h => h)
    mvcgen -leave -trivial [emitAbortedOnce, getRS, setStop, modifyRS, h1, h2]
    vc_intro
    case vc2 => exact (finS_of_quiet ‹_› (Or.inl ha)).toFin
    case vc4 => exact (finS_of_quiet ‹_› (Or.inl ha)).toFin
    all_goals assumption
  split
  · exact fin_pre throw_rule
  split
  · exact fin_pre throw_rule
  split
  · exact fin_pre throw_rule
  split
  · next ha _ _ _ hx =>
    exact triple_mono (callExceptionPath_spec cfg a e) (fun _ h => h.live hx (by simpa using ha))
      (fun _ _ h => h) (fun _ _ h => h)
  exact fin_pre throw_rule

theorem callResultFailure_spec (cfg : Cfg) (a x : Nat) (c : Classification) :
    ⦃fun w => ⌜LiveW cfg w⌝⦄ callResultFailure cfg a x c ⦃livePost cfg⦄ := by
  have h1 := fin_post (checkAbort_w cfg false a)
  have h2 := ready_of (fun v => handleFailure_l cfg v false c a .result none (some x))
  have h3 := fun d cls => failureOutcome_spec cfg false a d cls none (some x) (some .result)
  have h4 := fun o => live_of (fun v => callAttemptEndFromOutcome_l cfg v a o)
  have h5 := fun act fb => deliverCall_live cfg act none fb
  mvcgen -leave -trivial [callResultFailure, getRS, modifyAS, h1, h2, h3, h4, h5]
  vc_intro
  case vc6 => exact Ready.toLive ‹ReadyW cfg _›
  all_goals assumption

theorem callResultPath_spec (cfg : Cfg) (a x : Nat) :
    ⦃fun w => ⌜LiveW cfg w⌝⦄ callResultPath cfg a x ⦃livePost cfg⦄ := by
  have h1 := live_of (fun v => shouldClassifyResult_l cfg v x)
  have h2 := live_of (fun v => handleSuccessAttemptEnd_l cfg v false a x)
  have h3 := callResultFailure_spec cfg a x
  mvcgen -leave -trivial [callResultPath, h1, h2, h3]
  vc_intro
  all_goals assumption

theorem callAttempt_spec (cfg : Cfg) (a : Nat) :
    ⦃fun w => ⌜LiveW cfg w⌝⦄ callAttempt cfg a ⦃livePost cfg⦄ := by
  have h1 := fin_post (checkAbort_w cfg false (a - 1))
  have h2 := ready_of (fun v => callAttemptStart_l cfg v a)
  have h3 := invokeOp_w cfg a
  have h4 := callOpHandler_spec cfg a
  have h5 := callResultPath_spec cfg a
  mvcgen -leave -trivial [callAttempt, modifyAS, h1, h2, h3, h4, h5]
  vc_intro
  all_goals assumption

theorem callLoop_spec (cfg : Cfg) : ∀ (fuel a : Nat),
    ⦃fun w => ⌜LiveW cfg w⌝⦄ callLoop cfg fuel a ⦃livePost cfg⦄ := by
  intro fuel
  induction fuel with
  | zero =>
    intro a
    have h1 := live_of (fun v => raiseExhaustedCall_l cfg v)
    mvcgen -leave -trivial [callLoop, h1]
    vc_intro
    all_goals assumption
  | succ f ih =>
    intro a
    have h1 := callAttempt_spec cfg a
    mvcgen -leave -trivial [callLoop, h1, ih]
    vc_intro
    all_goals assumption

theorem runCall_spec (cfg : Cfg) :
    ⦃fun w => ⌜LiveW cfg w⌝⦄ runCall cfg ⦃livePost cfg⦄ := by
  have hl := callLoop_spec cfg cfg.maxAttempts 1
  mvcgen -leave -trivial [runCall, initState, hl]
  vc_intro
  all_goals assumption


structure FinOS (o : Outcome) (m : St) : Prop where
  bad : m.bad = false
  cancelled : m.cancelled = none
  abt : m.aborted = true → o.stop = some .aborted

def FinO (cfg : Cfg) (o : Outcome) (w : World) : Prop := FinOS o (cur cfg w.trace)

theorem FinO.of_live {cfg : Cfg} {w : World} (h : LiveW cfg w) (o : Outcome) : FinO cfg o w :=
  ⟨h.bad, h.cancelled, by simp [h.aborted]⟩

theorem FinO.of_quiet {cfg : Cfg} {w : World} {o : Outcome} (h : QuietW cfg w) (ho : o.stop = some .aborted) :
    FinO cfg o w := ⟨h.bad, h.cancelled, fun _ => ho⟩

def OkX (cfg : Cfg) (r : Option Outcome) (w : World) : Prop :=
  match r with
  | none => LiveW cfg w
  | some o => FinO cfg o w

theorem OkX.of_live {cfg : Cfg} {w : World} (h : LiveW cfg w) (r : Option Outcome) : OkX cfg r w := by
  cases r
  · exact h
  · exact FinO.of_live h _

abbrev xPost (cfg : Cfg) : PostCond (Option Outcome) (.except Exn (.arg World .pure)) :=
  post⟨fun r w => ⌜OkX cfg r w⌝, fun e w => ⌜Fin cfg e w⌝⟩

abbrev outPost (cfg : Cfg) : PostCond Outcome (.except Exn (.arg World .pure)) :=
  post⟨fun o w => ⌜FinO cfg o w⌝, fun e w => ⌜Fin cfg e w⌝⟩

theorem okx_of {x : M (Option Outcome)} {cfg : Cfg}
    (hl : ∀ v, ⦃fun w => ⌜Kept cfg v w.trace⌝⦄ x ⦃leafPost cfg v⦄) : ⦃fun w => ⌜LiveW cfg w⌝⦄ x ⦃xPost cfg⦄ :=
  triple_mono (live_of hl) (fun _ h => h) (fun r _ h => OkX.of_live h r) (fun _ _ h => h)

theorem out_of {x : M Outcome} {cfg : Cfg}
    (hl : ∀ v, ⦃fun w => ⌜Kept cfg v w.trace⌝⦄ x ⦃leafPost cfg v⦄) : ⦃fun w => ⌜LiveW cfg w⌝⦄ x ⦃outPost cfg⦄ :=
  triple_mono (live_of hl) (fun _ h => h) (fun o _ h => FinO.of_live h o) (fun _ _ h => h)

theorem abortOutcome_quiet (cfg : Cfg) (tl : Bool) (a : Nat) :
    ⦃fun w => ⌜QuietW cfg w⌝⦄ abortOutcome cfg tl a ⦃outPost cfg⦄ :=
  triple_of_rel' (fun w0 _ => triple_and (abortOutcome_l cfg (some (cur cfg w0.trace)) tl a)
      (FX.abortOutcome_fx notOp w0 cfg tl a (fun _ => rfl) (fun _ _ => rfl)))
    (fun w hw => ⟨⟨viewOf_of_none hw.cancelled⟩, FX.FootXS.refl w⟩)
    (fun _ _ _ hw h => FinO.of_quiet (show Quiet _ from (viewOf_eq_some.mp h.1.eq).1 ▸ hw) h.2.1.2.2)
    (fun _ _ _ hw h => fin_of_errL h.1 hw.bad (raised_of_exc h.2))

theorem execAbortExit_spec (cfg : Cfg) (tl : Bool) (a : Nat) (e : Exn) :
    ⦃fun w => ⌜QuietW cfg w⌝⦄ execAbortExit cfg tl a e ⦃xPost cfg⦄ := by
  have h1 := handleAbortAttemptEnd_quiet cfg a e
  have h2 := abortOutcome_quiet cfg tl
  mvcgen -leave -trivial [execAbortExit, h1, h2]
  vc_intro
  all_goals assumption

theorem checkAbortCaught_spec (cfg : Cfg) (tl : Bool) (a : Nat) :
    ⦃fun w => ⌜LiveW cfg w⌝⦄ checkAbortCaught cfg tl a
    ⦃post⟨fun b w => ⌜QuietW cfg w ∧ (b = false → ReadyW cfg w)⌝, fun e w => ⌜Fin cfg e w⌝⟩⦄ := by
  have h1 := checkAbort_w cfg tl a
  mvcgen -leave -trivial [checkAbortCaught, abortToTrue, h1]
  vc_intro
  case vc2 => exact ⟨LiveW.quiet (Ready.toLive ‹ReadyW cfg _›), fun _ => ‹_›⟩
  case vc3 => exact ⟨(FinS.toFin ‹_›).quiet (Exn.not_cancelKind (Exn.abort_flags ‹_›).1), fun h => Bool.noConfusion h⟩
  case vc4 => exact FinS.toFin ‹_›
  all_goals assumption

theorem execExceptionPath3_spec (cfg : Cfg) (tl : Bool) (a : Nat) (e : Exn) (d : Decision) :
    ⦃fun w => ⌜ReadyW cfg w⌝⦄ execExceptionPath3 cfg tl a e d ⦃xPost cfg⦄ := by
  have h1 := fun cls => failureOutcome_spec cfg tl a d cls (some e) none (some .exception)
  have h2 := fun o => live_of (fun v => callAttemptEndFromOutcome_l cfg v a o)
  have h3 := fun act o => okx_of (fun v => deliverExecute_l cfg v tl act o)
  mvcgen -leave -trivial [execExceptionPath3, getRS, modifyAS, h1, h2, h3]
  vc_intro
  all_goals assumption

theorem execExceptionPath2_spec (cfg : Cfg) (tl : Bool) (a : Nat) (e : Exn) :
    ⦃fun w => ⌜ReadyW cfg w⌝⦄ execExceptionPath2 cfg tl a e ⦃xPost cfg⦄ := by
  have h1 := ready_of (fun v => handleException_l cfg v tl e a)
  have h2 := execExceptionPath3_spec cfg tl a e
  have h3 := checkAbortCaught_spec cfg tl a
  have h4 := execAbortExit_spec cfg tl a e
  mvcgen -leave -trivial [execExceptionPath2, getRS, modifyAS, h1, h2, h3, h4]
  vc_intro
  case vc3 => exact Ready.toLive ‹ReadyW cfg _›
  case vc4 => exact (‹_ ∧ (_ → _)›).1
  case vc5 => exact (‹_ ∧ (_ → _)›).2 (Bool.eq_false_iff.mpr ‹_›)
  all_goals assumption

theorem execExceptionPath_spec (cfg : Cfg) (tl : Bool) (a : Nat) (e : Exn) :
    ⦃fun w => ⌜LiveW cfg w⌝⦄ execExceptionPath cfg tl a e ⦃xPost cfg⦄ := by
  have h2 := execExceptionPath2_spec cfg tl a e
  have h3 := checkAbortCaught_spec cfg tl a
  have h4 := execAbortExit_spec cfg tl a e
  mvcgen -leave -trivial [execExceptionPath, modifyAS, h2, h3, h4]
  vc_intro
  case vc2 => exact (‹_ ∧ (_ → _)›).1
  case vc3 => exact (‹_ ∧ (_ → _)›).2 (Bool.eq_false_iff.mpr ‹_›)
  all_goals assumption

theorem execHandler_spec (cfg : Cfg) (tl : Bool) (a : Nat) (e : Exn) :
    ⦃fun w => ⌜FinS cfg e w⌝⦄ execHandler cfg tl a e ⦃xPost cfg⦄ := by
  unfold execHandler
  split
  · next ha =>
    exact triple_mono (execAbortExit_spec cfg tl a e) (fun _ h => h.toFin.quiet (Exn.not_cancelKind (Exn.abort_flags ha).1))
      (fun _ _ h => h) (fun _ _ h => h)
  split
  · exact fin_pre throw_rule
  split
  · exact fin_pre throw_rule
  split
  · exact fin_pre throw_rule
  split
  · next ha _ _ _ hx =>
    exact triple_mono (execExceptionPath_spec cfg tl a e) (fun _ h => h.live hx (by simpa using ha))
      (fun _ _ h => h) (fun _ _ h => h)
  exact fin_pre throw_rule

theorem execReturnedHandler_spec (cfg : Cfg) (tl : Bool) (a : Nat) (e : Exn) :
    ⦃fun w => ⌜Fin cfg e w⌝⦄ execReturnedHandler cfg tl a e ⦃xPost cfg⦄ := by
  unfold execReturnedHandler
  split
  · next ha =>
    exact triple_mono (execAbortExit_spec cfg tl a e) (fun _ h => h.quiet (Exn.not_cancelKind (Exn.abort_flags ha).1))
      (fun _ _ h => h) (fun _ _ h => h)
  exact throw_rule

theorem execResultFailure_spec (cfg : Cfg) (tl : Bool) (a x : Nat) (c : Classification) :
    ⦃fun w => ⌜LiveW cfg w⌝⦄ execResultFailure cfg tl a x c ⦃xPost cfg⦄ := by
  have h1 := fin_post (checkAbort_w cfg tl a)
  have h2 := ready_of (fun v => handleFailure_l cfg v tl c a .result none (some x))
  have h3 := fun d cls => failureOutcome_spec cfg tl a d cls none (some x) (some .result)
  have h4 := fun o => live_of (fun v => callAttemptEndFromOutcome_l cfg v a o)
  have h5 := fun act o => okx_of (fun v => deliverExecute_l cfg v tl act o)
  mvcgen -leave -trivial [execResultFailure, getRS, modifyAS, h1, h2, h3, h4, h5]
  vc_intro
  case vc6 => exact Ready.toLive ‹ReadyW cfg _›
  all_goals assumption

theorem execResultPath_spec (cfg : Cfg) (tl : Bool) (a x : Nat) :
    ⦃fun w => ⌜LiveW cfg w⌝⦄ execResultPath cfg tl a x ⦃xPost cfg⦄ := by
  have h1 := live_of (fun v => shouldClassifyResult_l cfg v x)
  have h2 := live_of (fun v => handleSuccessAttemptEnd_l cfg v tl a x)
  have h3 := execResultFailure_spec cfg tl a x
  have h4 := fun ok val n ns => out_of (fun v => buildOutcome_l cfg v ok val n ns)
  mvcgen -leave -trivial [execResultPath, h1, h2, h3, h4]
  vc_intro
  all_goals assumption

theorem execPre_spec (cfg : Cfg) (tl : Bool) (a : Nat) :
    ⦃fun w => ⌜LiveW cfg w⌝⦄ execPre cfg tl a
    ⦃post⟨fun _ w => ⌜LiveW cfg w⌝, fun e w => ⌜FinS cfg e w⌝⟩⦄ := by
  have h1 := checkAbort_w cfg tl (a - 1)
  have h2 := keep_live_of cfg (Ready cfg) (fun _ h => h.toLive) (fun v => callAttemptStart_l cfg v a)
  have h3 := invokeOp_w cfg a
  mvcgen -leave -trivial [execPre, modifyAS, h1, h2, h3]
  vc_intro
  all_goals assumption

theorem execAttempt_spec (cfg : Cfg) (tl : Bool) (a : Nat) :
    ⦃fun w => ⌜LiveW cfg w⌝⦄ execAttempt cfg tl a ⦃xPost cfg⦄ := by
  have h1 := execPre_spec cfg tl a
  have h2 := execHandler_spec cfg tl a
  have h3 := execResultPath_spec cfg tl a
  have h4 := execReturnedHandler_spec cfg tl a
  mvcgen -leave -trivial [execAttempt, h1, h2, h3, h4]
  vc_intro
  all_goals assumption

theorem execLoop_spec (cfg : Cfg) (tl : Bool) : ∀ (fuel a : Nat),
    ⦃fun w => ⌜LiveW cfg w⌝⦄ execLoop cfg tl fuel a ⦃outPost cfg⦄ := by
  intro fuel
  induction fuel with
  | zero =>
    intro a
    have h1 := out_of (fun v => buildExhaustedOutcome_l cfg v tl)
    mvcgen -leave -trivial [execLoop, h1]
    vc_intro
    all_goals assumption
  | succ f ih =>
    intro a
    have h1 := execAttempt_spec cfg tl a
    mvcgen -leave -trivial [execLoop, h1, ih]
    vc_intro
    all_goals assumption

theorem runExecute_spec (cfg : Cfg) :
    ⦃fun w => ⌜LiveW cfg w⌝⦄ runExecute cfg ⦃outPost cfg⦄ := by
  have hl := execLoop_spec cfg cfg.timeline cfg.maxAttempts 1
  mvcgen -leave -trivial [runExecute, initState, hl]
  vc_intro
  all_goals assumption

open Policy

theorem cur_foot_brk (cfg : Cfg) (w w' : World) (h : Foot brkK w w') :
    cur cfg w'.trace = cur cfg w.trace := by
  obtain ⟨δ, e, k⟩ := h.trace
  rw [e, cur_append_brk cfg δ _ k]

theorem org_grow {w w' : World} (e : Exn) (δ : List (Req × Ans)) (ht : w'.trace = δ ++ w.trace)
    (ho : Org e w) : Org e w' :=
  ho.imp id (Or.imp id fun h => ht ▸ h.mono δ)

theorem fin_foot_brk (cfg : Cfg) (e : Exn) (w w' : World) (h : Foot brkK w w') (hf : Fin cfg e w) :
    Fin cfg e w' := by
  have hc := cur_foot_brk cfg w w' h
  obtain ⟨δ, ht, _⟩ := h.trace
  refine ⟨hc ▸ hf.bad, hc ▸ hf.canc, ?_⟩
  rw [hc]
  exact fun a b => org_grow e δ ht (hf.abt a b)

theorem pred_foot_brk (cfg : Cfg) (P : St → Prop) (w w' : World) (h : Foot brkK w w')
    (hp : P (cur cfg w.trace)) : P (cur cfg w'.trace) := by
  rw [cur_foot_brk cfg w w' h]; exact hp

theorem keep_fin_of {α : Type} {x : M α} (cfg : Cfg) (e0 : Exn) (hk : e0.isCancelKind = false)
    (hl : ∀ v, ⦃fun w => ⌜Kept cfg v w.trace⌝⦄ x ⦃leafPost cfg v⦄)
    (hx : ∀ w0, ⦃fun w => ⌜FX.FootX notOp w0 w⌝⦄ x ⦃FX.fxPost notOp w0⦄) :
    ⦃fun w => ⌜Fin cfg e0 w⌝⦄ x
    ⦃post⟨fun _ w => ⌜Fin cfg e0 w⌝, fun e w => ⌜Fin cfg e w⌝⟩⦄ := by
  refine triple_of_rel' (fun w0 _ => triple_and (hl (some (cur cfg w0.trace))) (hx w0))
    (fun w hfin => ⟨⟨viewOf_of_none (cancelled_none_of hfin.canc hk)⟩, FX.FootX.refl w⟩)
    (fun _ _ _ hfin h => ?_) (fun _ _ _ hfin h => fin_of_errL h.1 hfin.bad (raised_of_exc h.2.toS))
  have e1 := (viewOf_eq_some.mp h.1.eq).1
  obtain ⟨δ, ht, _⟩ := h.2.trace
  refine ⟨e1 ▸ hfin.bad, e1 ▸ hfin.canc, ?_⟩
  rw [e1]
  exact fun a b => org_grow e0 δ ht (hfin.abt a b)

section policySpecs
variable (cfg : Cfg)

theorem recordCancel_keeps {E : Exn → World → Prop} (I : World → Prop)
    (hI : ∀ w w', Foot brkK w w' → I w → I w') :
    ⦃fun w => ⌜I w⌝⦄ Policy.recordCancel cfg ⦃post⟨fun _ w => ⌜I w⌝, fun e w => ⌜E e w⌝⟩⦄ := by
  mvcgen [Policy.recordCancel]
  exact hI _ _ (Foot.internal _ _ _ _ _ _ rfl) ‹_›

theorem recordCancel_fin (e : Exn) : ⦃fun w => ⌜Fin cfg e w⌝⦄ Policy.recordCancel cfg ⦃armPost (Fin cfg) e⦄ :=
  recordCancel_keeps cfg _ (fin_foot_brk cfg e)

theorem recordSuccess_live :
    ⦃fun w => ⌜LiveW cfg w⌝⦄ Policy.recordSuccess cfg ⦃livePost cfg⦄ :=
  live_of fun v => recordSuccess_l cfg v

theorem checkBreaker_live :
    ⦃fun w => ⌜LiveW cfg w⌝⦄ checkBreaker cfg ⦃livePost cfg⦄ :=
  live_of fun v => checkBreaker_l cfg v

theorem handleExhaustedCall_fin (e : Exn) (hk : e.isExhausted = true) :
    ⦃fun w => ⌜Fin cfg e w⌝⦄ handleExhaustedCall cfg e ⦃armPost (Fin cfg) e⦄ :=
  keep_fin_of cfg e (Exn.not_cancelKind (Exn.exhausted_flags hk).1) (fun v => handleExhaustedCall_l cfg v e)
    (fun w0 => FX.handleExhaustedCall_fx notOp w0 cfg e (fun _ => rfl) (fun _ _ _ => rfl) (fun _ _ _ _ => rfl))

theorem handleExceptionCall_fin (e : Exn) (b : Bool) (hk : e.isException = true) :
    ⦃fun w => ⌜Fin cfg e w⌝⦄ handleExceptionCall cfg e b ⦃armPost (Fin cfg) e⦄ :=
  keep_fin_of cfg e (Exn.not_cancelKind hk) (fun v => handleExceptionCall_l cfg v e b)
    (fun w0 => FX.handleExceptionCall_fx notOp w0 cfg e b (fun _ => rfl) (fun _ _ _ => rfl)
      (fun _ _ _ _ => rfl) (fun _ => rfl) rfl)

/-- the `except` ladder of `Policy.call`: after a cancellation only `record_cancel` happens; the other
    handlers run while an exception that is no cancellation is in flight -/
theorem callLadder_spec (e : Exn) :
    ⦃fun w => ⌜Fin cfg e w⌝⦄ callLadder cfg e ⦃livePost cfg⦄ :=
  callLadder_rule e (fun _ => recordCancel_fin cfg e)
    (fun ha => keep_fin_of cfg e (Exn.not_cancelKind (Exn.abort_flags ha).1) (fun v => handleAbortCall_l cfg v e)
      (fun w0 => FX.handleAbortCall_fx notOp w0 cfg e (fun _ => rfl) rfl))
    (handleExhaustedCall_fin cfg e) (fun hx _ _ => handleExceptionCall_fin cfg e true hx) (fun _ _ h => h)

theorem call_of_admitted (h : ⦃fun w => ⌜LiveW cfg w⌝⦄ callAdmitted cfg ⦃livePost cfg⦄) :
    ⦃fun w => ⌜LiveW cfg w⌝⦄ Policy.call cfg ⦃livePost cfg⦄ :=
  settled_rule (P := LiveW cfg) (fun _ h => h) h (fun _ => recordCancel_keeps cfg _ (pred_foot_brk cfg Live))
    (recordCancel_fin cfg)

theorem call_retry_spec (hret : cfg.hasRetry = true) :
    ⦃fun w => ⌜LiveW cfg w⌝⦄ Policy.call cfg ⦃livePost cfg⦄ :=
  call_of_admitted cfg (callAdmitted_retry_rule hret (checkBreaker_live cfg) (runCall_spec cfg)
    (fun _ => recordSuccess_live cfg) (callLadder_spec cfg))

theorem executeLadder_spec (e : Exn) :
    ⦃fun w => ⌜Fin cfg e w⌝⦄ executeLadder cfg e ⦃outPost cfg⦄ :=
  executeLadder_rule e (handleExhaustedCall_fin cfg e) (fun _ => recordCancel_fin cfg e)
    (fun hx _ _ => handleExceptionCall_fin cfg e false hx) (fun _ _ h => h)

theorem recordSuccess_finO (o : Outcome) :
    ⦃fun w => ⌜FinO cfg o w⌝⦄ Policy.recordSuccess cfg
    ⦃post⟨fun _ w => ⌜FinO cfg o w⌝, fun e' w => ⌜Fin cfg e' w⌝⟩⦄ :=
  keep_quiet_of cfg (FinOS o) (fun _ h => ⟨h.cancelled, h.bad⟩) (fun v => recordSuccess_l cfg v)
    (fun w0 => FX.recordSuccess_fx notOp w0 cfg rfl (fun _ _ _ => rfl) (fun _ _ _ _ => rfl))

theorem recordFailure_finO (o : Outcome) (k : EClass) :
    ⦃fun w => ⌜FinO cfg o w⌝⦄ Policy.recordFailure cfg k
    ⦃post⟨fun _ w => ⌜FinO cfg o w⌝, fun e' w => ⌜Fin cfg e' w⌝⟩⦄ :=
  keep_quiet_of cfg (FinOS o) (fun _ h => ⟨h.cancelled, h.bad⟩) (fun v => recordFailure_l cfg v k)
    (fun w0 => FX.recordFailure_fx notOp w0 cfg k rfl (fun _ _ _ => rfl) (fun _ _ _ _ => rfl))

theorem recordCancel_finO (o : Outcome) :
    ⦃fun w => ⌜FinO cfg o w⌝⦄ Policy.recordCancel cfg
    ⦃post⟨fun _ w => ⌜FinO cfg o w⌝, fun e' w => ⌜Fin cfg e' w⌝⟩⦄ :=
  recordCancel_keeps cfg _ (pred_foot_brk cfg (FinOS o))

theorem breakerAllow_live (bc : Breaker.Cfg) : ⦃fun w => ⌜LiveW cfg w⌝⦄ breakerAllow bc ⦃livePost cfg⦄ :=
  live_of fun v => breakerAllow_l cfg v bc

theorem emitBreakerEvent_live (ev : Option Event) (st : CState) (k : Option EClass) :
    ⦃fun w => ⌜LiveW cfg w⌝⦄ emitBreakerEvent cfg ev st k ⦃livePost cfg⦄ :=
  live_of fun v => emitBreakerEvent_l cfg v ev st k

theorem execute_of_admitted2 (h : ⦃fun w => ⌜LiveW cfg w⌝⦄ executeAdmitted2 cfg ⦃outPost cfg⦄) :
    ⦃fun w => ⌜LiveW cfg w⌝⦄ Policy.execute cfg ⦃outPost cfg⦄ :=
  settled_rule (P := LiveW cfg) (fun _ h => h)
    (executeAdmitted_rule (Pd := fun _ => LiveW cfg) (breakerAllow_live cfg)
      (fun d => emitBreakerEvent_live cfg d.2.2 d.2.1 none) (fun _ _ _ h => h) (fun _ _ _ h => FinO.of_live h _) h)
    (recordCancel_finO cfg) (recordCancel_fin cfg)

theorem execute_retry_spec (hret : cfg.hasRetry = true) :
    ⦃fun w => ⌜LiveW cfg w⌝⦄ Policy.execute cfg ⦃outPost cfg⦄ :=
  execute_of_admitted2 cfg (executeAdmitted2_retry_rule hret (runExecute_spec cfg) (executeLadder_spec cfg)
    (recordSuccess_finO cfg) (recordFailure_finO cfg) (recordCancel_finO cfg))

end policySpecs


/-- `check_abort_no_retry`: the same poll; a True answer is recorded by the breaker -/
theorem checkAbortNoRetry_w (cfg : Cfg) :
    ⦃fun w => ⌜LiveW cfg w⌝⦄ checkAbortNoRetry cfg
    ⦃post⟨fun b w => ⌜if b then QuietW cfg w else ReadyW cfg w⌝, fun e w => ⌜Fin cfg e w⌝⟩⦄ := by
  have h1 := fin_post (poll_spec cfg)
  have h2 : ⦃fun w => ⌜QuietW cfg w⌝⦄ Policy.recordCancel cfg
      ⦃post⟨fun _ w => ⌜QuietW cfg w⌝, fun e w => ⌜Fin cfg e w⌝⟩⦄ :=
    recordCancel_keeps cfg _ (pred_foot_brk cfg Quiet)
  mvcgen [checkAbortNoRetry, h1, h2]
  · next h => exact h.1
  · next h => exact h.2 rfl
  · next h => exact (finS_of_quiet h.1 (Or.inr rfl)).toFin
  · next hab _ h => exact ⟨h, fun hab' => absurd hab' hab⟩

section noRetry
variable (cfg : Cfg)

theorem noRetryStartHook_ready :
    ⦃fun w => ⌜ReadyW cfg w⌝⦄ noRetryStartHook cfg
    ⦃post⟨fun _ w => ⌜ReadyW cfg w⌝, fun e w => ⌜FinS cfg e w⌝⟩⦄ :=
  keep_live_of cfg (Ready cfg) (fun _ h => h.toLive) (fun v => noRetryStartHook_l cfg v)

theorem noRetryEndHook_live (exc : Option Exn) (r : Option Nat) (d : AttemptDecision)
    (stop : Option StopReason) (cause : Option Cause) :
    ⦃fun w => ⌜LiveW cfg w⌝⦄ noRetryEndHook cfg exc r d stop cause ⦃livePost cfg⦄ :=
  live_of fun v => noRetryEndHook_l cfg v exc r d stop cause

theorem call_nr_spec (hret : cfg.hasRetry = false) :
    ⦃fun w => ⌜LiveW cfg w⌝⦄ Policy.call cfg ⦃livePost cfg⦄ :=
  call_of_admitted cfg <| callAdmitted_nr_rule hret (P1 := ReadyW cfg) (checkBreaker_live cfg)
    (triple_mono (checkAbortNoRetry_w cfg) (fun _ h => h)
      (fun b _ h => by
        cases b
        · exact h
        · exact (finS_of_quiet h (Or.inl rfl)).toFin)
      (fun _ _ h => h))
    (fin_post (noRetryStartHook_ready cfg)) (fin_post (invokeOp_w cfg 1)) (fun _ => noRetryEndHook_live cfg _ _ _ _ _)
    (fun _ => recordSuccess_live cfg) (callLadder_spec cfg)

theorem noRetryEndHook_quiet (exc : Option Exn) (r : Option Nat) (d : AttemptDecision)
    (stop : Option StopReason) (cause : Option Cause) :
    ⦃fun w => ⌜QuietW cfg w⌝⦄ noRetryEndHook cfg exc r d stop cause
    ⦃post⟨fun _ w => ⌜QuietW cfg w⌝, fun e' w => ⌜Fin cfg e' w⌝⟩⦄ :=
  keep_quiet_of cfg Quiet (fun _ h => h)
    (fun v => noRetryEndHook_l cfg v exc r d stop cause)
    (fun w0 => FX.noRetryEndHook_fx notOp w0 cfg exc r d stop cause (fun _ => rfl))

/-- the `except` ladder of `_execute_without_retry`: after an abort the outcome is an ABORTED one; after an
    `Exception` nothing has been aborted and any outcome will do -/
theorem noRetryLadder_spec (b : Bool) (e : Exn) :
    ⦃fun w => ⌜FinS cfg e w⌝⦄ noRetryLadder cfg b e ⦃outPost cfg⦄ :=
  noRetryLadder_rule (C := QuietW cfg) (F := LiveW cfg) b e
    (fun ha => triple_mono (recordCancel_keeps cfg _ (pred_foot_brk cfg Quiet))
      (fun _ h => h.toFin.quiet (Exn.not_cancelKind (Exn.abort_flags ha).1)) (fun _ _ h => h) (fun _ _ h => h))
    (noRetryEndHook_quiet cfg _ _ _ _ _) (fun _ _ h => FinO.of_quiet h rfl)
    (fun _ => fin_pre (recordCancel_fin cfg e))
    (fun hx ha => triple_mono (live_of fun v => recordFailure_l cfg v _) (fun _ h => h.live hx ha)
      (fun _ _ h => h) (fun _ _ h => h))
    (noRetryEndHook_live cfg _ _ _ _ _) (fun _ _ _ h => FinO.of_live h _) (fun _ _ h => h.toFin)

theorem execute_nr_spec (hret : cfg.hasRetry = false) :
    ⦃fun w => ⌜LiveW cfg w⌝⦄ Policy.execute cfg ⦃outPost cfg⦄ :=
  execute_of_admitted2 cfg (executeAdmitted2_nr_rule hret (B := fun _ => LiveW cfg) (S := fun _ => FinS cfg)
    (checkAbortNoRetry_w cfg)
    (fun _ h => FinO.of_quiet h rfl) (noRetryStartHook_ready cfg) (invokeOp_w cfg 1) (noRetryLadder_spec cfg)
    (fun _ => recordSuccess_live cfg) (fun _ => noRetryEndHook_live cfg _ _ _ _ _) (fun _ _ h => FinO.of_live h _))

end noRetry


theorem raised_reverse (t : List (Req × Ans)) (e : Exn) : Raised t.reverse e ↔ Raised t e := by
  unfold Raised
  simp

def Accepted (cfg : Cfg) (t : Trace) (r : Res) : Prop := verdict t (run cfg t) r = true

def Good (cfg : Cfg) (r : Res) (w : World) : Prop := Accepted cfg w.trace.reverse r

theorem good_of_live {cfg : Cfg} {w : World} (v : Nat) (h : LiveW cfg w) : Good cfg (.ret v) w := by
  unfold Good Accepted
  rw [run_reverse]
  simp [verdict, h.aborted, h.cancelled, h.bad]

theorem good_of_fin {cfg : Cfg} {e : Exn} {w : World} (h : Fin cfg e w) : Good cfg (.raised e) w := by
  obtain ⟨h1, h2, h3⟩ := h
  unfold Good Accepted verdict
  rw [run_reverse]
  cases hc : (cur cfg w.trace).cancelled with
  | some c =>
    obtain ⟨rfl, _⟩ := h2 c hc
    simp [h1]
  | none =>
    cases ha : (cur cfg w.trace).aborted with
    | false => simp [h1]
    | true =>
      have := h3 ha hc
      simp only [h1, Bool.not_false, Bool.true_and, Option.isNone_none, Bool.and_self, if_true,
        Bool.or_eq_true, beq_iff_eq, raisedBy_iff, raised_reverse]
      rcases this with h | h | h
      · exact Or.inl (Or.inl h)
      · exact Or.inl (Or.inr h)
      · exact Or.inr h

theorem good_of_finO {cfg : Cfg} {o : Outcome} {w : World} (tl : List TimelineEv) (h : FinO cfg o w) :
    Good cfg (.outcome o tl) w := by
  obtain ⟨h1, h2, h3⟩ := h
  unfold Good Accepted verdict
  rw [run_reverse]
  cases ha : (cur cfg w.trace).aborted with
  | false => simp [h1, h2]
  | true => simp [h1, h2, h3 ha]

theorem live_start (cfg : Cfg) (w : World) : LiveW cfg (startWorld w) := ⟨rfl, rfl, rfl⟩

theorem good_call {cfg : Cfg} {x : M Nat} (h : ⦃fun w => ⌜LiveW cfg w⌝⦄ x ⦃livePost cfg⦄) (w : World) :
    Good cfg (toRes (x.run (startWorld w))).1 (toRes (x.run (startWorld w))).2 :=
  toRes_of_triple (Q := Good cfg)
    (triple_mono h (fun _ h => h) (fun v _ h => good_of_live v h) (fun _ _ h => good_of_fin h)) _ (live_start cfg w)

theorem good_execute {cfg : Cfg} {x : M Outcome} (tl : Bool) (h : ⦃fun w => ⌜LiveW cfg w⌝⦄ x ⦃outPost cfg⦄)
    (w : World) : Good cfg (toResO tl (x.run (startWorld w))).1 (toResO tl (x.run (startWorld w))).2 :=
  toResO_of_triple (Q := Good cfg) tl
    (triple_mono h (fun _ h => h) (fun _ _ h => good_of_finO _ h) (fun _ _ h => good_of_fin h)) _ (live_start cfg w)

theorem call_spec (cfg : Cfg) : ⦃fun w => ⌜LiveW cfg w⌝⦄ Policy.call cfg ⦃livePost cfg⦄ := by
  cases hret : cfg.hasRetry
  · exact call_nr_spec cfg hret
  · exact call_retry_spec cfg hret

theorem execute_spec (cfg : Cfg) : ⦃fun w => ⌜LiveW cfg w⌝⦄ Policy.execute cfg ⦃outPost cfg⦄ := by
  cases hret : cfg.hasRetry
  · exact execute_nr_spec cfg hret
  · exact execute_retry_spec cfg hret

/--
**C13.**  For every configuration, every entry point (`Retry`/`Policy` × `call`/`execute`, with or
without a retry component; the async twins, `RetryPolicy`, contexts and `@retry` are these by argument
forwarding) and every world — every answer stream (any outcome sequence, any callback raising anything
at any invocation, `abort_if` answering True at any poll index, a cancellation-type exception at any
attempt or sleep), every clock value, every state of a shared budget or breaker — the run satisfies
the abort/cancellation monitor:

* when `abort_if` is given it is polled before every invocation of the operation and before every
  backoff sleep (since the previous invocation / sleep);
* once a poll answered True or the operation raised `AbortRetryError`, the operation is not invoked
  again and no sleep is started, and the call ends with `AbortRetryError` / an ABORTED outcome (or
  with the error some *other* callback raised afterwards);
* once ANY callback — the operation, a sleep, the abort predicate, an attempt hook, a classifier, a
  strategy, a sleep handler, a before-sleep hook, a metric or log hook (every await point of an async
  run) — raised CancelledError / KeyboardInterrupt / SystemExit / GeneratorExit, nothing but breaker
  records (`record_success / record_failure / record_cancel` exchanges — what the model then makes are
  `record_cancel` in the `except` arms of `Policy.call/execute` and `ensure_settled` in their `finally`)
  follows: no classification, retry, sleep, hook or event; and the call raises exactly that exception.
-/
theorem abort_cancel_hold (cfg : Cfg) (e : Entry) (w : World) :
    Mon.C13.ok cfg e (runEntry cfg e w).2.trace.reverse (runEntry cfg e w).1 = true := by
  cases e with
  | call => exact good_call (runCall_spec cfg) w
  | execute => exact good_execute _ (runExecute_spec cfg) w
  | pcall => exact good_call (call_spec cfg) w
  | pexecute => exact good_execute _ (execute_spec cfg) w

/-- …and therefore of every call in every script of calls and clock advances on ONE policy object. -/
theorem abort_cancel_hold_script (cfg : Cfg) : ∀ (steps : List Step) (w : World),
    ∀ l ∈ (runScript cfg steps w).1, Mon.C13.ok cfg l.entry l.trace l.res = true :=
  forall_script (P := fun e t r => Mon.C13.ok cfg e t r = true) cfg (abort_cancel_hold cfg)


theorem run_append (cfg : Cfg) (p q : Trace) : run cfg (p ++ q) = q.foldl (step cfg) (run cfg p) := by
  simp [run, List.foldl_append]

theorem stepLive_bad (cfg : Cfg) (s : St) (x : Req × Ans) (h : (stepLive cfg s x).bad = false) :
    s.bad = false := by
  obtain ⟨r, a⟩ := x
  have hb : (acted cfg s).bad = false → s.bad = false := fun h => by
    simp only [acted, Bool.or_eq_false_iff] at h
    exact h.1.1
  rcases req_cases r with rfl | ⟨n, rfl⟩ | ⟨l, d, rfl⟩ | hk
  · rwa [stepLive_abortIf] at h
  · rw [stepLive_op] at h; exact hb h
  · exact hb h
  · rwa [stepLive_inert cfg s _ hk] at h

theorem cancelMark_bad (s : St) (a : Ans) : (cancelMark s a).bad = s.bad := by
  unfold cancelMark
  (repeat' split) <;> rfl

theorem cancelMark_polled (s : St) (a : Ans) : (cancelMark s a).polled = s.polled := by
  unfold cancelMark
  (repeat' split) <;> rfl

theorem cancelMark_aborted (s : St) (a : Ans) : (cancelMark s a).aborted = s.aborted := by
  unfold cancelMark
  (repeat' split) <;> rfl

theorem stepLive_record (cfg : Cfg) (s : St) (x : Req × Ans) (h : isRecord x.1 = true) :
    stepLive cfg s x = s := stepLive_inert cfg s x (isRecord_inert _ h)

theorem stepLive_cancelled (cfg : Cfg) (s : St) (x : Req × Ans) :
    (stepLive cfg s x).cancelled = s.cancelled := by
  obtain ⟨r, a⟩ := x
  rcases req_cases r with rfl | ⟨n, rfl⟩ | ⟨l, d, rfl⟩ | hk
  · rw [stepLive_abortIf]
  · rw [stepLive_op]; rfl
  · rfl
  · rw [stepLive_inert cfg s _ hk]

theorem step_live (cfg : Cfg) (s : St) (x : Req × Ans) (hc : s.cancelled = none) :
    (step cfg s x).bad = (stepLive cfg s x).bad ∧ (step cfg s x).polled = (stepLive cfg s x).polled ∧
    (step cfg s x).aborted = (stepLive cfg s x).aborted := by
  rw [step_none cfg s x hc]
  split
  · rename_i h; rw [stepLive_record cfg s x h]; exact ⟨rfl, rfl, rfl⟩
  · exact ⟨cancelMark_bad _ _, cancelMark_polled _ _, cancelMark_aborted _ _⟩

theorem bad_step (cfg : Cfg) (s : St) (x : Req × Ans) (h : (step cfg s x).bad = false) : s.bad = false := by
  cases hc : s.cancelled with
  | none => exact stepLive_bad cfg s x ((step_live cfg s x hc).1 ▸ h)
  | some c =>
    unfold step at h
    simp only [hc] at h
    split at h
    · exact h
    · simp at h

theorem bad_fold (cfg : Cfg) (q : Trace) : ∀ s, (q.foldl (step cfg) s).bad = false → s.bad = false :=
  foldl_flag (step cfg) St.bad (bad_step cfg) q

theorem bad_at (cfg : Cfg) (p q : Trace) (x : Req × Ans) (h : (run cfg (p ++ x :: q)).bad = false) :
    (step cfg (run cfg p) x).bad = false :=
  foldl_flag_at (step cfg) St.bad (bad_step cfg) {} p q x h

theorem live_at (cfg : Cfg) (s : St) (x : Req × Ans) (hx : isRecord x.1 = false)
    (h : (step cfg s x).bad = false) : s.cancelled = none := by
  cases hc : s.cancelled with
  | none => rfl
  | some c =>
    unfold step at h
    simp [hc, hx] at h

theorem cancelled_none_step (cfg : Cfg) (s : St) (x : Req × Ans) (h : (step cfg s x).cancelled = none) :
    s.cancelled = none := by
  cases hc : s.cancelled with
  | none => rfl
  | some c => rw [step_some cfg s x c hc] at h; cases h

theorem op_not_record (r : Req) (h : isOp r = true ∨ isSleeper r = true) : isRecord r = false := by
  cases r <;> simp_all [isOp, isSleeper, isRecord]

/-- a poll since the last attempt / sleep (newest-first log) -/
def PolledSince (tr : List (Req × Ans)) : Prop :=
  ∃ p2 a p1, tr = p2 ++ (Req.abortIf, a) :: p1 ∧ ∀ y ∈ p2, isOp y.1 = false ∧ isSleeper y.1 = false

theorem polledSince_cons (x : Req × Ans) (tr : List (Req × Ans)) :
    PolledSince (x :: tr) ↔ x.1 = .abortIf ∨ (isOp x.1 = false ∧ isSleeper x.1 = false) ∧ PolledSince tr := by
  constructor
  · rintro ⟨p2, a, p1, he, hall⟩
    cases p2 with
    | nil => exact Or.inl (congrArg Prod.fst (List.cons.inj he).1)
    | cons y p2 =>
      obtain ⟨hxy, htl⟩ := List.cons.inj he
      subst hxy
      exact Or.inr ⟨hall _ List.mem_cons_self, p2, a, p1, htl, fun z hz => hall z (List.mem_cons_of_mem _ hz)⟩
  · rintro (h | ⟨hx, p2, a, p1, rfl, hall⟩)
    · exact ⟨[], x.2, tr, by rw [← h]; rfl, fun _ hz => (List.not_mem_nil hz).elim⟩
    · exact ⟨x :: p2, a, p1, rfl, fun z hz => (List.mem_cons.mp hz).elim (fun e => e ▸ hx) (hall z)⟩

theorem polled_iff (cfg : Cfg) (tr : List (Req × Ans)) (hc : (cur cfg tr).cancelled = none) :
    (cur cfg tr).polled = true ↔ PolledSince tr := by
  induction tr with
  | nil => simp [cur, PolledSince]
  | cons x tr ih =>
    obtain ⟨r, a⟩ := x
    rw [cur_cons] at hc ⊢
    have hc' := cancelled_none_step cfg _ _ hc
    rw [(step_live cfg _ _ hc').2.1, polledSince_cons, ← ih hc']
    rcases req_cases r with rfl | ⟨n, rfl⟩ | ⟨l, d, rfl⟩ | hk
    · simp [stepLive_abortIf]
    · simp [stepLive_op, acted, isOp]
    · simp [stepLive_sleeper, acted, isSleeper]
    · simp [stepLive_inert cfg _ (r, a) hk, inert_not_action hk]

/-- an abort signal: the predicate answered True, or the operation raised `AbortRetryError` -/
def AbortSignal (y : Req × Ans) : Prop :=
  (y.1 = .abortIf ∧ ∃ d, y.2 = .bool true d) ∨
  (isOp y.1 = true ∧ ∃ e d, y.2 = .raise e d ∧ e.isAbort = true)

theorem aborted_stepLive (cfg : Cfg) (s : St) (x : Req × Ans) :
    (stepLive cfg s x).aborted = true ↔ s.aborted = true ∨ AbortSignal x := by
  obtain ⟨r, a⟩ := x
  unfold AbortSignal
  rcases req_cases r with rfl | ⟨n, rfl⟩ | ⟨l, d, rfl⟩ | hk
  · simp [stepLive_abortIf, isOp, saysAbort_iff, or_comm]
  · simp [stepLive_op, isOp, raisesAbort_iff, or_comm]
  · simp [stepLive_sleeper, acted, isOp]
  · simp [stepLive_inert cfg s (r, a) hk, inert_not_action hk]

theorem aborted_iff (cfg : Cfg) (tr : List (Req × Ans)) (hc : (cur cfg tr).cancelled = none) :
    (cur cfg tr).aborted = true ↔ ∃ y ∈ tr, AbortSignal y := by
  induction tr with
  | nil => simp [cur]
  | cons x tr ih =>
    rw [cur_cons] at hc ⊢
    have hc' := cancelled_none_step cfg _ _ hc
    rw [(step_live cfg _ _ hc').2.2, aborted_stepLive, ih hc']
    simp only [List.mem_cons, exists_eq_or_imp]
    exact Or.comm

theorem after_cancel (cfg : Cfg) (c : Exn) (q : Trace) : ∀ s, s.cancelled = some c →
    (q.foldl (step cfg) s).bad = false →
    (∀ y ∈ q, isRecord y.1 = true) ∧ (q.foldl (step cfg) s).cancelled = some c := by
  induction q with
  | nil => exact fun s hc _ => ⟨by simp, hc⟩
  | cons x q ih =>
    intro s hc hb
    cases hr : isRecord x.1 with
    | false =>
      have h1 := foldl_flag (step cfg) St.bad (bad_step cfg) q _ hb
      have := live_at cfg s x hr h1
      rw [hc] at this; cases this
    | true =>
      simp only [List.foldl_cons, step_record cfg s x hr] at hb ⊢
      obtain ⟨h1, h2⟩ := ih s hc hb
      exact ⟨by simpa [hr] using h1, h2⟩

/-- a cancellation signal: any callback other than breaker bookkeeping (which is not a callback) —
    the operation, a sleep, the abort predicate, an attempt hook, a classifier, a strategy, a sleep
    handler, a before-sleep hook, a metric or log hook — raised CancelledError / KeyboardInterrupt /
    SystemExit / GeneratorExit -/
def CancelSignal (y : Req × Ans) : Prop :=
  isRecord y.1 = false ∧ ∃ e d, y.2 = .raise e d ∧ e.isCancelKind = true

theorem cancel_step (cfg : Cfg) (s : St) (x : Req × Ans) (e : Exn) (d : Nat) (hc : s.cancelled = none)
    (hx : isRecord x.1 = false) (ha : x.2 = .raise e d) (hk : e.isCancelKind = true) :
    (step cfg s x).cancelled = some e := by
  rw [step_none cfg s x hc]
  simp [hx, ha, cancelMark, hk]

theorem cancelled_step (cfg : Cfg) (s : St) (x : Req × Ans) :
    (step cfg s x).cancelled ≠ none ↔ s.cancelled ≠ none ∨ CancelSignal x := by
  cases hc : s.cancelled with
  | some c => simp [step_some cfg s x c hc]
  | none =>
    rw [step_none cfg s x hc]
    unfold CancelSignal
    obtain ⟨r, a⟩ := x
    cases hr : isRecord r with
    | true => simp [hc]
    | false =>
      have := stepLive_cancelled cfg s (r, a)
      cases a <;> simp_all [cancelMark]
      split <;> simp_all

theorem cancelled_iff (cfg : Cfg) (tr : List (Req × Ans)) :
    (cur cfg tr).cancelled ≠ none ↔ ∃ y ∈ tr, CancelSignal y := by
  induction tr with
  | nil => simp [cur]
  | cons x tr ih =>
    rw [cur_cons, cancelled_step, ih]
    simp only [List.mem_cons, exists_eq_or_imp]
    exact Or.comm

theorem Accepted.bad {cfg : Cfg} {t : Trace} {r : Res} (h : Accepted cfg t r) : (run cfg t).bad = false := by
  unfold Accepted verdict at h
  simp only [Bool.and_eq_true, Bool.not_eq_true'] at h
  exact h.1.1

theorem run_eq_cur_reverse (cfg : Cfg) (p : Trace) : run cfg p = cur cfg p.reverse := by
  rw [← run_reverse, List.reverse_reverse]

theorem at_action {cfg : Cfg} {t : Trace} {r : Res} (h : Accepted cfg t r)
    (p q : Trace) (x : Req × Ans) (ht : t = p ++ x :: q) (hx : isOp x.1 = true ∨ isSleeper x.1 = true) :
    (run cfg p).cancelled = none ∧ (stepLive cfg (run cfg p) x).bad = false := by
  have hb := bad_at cfg p q x (ht ▸ h.bad)
  have hc := live_at cfg _ x (op_not_record _ hx) hb
  exact ⟨hc, (step_live cfg _ x hc).1 ▸ hb⟩

/-- **`abort_if` is consulted before every attempt**: in an accepted log, between an invocation of the
    operation and the previous invocation or sleep (or the start of the call) there is a poll. -/
theorem poll_before_every_attempt {cfg : Cfg} {t : Trace} {r : Res} (h : Accepted cfg t r)
    (hab : cfg.abortIf = true) (p q : Trace) (x : Req × Ans) (ht : t = p ++ x :: q)
    (hx : isOp x.1 = true) : PolledSince p.reverse := by
  obtain ⟨hc, hb⟩ := at_action h p q x ht (Or.inl hx)
  rw [run_eq_cur_reverse] at hc hb
  rw [← polled_iff cfg _ hc]
  exact (acted_ok (Or.inl hx) hb).2 hab

/-- **`abort_if` is consulted before every backoff sleep** (since the previous invocation or sleep) -/
theorem poll_before_every_sleep {cfg : Cfg} {t : Trace} {r : Res} (h : Accepted cfg t r)
    (hab : cfg.abortIf = true) (p q : Trace) (x : Req × Ans) (ht : t = p ++ x :: q)
    (hx : isSleeper x.1 = true) : PolledSince p.reverse := by
  obtain ⟨hc, hb⟩ := at_action h p q x ht (Or.inr hx)
  rw [run_eq_cur_reverse] at hc hb
  rw [← polled_iff cfg _ hc]
  exact (acted_ok (Or.inr hx) hb).2 hab

/-- **once aborted, the operation is not invoked again and no sleep is started** -/
theorem nothing_after_abort {cfg : Cfg} {t : Trace} {r : Res} (h : Accepted cfg t r)
    (p q : Trace) (x : Req × Ans) (ht : t = p ++ x :: q)
    (hx : isOp x.1 = true ∨ isSleeper x.1 = true) : ¬ ∃ y ∈ p, AbortSignal y := by
  obtain ⟨hc, hb⟩ := at_action h p q x ht hx
  rw [run_eq_cur_reverse] at hc hb
  intro hy
  have : (cur cfg p.reverse).aborted = true := by
    rw [aborted_iff cfg _ hc]
    simpa using hy
  rw [(acted_ok hx hb).1] at this
  cases this

/-- **…and the run ends with `AbortRetryError` or an ABORTED outcome** (unless a cancellation
    intervened, or an error raised by some other callback — a hook, the classifier — after the abort;
    `.stuck` is the model's "ill-shaped answer stream") -/
theorem abort_ends_aborted {cfg : Cfg} {t : Trace} {r : Res} (h : Accepted cfg t r)
    (ha : ∃ y ∈ t, AbortSignal y) (hc : ¬ ∃ y ∈ t, CancelSignal y) :
    match r with
    | .raised e => e.isAbort = true ∨ e = .stuck ∨ Raised t e
    | .outcome o _ => o.stop = some .aborted
    | .ret _ => False := by
  have h2 : (run cfg t).cancelled = none := by
    have := mt (cancelled_iff cfg t.reverse).mp (by simpa using hc)
    rw [run_eq_cur_reverse]
    simpa using this
  have h1 : (run cfg t).aborted = true := by
    rw [run_eq_cur_reverse] at h2 ⊢
    rw [aborted_iff cfg _ h2]
    simpa using ha
  unfold Accepted verdict at h
  simp only [h1, h2, Option.isNone_none, Bool.and_self, if_true, Bool.and_eq_true] at h
  have h3 := h.2
  cases r with
  | ret v => simp at h3
  | outcome o tl => simpa using h3
  | raised e =>
    simp only [Bool.or_eq_true, beq_iff_eq, raisedBy_iff] at h3
    rcases h3 with (h3 | h3) | h3
    · exact Or.inl h3
    · exact Or.inr (Or.inl h3)
    · exact Or.inr (Or.inr h3)

/-- **A cancellation-type exception (CancelledError, KeyboardInterrupt, SystemExit, GeneratorExit)
    raised at ANY callback — the operation, a sleep, the abort predicate, an attempt hook, a
    classifier, a strategy, a sleep handler, a before-sleep hook, a metric or log hook: every await
    point of an async run — propagates unchanged at once**: the call raises exactly that exception,
    and nothing follows in the log but breaker records (`isRecord`): no classification, no retry, no
    sleep, no hook, no event. -/
theorem cancellation_propagates_unchanged {cfg : Cfg} {t : Trace} {r : Res} (h : Accepted cfg t r)
    (p q : Trace) (x : Req × Ans) (ht : t = p ++ x :: q) (e : Exn) (d : Nat)
    (hx : isRecord x.1 = false) (ha : x.2 = .raise e d) (hk : e.isCancelKind = true) :
    r = .raised e ∧ ∀ y ∈ q, isRecord y.1 = true := by
  have hb := h.bad
  have hb1 := bad_at cfg p q x (ht ▸ hb)
  have hc0 := live_at cfg _ x hx hb1
  subst ht
  rw [run_append] at hb
  simp only [List.foldl_cons] at hb
  have hc := cancel_step cfg (run cfg p) x e d hc0 hx ha hk
  obtain ⟨h1, h2⟩ := after_cancel cfg e q _ hc hb
  refine ⟨?_, h1⟩
  unfold Accepted verdict at h
  rw [run_append] at h
  simp only [List.foldl_cons, h2, Bool.and_eq_true] at h
  simpa using h.1.2

/-- a second cancellation never happens in an accepted log -/
theorem at_most_one_cancellation {cfg : Cfg} {t : Trace} {r : Res} (h : Accepted cfg t r)
    (p q : Trace) (x : Req × Ans) (ht : t = p ++ x :: q) (hx : CancelSignal x) :
    ¬ ∃ y ∈ q, CancelSignal y := by
  obtain ⟨hr, e, d, ha, hk⟩ := hx
  obtain ⟨_, h2⟩ := cancellation_propagates_unchanged h p q x ht e d hr ha hk
  rintro ⟨y, hy, hyr, _⟩
  rw [h2 y hy] at hyr
  cases hyr


/-- every run of the model is accepted: the conjuncts above apply to it -/
theorem run_accepted (cfg : Cfg) (e : Entry) (w : World) :
    Accepted cfg (runEntry cfg e w).2.trace.reverse (runEntry cfg e w).1 :=
  abort_cancel_hold cfg e w

instance (cfg : Cfg) (t : Trace) (r : Res) : Decidable (Accepted cfg t r) := by
  unfold Accepted; infer_instance

/-- a sample log: two attempts, a sleep, a poll before each of them -/
def sampleLog : Trace :=
  [(.abortIf, .bool false 0), (.op 1, .raise (.ordinary 1 .transient) 3),
   (.abortIf, .bool false 0), (.classify "o1", .klass ⟨.transient, none⟩ 0), (.abortIf, .bool false 0),
   (.sleeper .dflt 7, .unit 7), (.abortIf, .bool false 0), (.op 2, .value 42 1)]

/-- non-vacuity of the hypotheses of `poll_before_every_attempt` / `poll_before_every_sleep` -/
example : Accepted { abortIf := true } sampleLog (.ret 42) ∧
    sampleLog = sampleLog.take 7 ++ (.op 2, .value 42 1) :: [] ∧
    sampleLog = sampleLog.take 5 ++ (.sleeper .dflt 7, .unit 7) :: sampleLog.drop 6 := by
  refine ⟨by decide, rfl, rfl⟩

def sampleCtx : BackoffCtx :=
  { attempt := 1, klass := .transient, retryAfter := none, prev := none, remaining := 50, cause := .exception }

/-- non-vacuity: abort signals and cancellation signals (at the operation, and at an async
    `before_sleep` hook) exist and occur in accepted logs -/
example :
    Accepted { abortIf := true } [(.abortIf, .bool true 0)] (.raised .libAbort) ∧
    AbortSignal (.abortIf, .bool true 0) ∧
    Accepted { abortIf := true }
      [(.abortIf, .bool false 0), (.op 1, .raise .keyboardInterrupt 0), (.breakerCancel, .recorded none .closed)]
      (.raised .keyboardInterrupt) ∧
    CancelSignal (.op 1, .raise .keyboardInterrupt 0) ∧
    Accepted {}
      [(.op 1, .raise (.ordinary 1 .transient) 0), (.classify "o1", .klass ⟨.transient, none⟩ 0),
       (.beforeSleep .call sampleCtx 3, .raise .cancelled 0), (.breakerCancel, .recorded none .closed)]
      (.raised .cancelled) ∧
    CancelSignal (.beforeSleep .call sampleCtx 3, .raise .cancelled 0) := by
  refine ⟨by decide, Or.inl ⟨rfl, 0, rfl⟩, by decide, ⟨rfl, _, _, rfl, rfl⟩, by decide, ⟨rfl, _, _, rfl, rfl⟩⟩

/-- the monitor has teeth: an attempt without a poll, an attempt after an abort, a swallowed
    cancellation, a retried one, and a `CancelledError` delivered inside an async
    `before_sleep` hook that is swallowed (the sleep starts, the operation is retried) are all rejected -/
example :
    ¬ Accepted { abortIf := true } [(.op 1, .value 1 0)] (.ret 1) ∧
    ¬ Accepted { abortIf := true } [(.abortIf, .bool true 0), (.op 1, .value 1 0)] (.ret 1) ∧
    ¬ Accepted {} [(.op 1, .raise .cancelled 0)] (.ret 1) ∧
    ¬ Accepted {} [(.op 1, .raise .cancelled 0), (.classify "cancelled", .klass ⟨.unknown, none⟩ 0)]
        (.raised .cancelled) ∧
    ¬ Accepted {}
      [(.op 1, .raise (.ordinary 1 .transient) 0), (.classify "o1", .klass ⟨.transient, none⟩ 0),
       (.beforeSleep .call sampleCtx 3, .raise .cancelled 0), (.sleeper .dflt 3, .unit 3), (.op 2, .value 7 0)]
      (.ret 7) ∧
    ¬ Accepted {}
      [(.op 1, .raise (.ordinary 1 .transient) 0), (.classify "o1", .klass ⟨.transient, none⟩ 0),
       (.metric .retry 1 3 {}, .raise .keyboardInterrupt 0), (.sleeper .dflt 3, .unit 3)]
      (.raised .keyboardInterrupt) := by
  refine ⟨by decide, by decide, by decide, by decide, by decide, by decide⟩

end Redress.Props.C13

