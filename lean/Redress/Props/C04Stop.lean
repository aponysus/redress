/-
  C04 (stop_reason / last_class of the RetryExhaustedError) — `Mon.C04S.ok` is true of every run of the model.

  A corollary of C14's `terminal_tags`: the last retry-level event each configured hook is told carries the
  stop reason and class that the delivered `RetryExhaustedError` carries (and an `err` tag exactly when the
  error has a `last_exception`).  Only this agreement between error and event is proved; that the event's tag
  is the rule that stopped the run is C14's reading of the event, not a statement here.  With neither the
  metric nor the log hook configured the monitor says nothing.
-/
import Redress.Props.C14
import Redress.MonitorsNR

namespace Redress.Props.C04Stop
open Redress Redress.Mon

/-- `Mon.C04S.ok` follows from `Mon.C14.terminalTags` on any log. -/
theorem ok_of_terminalTags (cfg : Cfg) (e : Entry) (t : Trace) (r : Res)
    (h : C14.guard cfg e t r = true → Mon.rejected t = false →
      C14.terminalTags cfg e (C14.run cfg t) r = true) :
    C04S.ok cfg e t r = true := by
  unfold C04S.ok
  split
  · split
    · rename_i hg
      simp only [Bool.and_eq_true, Bool.not_eq_true'] at hg
      have := h hg.1 hg.2
      simp only [C14.terminalTags, Bool.and_eq_true] at this
      simp only [Bool.and_eq_true]
      exact ⟨this.1.1.2, this.1.2⟩
    · rfl
  · rfl

/--
**C04, stop reason.**  For every configuration, entry point and world: when `call()` ends with a
library-made `RetryExhaustedError` (normal end, not rejected), each configured hook's last retry-level event
carries `stop_reason = error.stop_reason`, `class = error.last_class` and an `err` tag exactly when the error
has a `last_exception`.
-/
theorem exhausted_stop_reason (cfg : Cfg) (e : Entry) (w : World) :
    C04S.ok cfg e (runEntry cfg e w).2.trace.reverse (runEntry cfg e w).1 = true :=
  ok_of_terminalTags cfg e _ _ (fun hg hr => C14.terminal_tags cfg e w hg hr)

theorem exhausted_stop_reason_script (cfg : Cfg) : ∀ (steps : List Step) (w : World),
    ∀ l ∈ (runScript cfg steps w).1, C04S.ok cfg l.entry l.trace l.res = true :=
  forall_script (P := fun e t r => C04S.ok cfg e t r = true) cfg (exhausted_stop_reason cfg)

/-- the monitor has teeth: a log whose terminal event says `nonRetryableClass` is rejected when the error
    delivered says `maxAttemptsGlobal` -/
example :
    let t : Trace :=
      [(.op 1, .value 7 0), (.resultClassify 7, .klass ⟨.permanent, none⟩ 0),
       (.metric .permanentFail 1 0 { klass := some .permanent, stop := some .nonRetryableClass, cause := some .result }, .unit 0)]
    let f : ExhaustedFields := { stop := .maxAttemptsGlobal, attempts := 1, lastClass := some .permanent,
                                 lastExc := none, lastResult := some 7, nextSleep := none }
    C04S.ok { metric := true, resultClassifier := true } .call t (.raised (.libExhausted f)) = false := by
  decide

end Redress.Props.C04Stop
