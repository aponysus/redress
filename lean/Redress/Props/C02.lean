/-
  C02 — Deadline envelope: no attempt starts and no sleep extends past `deadline_s`.

  Theorems are about `Mon.C02.ok`, the monitor the driver also evaluates on implementation traces:
  for EVERY configuration, EVERY answer stream and every entry point the monitor accepts the model's
  run.  The property's own hypotheses — time passes only in attempts and sleeps (`quiet`), each sleep
  lasts at least as long as requested (`honestSleeper`, for the total-sleep bound) — are guards of
  the monitor; in the proof they are ghost assumptions about the log *so far* ("if the log so far is
  quiet then …"), so the final theorem needs no side condition.

  The chain of procedure specifications is proved once, under the weakest guard it goes through for
  (`CalmX`: time may also pass in the classifier, the result classifier and `strategy.record_failure`,
  which all run before the library measures the time remaining); `quiet` implies it, and so does the
  guard of `Mon.C02.okTail` (Props/C02Tail).

  Vocabulary.  Three sets of request kinds, each inside the next (`still_sub_inert`, `inert_sub_pol`):
  `stillK` (no time may pass there under the calm guard: all but op, sleeper, the two classifiers and
  `strategy.record_failure`) ⊆ `inertK` (the exchange moves nothing but the monitor's clock: all but op,
  sleeper, resultClassify) ⊆ `polK` (it moves neither `bad` nor `slept`: all but op and sleeper).  Two guards
  on a log: `QuietTr` (the monitor's `quiet`: time passes only in op and sleeper) implies `CalmX` of every
  exchange (time passes only outside `stillK`; `calm_of_quiet`), and C02Tail's `QuietT` (time passes only in
  `free` requests) says the same as calm, `free` being "not still".  A snapshot's field `quiet` holds
  whichever guard it was built with: `QuietTr` in `snap`, calm in `snapC` — the chain of specifications
  uses `snapC` throughout, so in `Keep.quiet` and in the invariants below "quiet" reads "calm so far".
-/
import Redress.Lemmas.PolicyFrame
import Redress.Monitors

open Std.Do

namespace Redress.Props.C02
open Redress Redress.Retry Redress.Mon Redress.Mon.C02

def cur (cfg : Cfg) (tr : List (Req × Ans)) : St := tr.foldr (fun x s => step cfg s x) {}

@[simp] theorem cur_cons (cfg : Cfg) (x : Req × Ans) (t : List (Req × Ans)) :
    cur cfg (x :: t) = step cfg (cur cfg t) x := rfl

theorem run_reverse (cfg : Cfg) (t : List (Req × Ans)) : run cfg t.reverse = cur cfg t := by
  simp [run, cur, List.foldl_reverse]

def QuietTr (tr : List (Req × Ans)) : Prop :=
  ∀ x ∈ tr, isOp x.1 = true ∨ isSleeper x.1 = true ∨ x.2.dur = 0

def HonestX (x : Req × Ans) : Prop :=
  match x.1, x.2 with
  | .sleeper _ _, .raise _ _ => True
  | .sleeper _ d, a => d ≤ a.dur
  | _, _ => True

def HonestTr (tr : List (Req × Ans)) : Prop := ∀ x ∈ tr, HonestX x

theorem quiet_iff (t : Trace) : quiet t = true ↔ QuietTr t := by
  simp [quiet, QuietTr, or_assoc]

theorem honest_iff (t : Trace) : honestSleeper t = true ↔ HonestTr t := by
  simp only [honestSleeper, HonestTr, List.all_eq_true]
  refine forall_congr' fun ⟨r, a⟩ => imp_congr_right fun _ => ?_
  simp only [HonestX]
  split <;> simp

def inertK : Kind → Bool
  | .op | .resultClassify | .sleeper => false
  | _ => true

def polK : Kind → Bool
  | .op | .sleeper => false
  | _ => true

theorem inert_sub_pol : ∀ k, inertK k = true → polK k = true := by
  intro k; cases k <;> simp [inertK, polK]

theorem step_now (cfg : Cfg) (s : St) (x : Req × Ans) : (step cfg s x).now = s.now + x.2.dur := by
  obtain ⟨r, a⟩ := x
  cases r <;> rfl

theorem step_pol (cfg : Cfg) (s : St) (x : Req × Ans) (h : polK x.1.kind = true) :
    (step cfg s x).bad = s.bad ∧ (step cfg s x).slept = s.slept := by
  obtain ⟨r, a⟩ := x
  cases r <;> simp [polK, Req.kind] at h <;> exact ⟨rfl, rfl⟩

theorem step_inert (cfg : Cfg) (s : St) (x : Req × Ans) (h : inertK x.1.kind = true)
    (hd : x.2.dur = 0) : step cfg s x = s := by
  obtain ⟨r, a⟩ := x
  cases r <;> simp [inertK, Req.kind] at h <;> simp [step, show a.dur = 0 from hd]

/-- the operation failed (for the retry loop: an `Exception` other than the library's own control-flow
    exceptions) -/
def opFailed : Ans → Bool
  | .raise e _ => e.isException && !e.isAbort && !e.isExhausted
  | _ => false

def LateFailure (cfg : Cfg) (before : Nat) (y : Req × Ans) : Prop :=
  (isOp y.1 = true ∧ opFailed y.2 = true ∧ cfg.deadline ≤ before + y.2.dur) ∨
  ((∃ v, y.1 = .resultClassify v) ∧ (∃ c d, y.2 = .klass c d) ∧ cfg.deadline ≤ before)

theorem late_step (cfg : Cfg) (s : St) (x : Req × Ans) :
    (step cfg s x).late = true ↔ s.late = true ∨ LateFailure cfg s.now x := by
  obtain ⟨r, a⟩ := x
  cases r with
  | op n => cases a <;> simp [step, LateFailure, isOp, opFailed]
  | resultClassify v => cases a <;> simp [step, LateFailure, isOp]
  | _ =>
    -- the step only moves the clock, and a late failure is an `op` or a `resultClassify` exchange
    exact ⟨Or.inl, fun h => h.elim id fun h =>
      h.elim (fun h => (Bool.false_ne_true h.1).elim) fun ⟨⟨_, h⟩, _⟩ => nomatch h⟩

def stillK : Kind → Bool
  | .op | .sleeper | .classify | .resultClassify | .stratRecordFailure => false
  | _ => true

theorem still_sub_inert : ∀ k, stillK k = true → inertK k = true := by
  intro k; cases k <;> simp [stillK, inertK]

def CalmX (x : Req × Ans) : Prop := stillK x.1.kind = true → x.2.dur = 0

theorem dur_of_inert (x : Req × Ans) (h : isOp x.1 = true ∨ isSleeper x.1 = true ∨ x.2.dur = 0)
    (hk : inertK x.1.kind = true) : x.2.dur = 0 := by
  obtain ⟨r, a⟩ := x
  cases r <;> simp_all [isOp, isSleeper, inertK, Req.kind]

theorem calm_of_quiet (x : Req × Ans) (h : isOp x.1 = true ∨ isSleeper x.1 = true ∨ x.2.dur = 0) :
    CalmX x :=
  fun hk => dur_of_inert x h (still_sub_inert _ hk)

theorem still_of_prelude (r : Req) (h : isPrelude r = true) : stillK r.kind = true := by
  cases r <;> simp_all [isPrelude, stillK, Req.kind]

structure Snap where
  quiet : Prop
  honest : Prop
  mon : St
  start : Nat
  now : Nat

def snap (cfg : Cfg) (w : World) : Snap :=
  ⟨QuietTr w.trace, HonestTr w.trace, cur cfg w.trace, w.rs.start, w.now⟩

def snapOf (P : Req × Ans → Prop) (cfg : Cfg) (w : World) : Snap :=
  ⟨∀ x ∈ w.trace, P x, HonestTr w.trace, cur cfg w.trace, w.rs.start, w.now⟩

/-- what an inert step keeps: *if* the log is still quiet afterwards, it was quiet before, the
    monitor has not moved, the run's start instant is the same and the clock has not gone back;
    honesty of the longer log implies honesty of the shorter -/
structure Keep (g g' : Snap) : Prop where
  honest : g'.honest → g.honest
  quiet : g'.quiet → g.quiet ∧ g'.mon = g.mon ∧ g'.start = g.start ∧ g.now ≤ g'.now

theorem keep_of_foot {P : Req × Ans → Prop} {K : Kind → Bool} (hK : ∀ k, K k = true → inertK k = true)
    (hP : ∀ x, P x → K x.1.kind = true → x.2.dur = 0) (cfg : Cfg) (w w' : World) (h : Foot K w w') :
    Keep (snapOf P cfg w) (snapOf P cfg w') := by
  obtain ⟨δ, e, k⟩ := h.trace
  refine ⟨fun hh x hx => hh x (e ▸ List.mem_append_right _ hx), fun hq => ?_⟩
  have hq : ∀ x ∈ δ ++ w.trace, P x := e ▸ hq
  have hs : w'.rs.start = w.rs.start := by rw [h.rs]
  refine ⟨fun x hx => hq x (List.mem_append_right _ hx), ?_, hs, h.now⟩
  show cur cfg w'.trace = cur cfg w.trace
  rw [e]
  exact foldr_append_inert (step cfg) {} (fun x => inertK x.1.kind = true ∧ x.2.dur = 0)
    (fun s x hx => step_inert cfg s x hx.1 hx.2) δ _ fun x hx => ⟨hK _ (k x hx), hP x (hq x (List.mem_append_left _ hx)) (k x hx)⟩

section
variable {P : Req × Ans → Prop} {K : Kind → Bool} (hK : ∀ k, K k = true → inertK k = true)
  (hP : ∀ x, P x → K x.1.kind = true → x.2.dur = 0) {α : Type} {x : M α} (cfg : Cfg)
include hK hP

theorem keep_of_foot_spec (hx : ∀ w0, ⦃fun w => ⌜Foot K w0 w⌝⦄ x ⦃footPost K w0⦄) (g : Snap) :
    ⦃fun w => ⌜snapOf P cfg w = g⌝⦄ x
    ⦃post⟨fun _ w => ⌜Keep g (snapOf P cfg w)⌝, fun _ w => ⌜Keep g (snapOf P cfg w)⌝⟩⦄ :=
  triple_of_rel hx (Foot.refl K) (fun _ _ _ hg h => hg ▸ keep_of_foot hK hP cfg _ _ h)
    (fun _ _ _ hg h => hg ▸ keep_of_foot hK hP cfg _ _ h)

theorem keep_of_foot_spec' {R : α → Prop} (hx : ∀ w0, ⦃fun w => ⌜Foot K w0 w⌝⦄ x
      ⦃post⟨fun a w => ⌜R a ∧ Foot K w0 w⌝, fun _ w => ⌜Foot K w0 w⌝⟩⦄) (g : Snap) :
    ⦃fun w => ⌜snapOf P cfg w = g⌝⦄ x
    ⦃post⟨fun a w => ⌜R a ∧ Keep g (snapOf P cfg w)⌝, fun _ w => ⌜Keep g (snapOf P cfg w)⌝⟩⦄ :=
  triple_of_rel hx (Foot.refl K) (fun _ _ _ hg h => ⟨h.1, hg ▸ keep_of_foot hK hP cfg _ _ h.2⟩)
    (fun _ _ _ hg h => hg ▸ keep_of_foot hK hP cfg _ _ h)

end

abbrev kept (cfg : Cfg) (g : Snap) : PostCond α (.except Exn (.arg World .pure)) :=
  post⟨fun _ w => ⌜Keep g (snap cfg w)⌝, fun _ w => ⌜Keep g (snap cfg w)⌝⟩

abbrev snapC (cfg : Cfg) (w : World) : Snap := snapOf CalmX cfg w

abbrev keptC (cfg : Cfg) (g : Snap) : PostCond α (.except Exn (.arg World .pure)) :=
  post⟨fun _ w => ⌜Keep g (snapC cfg w)⌝, fun _ w => ⌜Keep g (snapC cfg w)⌝⟩

section leaves
variable (g : Snap) (cfg : Cfg) (tl : Bool)

theorem recordStrategySuccess_k : ⦃fun w => ⌜snap cfg w = g⌝⦄ recordStrategySuccess cfg ⦃kept cfg g⦄ :=
  keep_of_foot_spec (fun _ h => h) dur_of_inert cfg
    (fun w0 => recordStrategySuccess_foot inertK w0 rfl cfg) g

theorem keepC {α : Type} {x : M α} (hx : ∀ w0, ⦃fun w => ⌜Foot stillK w0 w⌝⦄ x ⦃footPost stillK w0⦄) :
    ⦃fun w => ⌜snapC cfg w = g⌝⦄ x ⦃keptC cfg g⦄ :=
  keep_of_foot_spec still_sub_inert (fun _ h => h) cfg hx g

theorem keepC' {α : Type} {x : M α} {R : α → Prop} (hx : ∀ w0, ⦃fun w => ⌜Foot stillK w0 w⌝⦄ x
      ⦃post⟨fun a w => ⌜R a ∧ Foot stillK w0 w⌝, fun _ w => ⌜Foot stillK w0 w⌝⟩⦄) :
    ⦃fun w => ⌜snapC cfg w = g⌝⦄ x
    ⦃post⟨fun a w => ⌜R a ∧ Keep g (snapC cfg w)⌝, fun _ w => ⌜Keep g (snapC cfg w)⌝⟩⦄ :=
  keep_of_foot_spec' still_sub_inert (fun _ h => h) cfg hx g

theorem emit_k (ev : Event) (a s : Nat) (k : Option EClass) (e : Option Exn) (st : Option StopReason)
    (c : Option Cause) (cl : Option Classification) :
    ⦃fun w => ⌜snapC cfg w = g⌝⦄ emit cfg tl ev a s k e st c cl ⦃keptC cfg g⦄ :=
  keepC g cfg (fun w0 => emit_foot stillK w0 rfl rfl cfg tl ev a s k e st c cl)

theorem setStop_k (s : StopReason) : ⦃fun w => ⌜snapC cfg w = g⌝⦄ setStop s ⦃keptC cfg g⦄ :=
  keepC g cfg (fun w0 => setStop_foot stillK w0 s)

theorem checkAbort_k (a : Nat) : ⦃fun w => ⌜snapC cfg w = g⌝⦄ checkAbort cfg tl a ⦃keptC cfg g⦄ :=
  keepC g cfg (fun w0 => checkAbort_foot stillK w0 rfl rfl rfl cfg tl a)

theorem stopWith_k (s : StopReason) (ev : Event) (a : Nat) (k : EClass) (e : Option Exn) (c : Cause) :
    ⦃fun w => ⌜snapC cfg w = g⌝⦄ stopWith cfg tl s ev a k e c
    ⦃post⟨fun d w => ⌜d = .raise ∧ Keep g (snapC cfg w)⌝, fun _ w => ⌜Keep g (snapC cfg w)⌝⟩⦄ :=
  keepC' g cfg (fun w0 => stopWith_foot stillK w0 rfl rfl cfg tl s ev a k e c)

theorem callStrategy_k (key : SKey) (kind : SKind) (ctx : BackoffCtx) :
    ⦃fun w => ⌜snapC cfg w = g⌝⦄ callStrategy key kind ctx ⦃keptC cfg g⦄ :=
  keepC g cfg (fun w0 => callStrategy_foot stillK w0 rfl key kind ctx)

theorem callAttemptStart_k (a : Nat) : ⦃fun w => ⌜snapC cfg w = g⌝⦄ callAttemptStart cfg a ⦃keptC cfg g⦄ :=
  keepC g cfg (fun w0 => callAttemptStart_foot stillK w0 rfl cfg a)

theorem callAttemptEndFromOutcome_k (a : Nat) (o : AOutcome) :
    ⦃fun w => ⌜snapC cfg w = g⌝⦄ callAttemptEndFromOutcome cfg a o ⦃keptC cfg g⦄ :=
  keepC g cfg (fun w0 => callAttemptEndFromOutcome_foot stillK w0 rfl cfg a o)

theorem callBeforeSleep_k (ctx : BackoffCtx) (s : Nat) :
    ⦃fun w => ⌜snapC cfg w = g⌝⦄ callBeforeSleep cfg ctx s ⦃keptC cfg g⦄ :=
  keepC g cfg (fun w0 => callBeforeSleep_foot stillK w0 rfl cfg ctx s)

theorem callSleepHandler_k (lvl : Lvl) (ctx : BackoffCtx) (s : Nat) :
    ⦃fun w => ⌜snapC cfg w = g⌝⦄ callSleepHandler lvl ctx s ⦃keptC cfg g⦄ :=
  keepC g cfg (fun w0 => callSleepHandler_foot stillK w0 rfl lvl ctx s)

theorem buildOutcome_k (ok : Bool) (value : Option Nat) (n : Nat) (ns : Option Nat) :
    ⦃fun w => ⌜snapC cfg w = g⌝⦄ buildOutcome ok value n ns ⦃keptC cfg g⦄ :=
  keepC g cfg (fun w0 => buildOutcome_foot stillK w0 ok value n ns)

theorem emitAbortedOnce_k (a : Nat) : ⦃fun w => ⌜snapC cfg w = g⌝⦄ emitAbortedOnce cfg tl a ⦃keptC cfg g⦄ :=
  keepC g cfg (fun w0 => emitAbortedOnce_foot stillK w0 rfl rfl cfg tl a)

theorem abortOutcome_k (a : Nat) : ⦃fun w => ⌜snapC cfg w = g⌝⦄ abortOutcome cfg tl a ⦃keptC cfg g⦄ :=
  keepC g cfg (fun w0 => abortOutcome_foot stillK w0 rfl rfl cfg tl a)

theorem handleSleepDecision_k (act : SleepDecision) (a s : Nat) :
    ⦃fun w => ⌜snapC cfg w = g⌝⦄ handleSleepDecision cfg tl act a s
    ⦃post⟨fun r w => ⌜(r = act ∧ act ≠ .other) ∧ Keep g (snapC cfg w)⌝, fun _ w => ⌜Keep g (snapC cfg w)⌝⟩⦄ :=
  keepC' g cfg (fun w0 => handleSleepDecision_foot stillK w0 rfl rfl cfg tl act a s)

theorem handleSuccessAttemptEnd_k (a x : Nat) :
    ⦃fun w => ⌜snapC cfg w = g⌝⦄ handleSuccessAttemptEnd cfg tl a x ⦃keptC cfg g⦄ :=
  keepC g cfg (fun w0 => handleSuccessAttemptEnd_foot stillK w0 rfl rfl rfl rfl cfg tl a x)

theorem handleAbortAttemptEnd_k (a : Nat) (e : Exn) :
    ⦃fun w => ⌜snapC cfg w = g⌝⦄ handleAbortAttemptEnd cfg a e ⦃keptC cfg g⦄ :=
  keepC g cfg (fun w0 => handleAbortAttemptEnd_foot stillK w0 rfl cfg a e)

theorem raiseExhaustedCall_k : ⦃fun w => ⌜snapC cfg w = g⌝⦄ raiseExhaustedCall cfg ⦃keptC cfg g⦄ :=
  keepC g cfg (fun w0 => raiseExhaustedCall_foot stillK w0 rfl rfl cfg)

theorem buildExhaustedOutcome_k : ⦃fun w => ⌜snapC cfg w = g⌝⦄ buildExhaustedOutcome cfg tl ⦃keptC cfg g⦄ :=
  keepC g cfg (fun w0 => buildExhaustedOutcome_foot stillK w0 rfl rfl cfg tl)

theorem deliverCall_k (act : Action) (orig : Option Exn) (fb : ExhaustedFields) :
    ⦃fun w => ⌜snapC cfg w = g⌝⦄ deliverCall act orig fb
    ⦃post⟨fun r w => ⌜(r = none ∧ act = .continue_) ∧ Keep g (snapC cfg w)⌝, fun _ w => ⌜Keep g (snapC cfg w)⌝⟩⦄ :=
  keepC' g cfg (fun w0 => deliverCall_foot stillK w0 act orig fb)

theorem deliverExecute_k (act : Action) (o : AOutcome) :
    ⦃fun w => ⌜snapC cfg w = g⌝⦄ deliverExecute cfg tl act o
    ⦃post⟨fun r w => ⌜(r = none → act = .continue_) ∧ Keep g (snapC cfg w)⌝, fun _ w => ⌜Keep g (snapC cfg w)⌝⟩⦄ :=
  keepC' g cfg (fun w0 => deliverExecute_foot stillK w0 rfl rfl cfg tl act o)

theorem budgetConsume_k : ⦃fun w => ⌜snapC cfg w = g⌝⦄ budgetConsume cfg ⦃keptC cfg g⦄ := by
  have hf : ∀ w0, ⦃fun w => ⌜Foot stillK w0 w⌝⦄ budgetConsume cfg ⦃footPost stillK w0⦄ := by
    intro w0
    mvcgen [budgetConsume]
    all_goals (try assumption)
    all_goals (rename_i h; exact Foot.trans h (Foot.internal _ _ _ _ _ _ rfl))
  exact keepC g cfg hf

theorem checkAbortCaught_k (a : Nat) :
    ⦃fun w => ⌜snapC cfg w = g⌝⦄ checkAbortCaught cfg tl a ⦃keptC cfg g⦄ := by
  have hf : ∀ w0, ⦃fun w => ⌜Foot stillK w0 w⌝⦄ checkAbortCaught cfg tl a ⦃footPost stillK w0⦄ := by
    intro w0
    have h := checkAbort_foot stillK w0 rfl rfl rfl cfg tl a
    mvcgen [checkAbortCaught, abortToTrue, h]
    all_goals (try simp only [restore_dummy])
    all_goals (try intros)
    all_goals (try assumption)
  exact keepC g cfg hf

end leaves

attribute [local spec] emit_k setStop_k checkAbort_k stopWith_k
  callStrategy_k callAttemptStart_k callAttemptEndFromOutcome_k
  callBeforeSleep_k callSleepHandler_k buildOutcome_k emitAbortedOnce_k abortOutcome_k handleSleepDecision_k
  handleSuccessAttemptEnd_k handleAbortAttemptEnd_k raiseExhaustedCall_k buildExhaustedOutcome_k
  deliverCall_k deliverExecute_k budgetConsume_k checkAbortCaught_k

/-- the monitor's clock is not ahead of the run's own (`elapsed()`); nothing is wrong yet; with an
    honest sleeper the requested sleep so far is covered by elapsed time and by the deadline -/
structure CoreS (cfg : Cfg) (g : Snap) : Prop where
  clock : g.start + g.mon.now ≤ g.now
  bad : g.mon.bad = false
  slept : g.honest → g.mon.slept ≤ g.mon.now
  total : g.honest → g.mon.slept ≤ cfg.deadline

/-- at the top of the loop: no late failure pending; a further attempt starts within the deadline -/
def TopS (cfg : Cfg) (g : Snap) : Prop :=
  g.quiet → CoreS cfg g ∧ g.mon.late = false ∧ (1 ≤ g.mon.ops → g.mon.now ≤ cfg.deadline)

/-- inside an attempt: a failure seen late really was late -/
def MidS (cfg : Cfg) (g : Snap) : Prop :=
  g.quiet → CoreS cfg g ∧ (g.mon.late = true → cfg.deadline ≤ g.mon.now)

def GrantS (cfg : Cfg) (s : Nat) (g : Snap) : Prop :=
  g.quiet → CoreS cfg g ∧ g.mon.late = false ∧ g.mon.now + s ≤ cfg.deadline

def SleptS (cfg : Cfg) (g : Snap) : Prop :=
  g.quiet → CoreS cfg g ∧ g.mon.late = false

def FinS (cfg : Cfg) (g : Snap) : Prop :=
  g.quiet → g.mon.bad = false ∧ (g.honest → g.mon.slept ≤ cfg.deadline)

abbrev TopW (cfg : Cfg) (w : World) : Prop := TopS cfg (snapC cfg w)
abbrev MidW (cfg : Cfg) (w : World) : Prop := MidS cfg (snapC cfg w)
abbrev GrantW (cfg : Cfg) (s : Nat) (w : World) : Prop := GrantS cfg s (snapC cfg w)
abbrev SleptW (cfg : Cfg) (w : World) : Prop := SleptS cfg (snapC cfg w)
abbrev FinW (cfg : Cfg) (w : World) : Prop := FinS cfg (snapC cfg w)

/-- The loop's invariants all say "if the log is quiet then `CoreS` and something about the monitor
    state": inert steps keep every assertion of this form. -/
theorem Keep.core {cfg : Cfg} {g g' : Snap} {R : St → Prop} (k : Keep g g')
    (h : g.quiet → CoreS cfg g ∧ R g.mon) : g'.quiet → CoreS cfg g' ∧ R g'.mon := by
  intro hq
  obtain ⟨q, hm, hs, hn⟩ := k.quiet hq
  obtain ⟨c, r⟩ := h q
  refine ⟨⟨by rw [hm, hs]; exact Nat.le_trans c.clock hn, hm ▸ c.bad, fun hh => ?_, fun hh => ?_⟩, hm ▸ r⟩
  · rw [hm]; exact c.slept (k.honest hh)
  · rw [hm]; exact c.total (k.honest hh)

theorem Keep.top {cfg : Cfg} {g g' : Snap} (k : Keep g g') (h : TopS cfg g) : TopS cfg g' :=
  k.core (R := fun m => m.late = false ∧ (1 ≤ m.ops → m.now ≤ cfg.deadline)) h

theorem Keep.mid {cfg : Cfg} {g g' : Snap} (k : Keep g g') (h : MidS cfg g) : MidS cfg g' :=
  k.core (R := fun m => m.late = true → cfg.deadline ≤ m.now) h

theorem Keep.grant {cfg : Cfg} {s : Nat} {g g' : Snap} (k : Keep g g') (h : GrantS cfg s g) :
    GrantS cfg s g' :=
  k.core (R := fun m => m.late = false ∧ m.now + s ≤ cfg.deadline) h

theorem Keep.slept {cfg : Cfg} {g g' : Snap} (k : Keep g g') (h : SleptS cfg g) : SleptS cfg g' :=
  k.core (R := fun m => m.late = false) h

theorem Keep.fin {cfg : Cfg} {g g' : Snap} (k : Keep g g') (h : FinS cfg g) : FinS cfg g' := by
  intro hq
  obtain ⟨q, hm, hs, hn⟩ := k.quiet hq
  obtain ⟨h1, h2⟩ := h q
  exact ⟨hm ▸ h1, fun hh => hm ▸ h2 (k.honest hh)⟩

theorem TopS.mid {cfg : Cfg} {g : Snap} (h : TopS cfg g) : MidS cfg g :=
  fun hq => ⟨(h hq).1, fun hl => by simp [(h hq).2.1] at hl⟩

theorem GrantS.mid {cfg : Cfg} {s : Nat} {g : Snap} (h : GrantS cfg s g) : MidS cfg g :=
  fun hq => ⟨(h hq).1, fun hl => by simp [(h hq).2.1] at hl⟩

theorem SleptS.mid {cfg : Cfg} {g : Snap} (h : SleptS cfg g) : MidS cfg g :=
  fun hq => ⟨(h hq).1, fun hl => by simp [(h hq).2] at hl⟩

theorem MidS.fin {cfg : Cfg} {g : Snap} (h : MidS cfg g) : FinS cfg g :=
  fun hq => ⟨(h hq).1.bad, (h hq).1.total⟩

theorem SleptS.fin {cfg : Cfg} {g : Snap} (h : SleptS cfg g) : FinS cfg g := h.mid.fin

/-- `remaining = deadline − elapsed` with `elapsed < deadline`: a backoff of up to `remaining` fits,
    and the failure being handled was not late -/
theorem MidS.grant {cfg : Cfg} {g : Snap} (h : MidS cfg g) (hd : ¬ cfg.deadline ≤ g.now - g.start) :
    GrantS cfg (cfg.deadline - (g.now - g.start)) g := by
  intro hq
  obtain ⟨h1, h2⟩ := h hq
  have hc := h1.clock
  refine ⟨h1, ?_, by omega⟩
  cases hl : g.mon.late with
  | false => rfl
  | true => have := h2 hl; omega

/-- `min(sleep, remaining)` -/
theorem GrantS.le {cfg : Cfg} {s s' : Nat} {g : Snap} (h : GrantS cfg s g) (hs : s' ≤ s) : GrantS cfg s' g := by
  intro hq
  obtain ⟨h1, h2, h3⟩ := h hq
  exact ⟨h1, h2, by omega⟩

/-- the post-sleep check `elapsed ≤ deadline` lets the next attempt start within the deadline -/
theorem SleptS.top {cfg : Cfg} {g : Snap} (h : SleptS cfg g) (hd : ¬ g.now - g.start > cfg.deadline) :
    TopS cfg g := by
  intro hq
  obtain ⟨h1, h2⟩ := h hq
  have hc := h1.clock
  exact ⟨h1, h2, fun _ => by omega⟩

abbrev Snap.next (cfg : Cfg) (g : Snap) (x : Req × Ans) : Snap :=
  ⟨CalmX x ∧ g.quiet, HonestX x ∧ g.honest, step cfg g.mon x, g.start, g.now + x.2.dur⟩

theorem snapC_exchanged (cfg : Cfg) (w : World) (x : Req × Ans) :
    snapC cfg (exchanged w x) = (snapC cfg w).next cfg x := by
  simp only [snapC, snapOf, HonestTr, exchanged, List.forall_mem_cons]
  rfl

/-- The mid-attempt invariant survives any exchange that is neither an attempt nor a sleep, however long
    it takes: the clock only moves on. -/
theorem MidS.exch {cfg : Cfg} {x : Req × Ans} {g : Snap} (h : MidS cfg g) (hp : polK x.1.kind = true) :
    MidS cfg (g.next cfg x) := by
  intro hq
  obtain ⟨c, hl⟩ := h hq.2
  have hb := step_pol cfg g.mon x hp
  have hn := step_now cfg g.mon x
  have hc := c.clock
  refine ⟨⟨?_, ?_, fun hh => ?_, fun hh => ?_⟩, fun hl' => ?_⟩
  · show g.start + (step cfg g.mon x).now ≤ g.now + x.2.dur
    rw [hn]; omega
  · rw [hb.1]; exact c.bad
  · have := c.slept hh.2
    rw [hb.2, hn]; omega
  · rw [hb.2]; exact c.total hh.2
  · rw [hn]
    rcases (late_step cfg g.mon x).mp hl' with l | ⟨ho, _⟩ | ⟨_, _, hd⟩
    · exact Nat.le_trans (hl l) (Nat.le_add_right _ _)
    · obtain ⟨r, a⟩ := x
      cases r <;> simp [isOp] at ho
      simp [polK, Req.kind] at hp
    · exact Nat.le_trans hd (Nat.le_add_right _ _)

theorem TopS.op {cfg : Cfg} {n : Nat} {a : Ans} {g : Snap} (h : TopS cfg g) :
    MidS cfg (g.next cfg (.op n, a)) := by
  intro hq
  obtain ⟨c, hl, ht⟩ := h hq.2
  have hc := c.clock
  refine ⟨⟨?_, ?_, fun hh => ?_, fun hh => ?_⟩, fun hl' => ?_⟩
  · show g.start + (g.mon.now + a.dur) ≤ g.now + a.dur; omega
  · show (g.mon.bad || g.mon.late || (decide (g.mon.ops ≥ 1) && decide (g.mon.now > cfg.deadline))) = false
    simp only [c.bad, hl, Bool.or_self, Bool.false_or, Bool.and_eq_false_imp, decide_eq_true_eq,
      decide_eq_false_iff_not]
    omega
  · have := c.slept hh.2
    show g.mon.slept ≤ g.mon.now + a.dur; omega
  · exact c.total hh.2
  · have : g.mon.late = true ∨ _ := (late_step cfg g.mon (.op n, a)).mp hl'
    rcases this with l | ⟨_, _, hd⟩ | ⟨⟨v, hv⟩, _⟩
    · simp [hl] at l
    · exact hd
    · cases hv

theorem GrantS.sleep {cfg : Cfg} {l : Lvl} {s : Nat} {g : Snap} (h : GrantS cfg s g) (a : Ans) :
    FinS cfg (g.next cfg (.sleeper l s, a)) ∧ ((∀ x d, a ≠ .raise x d) → SleptS cfg (g.next cfg (.sleeper l s, a))) := by
  have hb : ∀ hq : CalmX (.sleeper l s, a) ∧ g.quiet, (step cfg g.mon (.sleeper l s, a)).bad = false := fun hq => by
    obtain ⟨c, hl, hd⟩ := h hq.2
    show (g.mon.bad || g.mon.late || decide (g.mon.now + s > cfg.deadline)) = false
    simp only [c.bad, hl, Bool.or_self, Bool.false_or, decide_eq_false_iff_not]
    omega
  have ht : ∀ hq : CalmX (.sleeper l s, a) ∧ g.quiet, HonestX (.sleeper l s, a) ∧ g.honest →
      (step cfg g.mon (.sleeper l s, a)).slept ≤ cfg.deadline := fun hq hh => by
    obtain ⟨c, hl, hd⟩ := h hq.2
    have := c.slept hh.2
    show g.mon.slept + s ≤ _; omega
  refine ⟨fun hq => ⟨hb hq, ht hq⟩, fun ha hq => ?_⟩
  obtain ⟨c, hl, hd⟩ := h hq.2
  have hc := c.clock
  refine ⟨⟨?_, hb hq, fun hh => ?_, ht hq⟩, ?_⟩
  · show g.start + (g.mon.now + a.dur) ≤ g.now + a.dur; omega
  · have := c.slept hh.2
    have hx : s ≤ a.dur := by
      have := hh.1
      cases a with
      | raise x d => exact absurd rfl (ha x d)
      | _ => exact this
    show g.mon.slept + s ≤ g.mon.now + a.dur; omega
  · exact hl

section
variable (cfg : Cfg)

theorem ask_op (n : Nat) : ⦃fun w => ⌜TopW cfg w⌝⦄ ask (.op n)
    ⦃post⟨fun _ w => ⌜MidW cfg w⌝, fun _ w => ⌜MidW cfg w⌝⟩⦄ :=
  ask_triple (.op n) (fun w _ h _ => by rw [MidW, snapC_exchanged]; exact TopS.op h)
    (fun w _ _ h => by rw [MidW, snapC_exchanged]; exact TopS.op h)

theorem ask_mid (r : Req) (hp : polK r.kind = true) : ⦃fun w => ⌜MidW cfg w⌝⦄ ask r
    ⦃post⟨fun _ w => ⌜MidW cfg w⌝, fun _ w => ⌜MidW cfg w⌝⟩⦄ :=
  ask_triple r (fun w _ h _ => by rw [MidW, snapC_exchanged]; exact MidS.exch h hp)
    (fun w _ _ h => by rw [MidW, snapC_exchanged]; exact MidS.exch h hp)

theorem ask_sleeper (l : Lvl) (s : Nat) : ⦃fun w => ⌜GrantW cfg s w⌝⦄ ask (.sleeper l s)
    ⦃post⟨fun _ w => ⌜SleptW cfg w⌝, fun _ w => ⌜FinW cfg w⌝⟩⦄ :=
  ask_triple (.sleeper l s) (fun w a h ha => by rw [SleptW, snapC_exchanged]; exact (GrantS.sleep h a).2 ha)
    (fun w _ _ h => by rw [FinW, snapC_exchanged]; exact (GrantS.sleep h _).1)

theorem invokeOp_spec (a : Nat) :
    ⦃fun w => ⌜TopW cfg w⌝⦄ invokeOp a
    ⦃post⟨fun _ w => ⌜MidW cfg w⌝, fun _ w => ⌜MidW cfg w⌝⟩⦄ := by
  have hx := ask_op cfg
  mvcgen [invokeOp, hx]

theorem shouldClassifyResult_spec (x : Nat) :
    ⦃fun w => ⌜MidW cfg w⌝⦄ shouldClassifyResult cfg x
    ⦃post⟨fun _ w => ⌜MidW cfg w⌝, fun _ w => ⌜MidW cfg w⌝⟩⦄ := by
  have hx := ask_mid cfg (.resultClassify x) rfl
  mvcgen [shouldClassifyResult, hx]

theorem callClassifier_spec (e : Exn) :
    ⦃fun w => ⌜MidW cfg w⌝⦄ callClassifier e
    ⦃post⟨fun _ w => ⌜MidW cfg w⌝, fun _ w => ⌜MidW cfg w⌝⟩⦄ := by
  have hx := ask_mid cfg (.classify e.ref) rfl
  mvcgen [callClassifier, hx]

theorem stratRecordFailure_spec (key : SKey) (k : EClass) :
    ⦃fun w => ⌜MidW cfg w⌝⦄ stratRecordFailure cfg key k
    ⦃post⟨fun _ w => ⌜MidW cfg w⌝, fun _ w => ⌜MidW cfg w⌝⟩⦄ := by
  have hx := ask_mid cfg (.stratRecordFailure key k) rfl
  mvcgen [stratRecordFailure, hx]

theorem callSleeper_spec (s : Nat) :
    ⦃fun w => ⌜GrantW cfg s w⌝⦄ callSleeper cfg s
    ⦃post⟨fun _ w => ⌜SleptW cfg w⌝, fun _ w => ⌜FinW cfg w⌝⟩⦄ := by
  have hx := ask_sleeper cfg
  mvcgen [callSleeper, hx]

end

attribute [local spec] invokeOp_spec shouldClassifyResult_spec callClassifier_spec stratRecordFailure_spec
  callSleeper_spec

theorem sanitize_le (out : SOut) (rem : Nat) : sanitize out rem ≤ rem := by
  unfold sanitize
  split
  · split
    · exact Nat.zero_le _
    · exact Nat.min_le_right _ _
  · exact Nat.zero_le _

@[simp] theorem isRaise_iff (d : Decision) : d.isRaise = true ↔ d = .raise :=
  Decision.isRaise_iff d

open Lean.Parser.Tactic in
/-- Unfold snapshots to tuples (so that worlds that differ in irrelevant fields coincide), keep the
    invariants opaque, and chain the stability lemmas `Keep.*` (a leaf keeps whichever invariant holds).
    What else a program point needs is passed at the call: the implication between invariants that lets it
    go on (`TopS.mid` after the loop top, `GrantS.mid` / `SleptS.mid` around the sleep, `MidS.fin` at an
    exit, `MidS.grant` / `SleptS.top` where the clock is read), or a case split. -/
macro "c02" " [" ps:grindParam,* "]" : tactic => `(tactic| all_goals (
  (try subst_vars) <;> (try intros) <;>
  (try simp +zetaDelta only [TopW, MidW, GrantW, SleptW, FinW, snapC, snapOf, determineAction_continue_iff,
    restore_dummy] at *) <;>
  grind [→ Keep.top, → Keep.mid, → Keep.grant, → Keep.slept, → Keep.fin, $ps,*]))

macro "c02" : tactic => `(tactic| c02 [])

abbrev decPost (cfg : Cfg) : PostCond Decision (.except Exn (.arg World .pure)) :=
  post⟨fun d w => ⌜MidW cfg w ∧ ∀ s ctx, d = .retry s ctx → GrantW cfg s w⌝, fun _ w => ⌜MidW cfg w⌝⟩

@[local spec]
theorem grantRetry_spec (cfg : Cfg) (tl : Bool) (c : Classification) (a : Nat) (cause : Cause)
    (e : Option Exn) (key : SKey) (kind : SKind) (rem : Nat) :
    ⦃fun w => ⌜GrantW cfg rem w⌝⦄ grantRetry cfg tl c a cause e key kind rem ⦃decPost cfg⦄ := by
  mvcgen -leave [grantRetry, getRS, modifyRS]
  vc_intro
  c02 [GrantS.le, sanitize_le, → GrantS.mid]

@[local spec]
theorem handleFailure2_spec (cfg : Cfg) (tl : Bool) (c : Classification) (a : Nat) (cause : Cause)
    (e : Option Exn) :
    ⦃fun w => ⌜MidW cfg w⌝⦄ handleFailure2 cfg tl c a cause e ⦃decPost cfg⦄ := by
  mvcgen -leave [handleFailure2, elapsed, modifyRS]
  vc_intro
  c02 [→ MidS.grant]

@[local spec]
theorem handleUnknown_spec (cfg : Cfg) (tl : Bool) (c : Classification) (a : Nat) (cause : Cause)
    (e : Option Exn) :
    ⦃fun w => ⌜MidW cfg w⌝⦄ handleUnknown cfg tl c a cause e ⦃decPost cfg⦄ := by
  mvcgen -leave [handleUnknown, getRS, modifyRS]
  vc_intro
  c02

@[local spec]
theorem handleFailure1_spec (cfg : Cfg) (tl : Bool) (c : Classification) (a : Nat) (cause : Cause)
    (e : Option Exn) :
    ⦃fun w => ⌜MidW cfg w⌝⦄ handleFailure1 cfg tl c a cause e ⦃decPost cfg⦄ := by
  mvcgen -leave [handleFailure1, getRS]
  vc_intro
  c02

@[local spec]
theorem handleFailure_spec (cfg : Cfg) (tl : Bool) (c : Classification) (a : Nat) (cause : Cause)
    (e : Option Exn) (r : Option Nat) :
    ⦃fun w => ⌜MidW cfg w⌝⦄ handleFailure cfg tl c a cause e r ⦃decPost cfg⦄ := by
  mvcgen -leave [handleFailure, Retry.recordFailure, modifyRS]
  vc_intro
  c02

@[local spec]
theorem handleException_spec (cfg : Cfg) (tl : Bool) (e : Exn) (a : Nat) :
    ⦃fun w => ⌜MidW cfg w⌝⦄ handleException cfg tl e a ⦃decPost cfg⦄ := by
  mvcgen -leave [handleException]
  vc_intro
  c02

theorem sd_cases (r : SleepDecision) : r = .sleep ∨ r = .defer ∨ r = .abort ∨ r = .other := by
  cases r <;> simp

@[local spec]
theorem sleepAction_spec (cfg : Cfg) (tl : Bool) (a s : Nat) (ctx : BackoffCtx) :
    ⦃fun w => ⌜GrantW cfg s w⌝⦄ sleepAction cfg tl a s ctx
    ⦃post⟨fun r w => ⌜MidW cfg w ∧ (r ≠ .defer → r ≠ .abort → SleptW cfg w)⌝, fun _ w => ⌜FinW cfg w⌝⟩⦄ := by
  mvcgen -leave [sleepAction]
  vc_intro
  c02 [cases SleepDecision, → GrantS.mid, → SleptS.mid, → MidS.fin]

abbrev outPostA (cfg : Cfg) : PostCond AOutcome (.except Exn (.arg World .pure)) :=
  post⟨fun o w => ⌜MidW cfg w ∧ (o.decision = .retry → TopW cfg w)⌝, fun _ w => ⌜FinW cfg w⌝⟩

@[local spec]
theorem finalizeAttempt_spec (cfg : Cfg) (tl : Bool) (a : Nat) (d : Decision) (act : Option SleepDecision)
    (cls : Option Classification) (e : Option Exn) (r : Option Nat) (c : Option Cause) :
    ⦃fun w => ⌜MidW cfg w ∧ (d ≠ .raise → act ≠ some .defer → act ≠ some .abort → SleptW cfg w)⌝⦄
    finalizeAttempt cfg tl a d act cls e r c ⦃outPostA cfg⦄ := by
  mvcgen -leave [finalizeAttempt, getRS, elapsed]
  vc_intro
  c02 [→ SleptS.top, → MidS.fin]

@[local spec]
theorem failureOutcome_spec (cfg : Cfg) (tl : Bool) (a : Nat) (d : Decision)
    (cls : Option Classification) (e : Option Exn) (r : Option Nat) (c : Option Cause) :
    ⦃fun w => ⌜MidW cfg w ∧ ∀ s ctx, d = .retry s ctx → GrantW cfg s w⌝⦄
    failureOutcome cfg tl a d cls e r c ⦃outPostA cfg⦄ := by
  mvcgen -leave [failureOutcome]
  vc_intro
  c02 [cases SleepDecision]

abbrev attemptPost (cfg : Cfg) : PostCond (Option α) (.except Exn (.arg World .pure)) :=
  post⟨fun r w => ⌜FinW cfg w ∧ (r = none → TopW cfg w)⌝, fun _ w => ⌜FinW cfg w⌝⟩

@[local spec]
theorem callExceptionPath_spec (cfg : Cfg) (a : Nat) (e : Exn) :
    ⦃fun w => ⌜MidW cfg w⌝⦄ callExceptionPath cfg a e ⦃attemptPost cfg⦄ := by
  mvcgen -leave [callExceptionPath, getRS, modifyAS]
  vc_intro
  c02 [→ MidS.fin]

@[local spec]
theorem callOpHandler_spec (cfg : Cfg) (a : Nat) (e : Exn) :
    ⦃fun w => ⌜MidW cfg w⌝⦄ callOpHandler cfg a e ⦃attemptPost cfg⦄ := by
  mvcgen -leave [callOpHandler]
  vc_intro
  c02 [→ MidS.fin]

@[local spec]
theorem callResultFailure_spec (cfg : Cfg) (a x : Nat) (c : Classification) :
    ⦃fun w => ⌜MidW cfg w⌝⦄ callResultFailure cfg a x c ⦃attemptPost cfg⦄ := by
  mvcgen -leave [callResultFailure, getRS, modifyAS]
  vc_intro
  c02 [→ MidS.fin]

@[local spec]
theorem callResultPath_spec (cfg : Cfg) (a x : Nat) :
    ⦃fun w => ⌜MidW cfg w⌝⦄ callResultPath cfg a x ⦃attemptPost cfg⦄ := by
  mvcgen -leave [callResultPath]
  vc_intro
  c02 [→ MidS.fin]

theorem callAttempt_spec (cfg : Cfg) (a : Nat) :
    ⦃fun w => ⌜TopW cfg w⌝⦄ callAttempt cfg a ⦃attemptPost cfg⦄ := by
  mvcgen -leave [callAttempt, modifyAS]
  vc_intro
  c02 [→ TopS.mid, → MidS.fin]

abbrev finPost (cfg : Cfg) : PostCond α (.except Exn (.arg World .pure)) :=
  post⟨fun _ w => ⌜FinW cfg w⌝, fun _ w => ⌜FinW cfg w⌝⟩

theorem callLoop_spec (cfg : Cfg) : ∀ (fuel a : Nat),
    ⦃fun w => ⌜TopW cfg w⌝⦄ callLoop cfg fuel a ⦃finPost cfg⦄ := by
  intro fuel
  induction fuel with
  | zero =>
    intro a
    mvcgen -leave [callLoop]
    vc_intro
    c02 [→ TopS.mid, → MidS.fin]
  | succ f ih =>
    intro a
    mvcgen -leave [callLoop, callAttempt_spec, ih]
    vc_intro
    c02

/-- at the start of a call: if the log so far (the breaker's admission) is calm, the monitor is
    still in its initial state -/
def StartW (cfg : Cfg) (w : World) : Prop := (∀ x ∈ w.trace, CalmX x) → cur cfg w.trace = {}

theorem top_of_start {cfg : Cfg} {g : Snap} (h : g.quiet → g.mon = {}) (hs : g.start = g.now) :
    TopS cfg g := by
  intro hq
  rw [Nat.le_antisymm_iff] at hs
  have hm := h hq
  exact ⟨⟨by rw [hm]; exact hs.1, by rw [hm], fun _ => by rw [hm]; exact Nat.zero_le _,
    fun _ => by rw [hm]; exact Nat.zero_le _⟩, by rw [hm], fun h1 => by rw [hm] at h1; cases h1⟩

theorem runCall_spec (cfg : Cfg) :
    ⦃fun w => ⌜StartW cfg w⌝⦄ runCall cfg ⦃finPost cfg⦄ := by
  have hl := callLoop_spec cfg cfg.maxAttempts 1
  mvcgen [runCall, initState, hl]
  exact top_of_start ‹StartW cfg _› rfl

@[local spec]
theorem execResultFailure_spec (cfg : Cfg) (tl : Bool) (a x : Nat) (c : Classification) :
    ⦃fun w => ⌜MidW cfg w⌝⦄ execResultFailure cfg tl a x c ⦃attemptPost cfg⦄ := by
  mvcgen -leave [execResultFailure, getRS, modifyAS]
  vc_intro
  c02 [→ MidS.fin]

theorem execResultPath_spec (cfg : Cfg) (tl : Bool) (a x : Nat) :
    ⦃fun w => ⌜MidW cfg w⌝⦄ execResultPath cfg tl a x ⦃attemptPost cfg⦄ := by
  mvcgen -leave [execResultPath]
  vc_intro
  c02 [→ MidS.fin]

theorem execPre_spec (cfg : Cfg) (tl : Bool) (a : Nat) :
    ⦃fun w => ⌜TopW cfg w⌝⦄ execPre cfg tl a
    ⦃post⟨fun _ w => ⌜MidW cfg w⌝, fun _ w => ⌜MidW cfg w⌝⟩⦄ := by
  mvcgen -leave [execPre, modifyAS]
  vc_intro
  c02 [→ TopS.mid]

@[local spec]
theorem execAbortExit_spec (cfg : Cfg) (tl : Bool) (a : Nat) (e : Exn) :
    ⦃fun w => ⌜FinW cfg w⌝⦄ execAbortExit cfg tl a e
    ⦃post⟨fun r w => ⌜r ≠ none ∧ FinW cfg w⌝, fun _ w => ⌜FinW cfg w⌝⟩⦄ := by
  mvcgen -leave [execAbortExit]
  vc_intro
  c02

@[local spec]
theorem execExceptionPath3_spec (cfg : Cfg) (tl : Bool) (a : Nat) (e : Exn) (d : Decision) :
    ⦃fun w => ⌜MidW cfg w ∧ ∀ s ctx, d = .retry s ctx → GrantW cfg s w⌝⦄
    execExceptionPath3 cfg tl a e d ⦃attemptPost cfg⦄ := by
  mvcgen -leave [execExceptionPath3, getRS, modifyAS]
  vc_intro
  c02 [→ MidS.fin]

@[local spec]
theorem execExceptionPath2_spec (cfg : Cfg) (tl : Bool) (a : Nat) (e : Exn) :
    ⦃fun w => ⌜MidW cfg w⌝⦄ execExceptionPath2 cfg tl a e ⦃attemptPost cfg⦄ := by
  mvcgen -leave [execExceptionPath2, getRS, modifyAS]
  vc_intro
  c02 [→ MidS.fin]

@[local spec]
theorem execExceptionPath_spec (cfg : Cfg) (tl : Bool) (a : Nat) (e : Exn) :
    ⦃fun w => ⌜MidW cfg w⌝⦄ execExceptionPath cfg tl a e ⦃attemptPost cfg⦄ := by
  mvcgen -leave [execExceptionPath, modifyAS]
  vc_intro
  c02 [→ MidS.fin]

theorem execHandler_spec (cfg : Cfg) (tl : Bool) (a : Nat) (e : Exn) :
    ⦃fun w => ⌜MidW cfg w⌝⦄ execHandler cfg tl a e ⦃attemptPost cfg⦄ := by
  mvcgen -leave [execHandler]
  vc_intro
  c02 [→ MidS.fin]

theorem execReturnedHandler_spec (cfg : Cfg) (tl : Bool) (a : Nat) (e : Exn) :
    ⦃fun w => ⌜FinW cfg w⌝⦄ execReturnedHandler cfg tl a e ⦃attemptPost cfg⦄ := by
  mvcgen -leave [execReturnedHandler]
  vc_intro
  c02

theorem execAttempt_spec (cfg : Cfg) (tl : Bool) (a : Nat) :
    ⦃fun w => ⌜TopW cfg w⌝⦄ execAttempt cfg tl a ⦃attemptPost cfg⦄ := by
  mvcgen -leave [execAttempt, execPre_spec, execHandler_spec, execResultPath_spec, execReturnedHandler_spec]
  vc_intro
  c02

theorem execLoop_spec (cfg : Cfg) (tl : Bool) : ∀ (fuel a : Nat),
    ⦃fun w => ⌜TopW cfg w⌝⦄ execLoop cfg tl fuel a ⦃finPost cfg⦄ := by
  intro fuel
  induction fuel with
  | zero =>
    intro a
    mvcgen -leave [execLoop]
    vc_intro
    c02 [→ TopS.mid, → MidS.fin]
  | succ f ih =>
    intro a
    mvcgen -leave [execLoop, execAttempt_spec, ih]
    vc_intro
    c02

theorem runExecute_spec (cfg : Cfg) :
    ⦃fun w => ⌜StartW cfg w⌝⦄ runExecute cfg ⦃finPost cfg⦄ := by
  have hl := execLoop_spec cfg cfg.timeline cfg.maxAttempts 1
  mvcgen [runExecute, initState, hl]
  exact top_of_start ‹StartW cfg _› rfl

open Policy

theorem cur_append_pol (cfg : Cfg) (δ t : List (Req × Ans)) (h : ∀ x ∈ δ, polK x.1.kind = true) :
    (cur cfg (δ ++ t)).bad = (cur cfg t).bad ∧ (cur cfg (δ ++ t)).slept = (cur cfg t).slept :=
  ⟨foldr_append_proj (step cfg) {} (·.bad) _ (fun s x hx => (step_pol cfg s x hx).1) δ t h,
    foldr_append_proj (step cfg) {} (·.slept) _ (fun s x hx => (step_pol cfg s x hx).2) δ t h⟩

/-- the verdict survives anything that neither invokes the operation nor sleeps (the classifier call
    for the breaker after the loop has ended may take time: neither `bad` nor `slept` moves) -/
theorem fin_foot (cfg : Cfg) (w w' : World) (h : Foot polK w w') (hf : FinW cfg w) : FinW cfg w' := by
  obtain ⟨δ, e, k⟩ := h.trace
  have hp := cur_append_pol cfg δ w.trace k
  intro hq
  obtain ⟨h1, h2⟩ := hf fun x hx => hq x (e ▸ List.mem_append_right _ hx)
  refine ⟨?_, fun hh => ?_⟩
  · show (cur cfg w'.trace).bad = false
    rw [e, hp.1]; exact h1
  · show (cur cfg w'.trace).slept ≤ _
    rw [e, hp.2]; exact h2 fun x hx => hh x (e ▸ List.mem_append_right _ hx)

theorem start_foot (cfg : Cfg) (w w' : World) (h : Foot stillK w w') (hs : StartW cfg w) : StartW cfg w' := by
  intro hq
  obtain ⟨q, hm, _, _⟩ := (keep_of_foot still_sub_inert (fun _ h => h) cfg w w' h).quiet hq
  exact hm.trans (hs q)

theorem StartW.fin {cfg : Cfg} {w : World} (h : StartW cfg w) : FinW cfg w := fun hq => by
  have : cur cfg w.trace = {} := h hq
  show (cur cfg w.trace).bad = false ∧ (_ → (cur cfg w.trace).slept ≤ _)
  rw [this]
  exact ⟨rfl, fun _ => Nat.zero_le _⟩

section policyLeaves
variable (cfg : Cfg)
variable (I : World → Prop) (hI : ∀ w w', Foot polK w w' → I w → I w')
include hI

theorem policyOutcome_i (ok : Bool) (value : Option Nat) (stop : Option StopReason) (attempts : Nat)
    (lc : Option EClass) (le : Option String) (cause : Option Cause) :
    ⦃fun w => ⌜I w⌝⦄ policyOutcome ok value stop attempts lc le cause
    ⦃post⟨fun _ w => ⌜I w⌝, fun _ w => ⌜I w⌝⟩⦄ :=
  inv_of_foot I (fun w0 => policyOutcome_foot polK w0 ok value stop attempts lc le cause) hI

end policyLeaves
theorem allow_sub_still : ∀ k, allowK k = true → stillK k = true := by
  intro k; cases k <;> simp [allowK, stillK]

theorem shell_sub_pol : ∀ k, shellK k = true → polK k = true := by
  intro k; cases k <;> simp [shellK, polK]

/-- `Policy.call` with a retry component (also `RetryPolicy.call`, `@retry`, contexts, async twins) -/
theorem call_retry_spec (cfg : Cfg) (hret : cfg.hasRetry = true) :
    ⦃fun w => ⌜StartW cfg w⌝⦄ Policy.call cfg ⦃finPost cfg⦄ :=
  call_retry_frame cfg (fun w w' h => start_foot cfg w w' (h.mono allow_sub_still))
    (fun w w' h => fin_foot cfg w w' (h.mono shell_sub_pol)) (fun _ => StartW.fin) hret (runCall_spec cfg)

/-- `Policy.execute` with a retry component -/
theorem execute_retry_spec (cfg : Cfg) (hret : cfg.hasRetry = true) :
    ⦃fun w => ⌜StartW cfg w⌝⦄ Policy.execute cfg ⦃finPost cfg⦄ :=
  execute_retry_frame cfg (fun w w' h => start_foot cfg w w' (h.mono allow_sub_still))
    (fun w w' h => fin_foot cfg w w' (h.mono shell_sub_pol)) (fun _ => StartW.fin) hret (runExecute_spec cfg)

/-- the breaker prelude (admission, circuit events) takes no time in a calm log, so the monitor's clock
    over the whole log is the retry loop's own -/
theorem run_retryTrace (cfg : Cfg) (t : Trace) (hq : ∀ x ∈ t, CalmX x) :
    run cfg (retryTrace t) = run cfg t := by
  induction t with
  | nil => rfl
  | cons x t ih =>
    have ih := ih fun y hy => hq y (List.mem_cons_of_mem _ hy)
    unfold retryTrace at ih ⊢
    rw [List.dropWhile_cons]
    split
    · rename_i hp
      have hk := still_of_prelude x.1 hp
      rw [ih]
      unfold run
      rw [List.foldl_cons, step_inert cfg {} x (still_sub_inert _ hk) (hq x List.mem_cons_self hk)]
    · rfl

theorem verdict_of_fin {cfg : Cfg} {w : World} (h : FinW cfg w) (hq : ∀ x ∈ w.trace, CalmX x) :
    (!(run cfg (retryTrace w.trace.reverse)).bad && (!honestSleeper w.trace.reverse ||
      decide ((run cfg (retryTrace w.trace.reverse)).slept ≤ cfg.deadline))) = true := by
  obtain ⟨h1, h2⟩ := h hq
  have h1 : (cur cfg w.trace).bad = false := h1
  rw [run_retryTrace cfg _ fun x hx => hq x (List.mem_reverse.mp hx), run_reverse, h1]
  cases hh : honestSleeper w.trace.reverse with
  | false => rfl
  | true =>
    have : (cur cfg w.trace).slept ≤ cfg.deadline :=
      h2 fun x hx => (honest_iff _).mp hh x (List.mem_reverse.mpr hx)
    simp [this]

theorem start_start (cfg : Cfg) (w : World) : StartW cfg (startWorld w) := fun _ => rfl

theorem fin_run (cfg : Cfg) (e : Entry) (w : World) (hl : hasLoop cfg e = true) :
    FinW cfg (runEntry cfg e w).2 := by
  cases e with
  | call =>
    exact toRes_of_triple (Q := fun _ w => FinW cfg w) (runCall_spec cfg) _ (start_start cfg w)
  | execute =>
    exact toResO_of_triple (Q := fun _ w => FinW cfg w) _ (runExecute_spec cfg) _ (start_start cfg w)
  | pcall =>
    exact toRes_of_triple (Q := fun _ w => FinW cfg w) (call_retry_spec cfg hl) _ (start_start cfg w)
  | pexecute =>
    exact toResO_of_triple (Q := fun _ w => FinW cfg w) _ (execute_retry_spec cfg hl) _ (start_start cfg w)

/--
**C02.**  For every configuration, every entry point (`Retry`/`Policy` × `call`/`execute`; the async
twins, `RetryPolicy`, contexts and `@retry` are these by argument forwarding) and every world — every
answer stream (all attempt durations, all sleeper over- and undershoots, all strategy outputs, any
callback raising anything), every clock value, every state of a shared budget or breaker — the run
satisfies the deadline monitor.  Measured on the monotonic clock from the start of the call, whenever
time passes only in attempts and sleeps (`quiet`):

* the operation is never invoked again once more than `deadline` has elapsed;
* every backoff sleep requested fits the time then remaining (`elapsed + d ≤ deadline`);
* after a failure observed at `elapsed ≥ deadline` the operation is not invoked and no sleep is requested;
* if moreover every sleep lasts at least as long as requested (`honestSleeper`), the total sleep
  requested is at most `deadline`.

(Entry points without a retry loop have no deadline; the wall clock is no input of the model.)
-/
theorem deadline_envelope (cfg : Cfg) (e : Entry) (w : World) :
    Mon.C02.ok cfg e (runEntry cfg e w).2.trace.reverse (runEntry cfg e w).1 = true := by
  unfold Mon.C02.ok
  split
  · rename_i hc
    rw [Bool.and_eq_true] at hc
    exact verdict_of_fin (fin_run cfg e w hc.1) fun x hx =>
      calm_of_quiet x ((quiet_iff _).mp hc.2 x (List.mem_reverse.mpr hx))
  · rfl

/-- …and therefore of every call in every script of calls and clock advances on ONE policy object. -/
theorem deadline_envelope_script (cfg : Cfg) : ∀ (steps : List Step) (w : World),
    ∀ l ∈ (runScript cfg steps w).1, Mon.C02.ok cfg l.entry l.trace l.res = true :=
  forall_script (P := fun e t r => Mon.C02.ok cfg e t r = true) cfg (deadline_envelope cfg)

def total (t : Trace) : Nat := (t.map (·.2.dur)).sum

def sleepOf : Req → Nat
  | .sleeper _ d => d
  | _ => 0

def sleepSum (t : Trace) : Nat := (t.map (fun x => sleepOf x.1)).sum

theorem step_slept (cfg : Cfg) (s : St) (x : Req × Ans) : (step cfg s x).slept = s.slept + sleepOf x.1 := by
  obtain ⟨r, a⟩ := x
  cases r <;> rfl

theorem step_ops (cfg : Cfg) (s : St) (x : Req × Ans) :
    (step cfg s x).ops = s.ops + if isOp x.1 = true then 1 else 0 := by
  obtain ⟨r, a⟩ := x
  cases r <;> rfl

theorem fold_add (cfg : Cfg) (f : St → Nat) (wt : Req × Ans → Nat)
    (hf : ∀ s x, f (step cfg s x) = f s + wt x) (t : Trace) :
    ∀ s, f (t.foldl (step cfg) s) = f s + (t.map wt).sum := by
  induction t with
  | nil => intro s; rfl
  | cons x t ih => intro s; rw [List.foldl_cons, ih, hf, List.map_cons, List.sum_cons, Nat.add_assoc]

theorem run_now (cfg : Cfg) (t : Trace) : (run cfg t).now = total t :=
  (fold_add cfg (·.now) (·.2.dur) (step_now cfg) t {}).trans (Nat.zero_add _)

theorem run_slept (cfg : Cfg) (t : Trace) : (run cfg t).slept = sleepSum t :=
  (fold_add cfg (·.slept) (fun x => sleepOf x.1) (step_slept cfg) t {}).trans (Nat.zero_add _)

theorem run_ops (cfg : Cfg) (t : Trace) : (run cfg t).ops = opCount t := by
  refine (fold_add cfg (·.ops) _ (step_ops cfg) t {}).trans ((Nat.zero_add _).trans ?_)
  unfold opCount
  induction t with
  | nil => rfl
  | cons x t ih => rw [List.map_cons, List.sum_cons, ih, List.filter_cons]; split <;> simp +arith

theorem run_append (cfg : Cfg) (p q : Trace) : run cfg (p ++ q) = q.foldl (step cfg) (run cfg p) := by
  simp [run, List.foldl_append]

theorem bad_step (cfg : Cfg) (s : St) (x : Req × Ans) (h : (step cfg s x).bad = false) : s.bad = false := by
  obtain ⟨r, a⟩ := x
  cases r <;> simp_all [step]

theorem bad_at (cfg : Cfg) (p q : Trace) (x : Req × Ans) (h : (run cfg (p ++ x :: q)).bad = false) :
    (step cfg (run cfg p) x).bad = false :=
  foldl_flag_at (step cfg) St.bad (bad_step cfg) {} p q x h

theorem late_iff (cfg : Cfg) (t : Trace) :
    (run cfg t).late = true ↔ ∃ p y q, t = p ++ y :: q ∧ LateFailure cfg (total p) y := by
  induction hn : t.length generalizing t with
  | zero =>
    have : t = [] := List.length_eq_zero_iff.mp hn
    subst this
    simp [run]
  | succ n ih =>
    rcases List.eq_nil_or_concat t with rfl | ⟨t, x, rfl⟩
    · simp at hn
    have ih := ih t (by simpa using hn)
    rw [List.concat_eq_append] at *
    rw [run_append]
    simp only [List.foldl_cons, List.foldl_nil, late_step, ih, run_now]
    constructor
    · rintro (⟨p, y, q, rfl, hl⟩ | hl)
      · exact ⟨p, y, q ++ [x], by simp, hl⟩
      · exact ⟨t, x, [], rfl, hl⟩
    · rintro ⟨p, y, q, he, hl⟩
      rcases List.eq_nil_or_concat q with rfl | ⟨q', z, rfl⟩
      · have := List.append_inj' he (by simp)
        simp at this
        obtain ⟨rfl, rfl⟩ := this
        exact Or.inr hl
      · have : t ++ [x] = (p ++ y :: q') ++ [z] := by simp [he]
        have := List.append_inj' this rfl
        obtain ⟨rfl, _⟩ := this
        exact Or.inl ⟨p, y, q', rfl, hl⟩

/-- what acceptance by the monitor means for a log of an entry point with a retry loop -/
structure Envelope (cfg : Cfg) (t : Trace) : Prop where
  bad : (run cfg t).bad = false
  slept : honestSleeper t = true → sleepSum t ≤ cfg.deadline

theorem envelope_of_verdict {cfg : Cfg} {t : Trace} (hq : ∀ x ∈ t, CalmX x)
    (h : (!(run cfg (retryTrace t)).bad && (!honestSleeper t ||
      decide ((run cfg (retryTrace t)).slept ≤ cfg.deadline))) = true) : Envelope cfg t := by
  rw [run_retryTrace cfg t hq] at h
  simp only [Bool.and_eq_true, Bool.not_eq_true', Bool.or_eq_true, decide_eq_true_eq] at h
  refine ⟨h.1, fun hh => ?_⟩
  rw [← run_slept cfg]
  rcases h.2 with h2 | h2
  · simp [hh] at h2
  · exact h2

theorem envelope_of_ok {cfg : Cfg} {e : Entry} {t : Trace} {r : Res} (h : Mon.C02.ok cfg e t r = true)
    (hl : hasLoop cfg e = true) (hq : quiet t = true) : Envelope cfg t := by
  unfold Mon.C02.ok at h
  rw [if_pos (by simp [hl, hq])] at h
  exact envelope_of_verdict (fun x hx => calm_of_quiet x ((quiet_iff t).mp hq x hx)) h

/-- **No attempt after the deadline**: in a quiet accepted log, when the operation is invoked again
    (not for the first time), at most `deadline` has elapsed since the start of the call. -/
theorem no_attempt_after_deadline {cfg : Cfg} {t : Trace} (h : Envelope cfg t)
    (p q : Trace) (x : Req × Ans) (ht : t = p ++ x :: q) (hx : isOp x.1 = true) (hp : 1 ≤ opCount p) :
    total p ≤ cfg.deadline := by
  have hb := bad_at cfg p q x (ht ▸ h.bad)
  obtain ⟨r, a⟩ := x
  cases r <;> simp_all [isOp, step, run_now, run_ops]

/-- **No sleep beyond the time remaining**: every backoff `d` requested after `elapsed` fits:
    `elapsed + d ≤ deadline`. -/
theorem sleep_le_remaining {cfg : Cfg} {t : Trace} (h : Envelope cfg t)
    (p q : Trace) (l : Lvl) (d : Nat) (a : Ans) (ht : t = p ++ (.sleeper l d, a) :: q) :
    total p + d ≤ cfg.deadline := by
  have hb := bad_at cfg p q _ (ht ▸ h.bad)
  simp_all [step, run_now]

/-- **…so the total sleep requested never exceeds the deadline** (honest sleeper) -/
theorem total_sleep_le_deadline {cfg : Cfg} {t : Trace} (h : Envelope cfg t)
    (hh : honestSleeper t = true) : sleepSum t ≤ cfg.deadline := h.slept hh

/-- **A failure observed at or after the deadline is never retried**: after it the operation is not
    invoked again and no sleep is requested. -/
theorem late_failure_not_retried {cfg : Cfg} {t : Trace} (h : Envelope cfg t)
    (p q : Trace) (x : Req × Ans) (ht : t = p ++ x :: q) (hx : isOp x.1 = true ∨ isSleeper x.1 = true) :
    ¬ ∃ p1 y p2, p = p1 ++ y :: p2 ∧ LateFailure cfg (total p1) y := by
  have hb := bad_at cfg p q x (ht ▸ h.bad)
  rw [← late_iff]
  obtain ⟨r, a⟩ := x
  cases r <;> simp_all [isOp, isSleeper, step]

/-! ### the hypotheses are necessary

`quiet`: a slow hook between the post-sleep deadline check and the next attempt.
`call`, `max_attempts=3 deadline=10`, a call-level `on_attempt_start` hook; answers (driver input)
`unit 0 · raise ordinary:1:TRANSIENT 1 · klass TRANSIENT - 0 · delay 2 0 · unit 2 · unit 20 · value 42 1`:
the model (and the real library, same timings on a virtual monotonic clock) logs exactly `slowHookLog`
below and returns 42 — the second attempt begins at elapsed 23 > 10.

`honestSleeper`: a sleeper that returns at once.  `call`, `max_attempts=3 deadline=10`, answers
`raise ordinary:1:TRANSIENT 0 · klass TRANSIENT - 0 · delay 10 0 · unit 0 · raise ordinary:2:TRANSIENT 0 ·
klass TRANSIENT - 0 · delay 10 0 · unit 0 · value 42 0`: the log is `earlySleeperLog`, every single
sleep fits the time then remaining, and 20 > 10 is requested in total.
(Reproduce: `printf 'case x\ncfg max_attempts=3 deadline=10 max_unknown=2 flags=c_attempt_start\ndo call\na unit 0\n…\nend\n' | lean/.lake/build/bin/driver loop`.) -/

def ceCfg : Cfg := { maxAttempts := 3, deadline := 10 }

def ceCtx (attempt : Nat) (prev : Option Nat) (remaining : Nat) : BackoffCtx :=
  { attempt, klass := .transient, retryAfter := none, prev, remaining, cause := .exception }

def slowHookLog : Trace :=
  [(.attemptStart { attempt := 1, elapsed := 0 }, .unit 0),
   (.op 1, .raise (.ordinary 1 .transient) 1),
   (.classify "o1", .klass ⟨.transient, none⟩ 0),
   (.strategy .default .ctx (ceCtx 1 none 9), .delay (.fin 2) 0),
   (.sleeper .dflt 2, .unit 2),
   (.attemptStart { attempt := 2, elapsed := 3 }, .unit 20),
   (.op 2, .value 42 1)]

/-- without `quiet` the envelope fails: the second attempt starts at elapsed 23 > deadline 10 -/
example : quiet slowHookLog = false ∧ (run ceCfg slowHookLog).bad = true ∧
    total (slowHookLog.take 6) = 23 := by decide

def earlySleeperLog : Trace :=
  [(.op 1, .raise (.ordinary 1 .transient) 0),
   (.classify "o1", .klass ⟨.transient, none⟩ 0),
   (.strategy .default .ctx (ceCtx 1 none 10), .delay (.fin 10) 0),
   (.sleeper .dflt 10, .unit 0),
   (.op 2, .raise (.ordinary 2 .transient) 0),
   (.classify "o2", .klass ⟨.transient, none⟩ 0),
   (.strategy .default .ctx (ceCtx 2 (some 10) 10), .delay (.fin 10) 0),
   (.sleeper .dflt 10, .unit 0),
   (.op 3, .value 42 0)]

/-- without `honestSleeper` the total-sleep bound fails although the log is quiet and every single
    request is within the envelope: 20 > 10 -/
example : quiet earlySleeperLog = true ∧ honestSleeper earlySleeperLog = false ∧
    (run ceCfg earlySleeperLog).bad = false ∧ sleepSum earlySleeperLog = 20 := by decide

/-- non-vacuity: a quiet, honest log with a retry, accepted; the hypotheses of the conjuncts hold of it -/
def goodLog : Trace :=
  [(.op 1, .raise (.ordinary 1 .transient) 3),
   (.classify "o1", .klass ⟨.transient, none⟩ 0),
   (.strategy .default .ctx (ceCtx 1 none 7), .delay (.fin 7) 0),
   (.sleeper .dflt 7, .unit 7),
   (.op 2, .value 42 1)]

example : quiet goodLog = true ∧ honestSleeper goodLog = true ∧ (run ceCfg goodLog).bad = false ∧
    sleepSum goodLog = 7 ∧ total (goodLog.take 4) = 10 ∧ opCount (goodLog.take 4) = 1 ∧
    Mon.C02.ok ceCfg .call goodLog (.ret 42) = true := by decide

/-- the monitor has teeth: an attempt begun after the deadline, a sleep longer than the remaining
    time, and a retry of a late failure are rejected -/
example :
    Mon.C02.ok ceCfg .call [(.op 1, .raise (.ordinary 1 .transient) 3), (.sleeper .dflt 7, .unit 8),
      (.op 2, .value 1 0)] (.ret 1) = false ∧
    Mon.C02.ok ceCfg .call [(.op 1, .raise (.ordinary 1 .transient) 3), (.sleeper .dflt 8, .unit 8)]
      (.raised (.ordinary 1 .transient)) = false ∧
    Mon.C02.ok ceCfg .call [(.op 1, .raise (.ordinary 1 .transient) 10), (.sleeper .dflt 0, .unit 0)]
      (.raised (.ordinary 1 .transient)) = false := by decide

/-- every quiet run of the model through an entry point with a retry loop is within the envelope:
    the conjuncts above apply to it -/
theorem run_envelope (cfg : Cfg) (e : Entry) (w : World) (hl : hasLoop cfg e = true)
    (hq : quiet (runEntry cfg e w).2.trace.reverse = true) :
    Envelope cfg (runEntry cfg e w).2.trace.reverse :=
  envelope_of_ok (deadline_envelope cfg e w) hl hq

end Redress.Props.C02
