/-
  C03 — Retry exactly when permitted: no premature give-up, no wasted backoff.

  Theorems are about `Mon.C03.ok`, the monitor the driver also evaluates on implementation traces:
  for EVERY configuration, EVERY answer stream and every entry point, the monitor accepts the model's
  run.  Structure as in `Props/C01.lean`; the leaf procedures come from the exchange-level footprints
  `FootQ` / `FootE` of `Lemmas/Footprint.lean`.
-/
import Redress.Lemmas.PolicyFrame
import Redress.Monitors
import Redress.Lemmas.MonitorFacts

open Std.Do

namespace Redress.Props.C03
open Redress Redress.Retry Redress.Mon Redress.Mon.C03

variable (cfg : Cfg) (tl : Bool) (n : Nat) (u : View) {v : View} {m : St} {kc : EClass} {α : Type} {x : M α}

def clk (tr : List (Req × Ans)) : Clock := tr.foldr (fun x c => c.tick x) {}

def cur (cfg : Cfg) : List (Req × Ans) → St
  | [] => {}
  | x :: t => step cfg (cur cfg t) x (clk (x :: t)).el

@[simp] theorem clk_cons (x : Req × Ans) (t : List (Req × Ans)) : clk (x :: t) = (clk t).tick x := rfl

@[simp] theorem cur_cons (cfg : Cfg) (x : Req × Ans) (t : List (Req × Ans)) :
    cur cfg (x :: t) = step cfg (cur cfg t) x ((clk t).tick x).el := rfl

theorem pair_fold  (t : List (Req × Ans)) :
    t.foldr (fun x (acc : St × Clock) => (step cfg acc.1 x (acc.2.tick x).el, acc.2.tick x)) ({}, {})
      = (cur cfg t, clk t) := by
  induction t with
  | nil => rfl
  | cons x t ih => simp [List.foldr, ih]

theorem run_reverse  (t : List (Req × Ans)) : run cfg t.reverse = cur cfg t := by
  simp only [run, List.foldl_reverse]
  exact congrArg Prod.fst (pair_fold cfg t)

theorem elapsedOf_reverse (t : List (Req × Ans)) : elapsedOf t.reverse = (clk t).el := by
  simp [elapsedOf, clk, List.foldl_reverse]

def flt (tr : List (Req × Ans)) : Bool := attemptHookFault tr

theorem fault_reverse (t : List (Req × Ans)) : attemptHookFault t.reverse = flt t := by
  simp [attemptHookFault, flt, List.any_reverse]

theorem elapsedOf_eq (t : Trace) : elapsedOf t = (retryTrace t).foldl (fun n x => n + x.2.dur) 0 := by
  have hstarted : ∀ (l : Trace) (n : Nat),
      (l.foldl Clock.tick { started := true, el := n }).el = l.foldl (fun n x => n + x.2.dur) n := by
    intro l
    induction l with
    | nil => intro n; rfl
    | cons x l ih => intro n; simp [List.foldl, Clock.tick, ih]
  unfold elapsedOf retryTrace
  induction t with
  | nil => rfl
  | cons x t ih =>
    by_cases hp : isPrelude x.1 = true
    · simp only [List.foldl, List.dropWhile, hp]
      have : Clock.tick {} x = {} := by simp [Clock.tick, hp]
      rw [this]; exact ih
    · have hp' : isPrelude x.1 = false := by simpa using hp
      simp only [List.foldl, List.dropWhile, hp']
      have : Clock.tick {} x = { started := true, el := x.2.dur } := by simp [Clock.tick, hp']
      rw [this, hstarted]
      simp

/-- requests of the retry loop that are inert for the C03 monitor (and never part of the prelude) -/
def loopR : Req → Bool
  | .metric ev .. => ev != .retry && ev != .budgetExhausted && !isBreakerEv ev
  | .log ev .. => !isBreakerEv ev
  | .beforeSleep .. | .attemptStart _ | .attemptEnd _ | .stratRecordFailure .. | .stratRecordSuccess _ => true
  | _ => false

/-- `loopR`, plus (when `bx`) the `budget_exhausted` metric event, which is inert once the budget has
    refused -/
def loopRx (bx : Bool) (r : Req) : Bool :=
  loopR r || (bx && (match r with
    | .metric .budgetExhausted .. => true
    | _ => false))

theorem loopRx_false (r : Req) : loopRx false r = loopR r := by simp [loopRx]

theorem step_inert' (bx : Bool) (s : St) (x : Req × Ans) (el : Nat) (h : loopRx bx x.1 = true)
    (hx : bx = true → s.refused = true) :
    step cfg s x el = { s with sawAbort := s.sawAbort || abortRaise x } := by
  obtain ⟨r, a⟩ := x
  cases r with
  | metric ev _ _ _ =>
    cases ev
    case budgetExhausted =>
      have hr : s.refused = true := hx (by simpa [loopRx, loopR] using h)
      cases s
      cases a <;> simp_all [step, abortKind, abortRaise]
    all_goals (simp_all [loopRx, loopR, step, abortKind, abortRaise, isBreakerEv])
  | _ => simp_all [loopRx, loopR, step, abortKind, abortRaise]

theorem abortRaise_quiet (bx : Bool) (x : Req × Ans) (h : loopRx bx x.1 = true) (hq : quietX x = true) :
    abortRaise x = false := by
  obtain ⟨r, a⟩ := x
  cases a <;> simp_all [abortRaise, quietX]
  cases r <;> simp_all [loopRx, loopR, swallowedReq, abortKind]

theorem step_inert (bx : Bool) (s : St) (x : Req × Ans) (el : Nat) (h : loopRx bx x.1 = true)
    (hq : quietX x = true) (hx : bx = true → s.refused = true) : step cfg s x el = s := by
  rw [step_inert' cfg bx s x el h hx, abortRaise_quiet bx x h hq]
  simp

theorem loopR_not_prelude (bx : Bool) (r : Req) (h : loopRx bx r = true) : isPrelude r = false := by
  cases r with
  | metric ev _ _ _ => cases ev <;> simp_all [loopRx, loopR, isPrelude, isBreakerEv]
  | _ => simp_all [loopRx, loopR, isPrelude]

theorem loopR_not_op (bx : Bool) (r : Req) (h : loopRx bx r = true) : isOp r = false := by
  cases r <;> simp_all [loopRx, loopR, isOp]

theorem tick_el (c : Clock) (x : Req × Ans) (h : isPrelude x.1 = false) : (c.tick x).el = c.el + x.2.dur := by
  simp [Clock.tick, h]

def hookRaise (x : Req × Ans) : Bool :=
  match x.2 with
  | .raise .. => isAttemptHook x.1
  | _ => false

theorem flt_cons (x : Req × Ans) (t : List (Req × Ans)) : flt (x :: t) = (hookRaise x || flt t) := by
  obtain ⟨r, a⟩ := x
  simp only [flt, attemptHookFault, List.any_cons]
  cases a <;> simp [hookRaise]

theorem flt_quiet (bx : Bool) (x : Req × Ans) (t : List (Req × Ans)) (hr : loopRx bx x.1 = true)
    (hq : quietX x = true) : flt (x :: t) = flt t := by
  obtain ⟨r, a⟩ := x
  rw [flt_cons]
  cases a <;> simp_all [quietX, hookRaise]
  cases r <;> simp_all [loopRx, loopR, swallowedReq, isAttemptHook]

def lastOpExn : List (Req × Ans) → Option Exn
  | [] => none
  | (.op _, .raise e _) :: _ => some e
  | (.op _, _) :: _ => none
  | _ :: t => lastOpExn t

theorem lastOpExn_nonop (x : Req × Ans) (t : List (Req × Ans)) (h : isOp x.1 = false) :
    lastOpExn (x :: t) = lastOpExn t := by
  obtain ⟨r, a⟩ := x
  cases r <;> simp_all [lastOpExn, isOp]

theorem raisedBy_of_lastOpExn (t : List (Req × Ans)) (e : Exn) (h : lastOpExn t = some e) :
    raisedBy isOp t e = true := by
  fun_induction lastOpExn t with
  | case1 => cases h
  | case2 k e' d t => cases h; simp [raisedBy, isOp]
  | case3 => cases h
  | case4 x t _ _ ih => rw [raisedBy, List.any_cons, ← raisedBy, ih h, Bool.or_true]

structure View where
  mon : St
  flt : Bool
  sync : Bool                     -- now = start + (elapsed according to the log): true inside the loop
  stop : Option StopReason        -- `last_stop_reason`
  stopOk : Bool                   -- … and its condition holds
  counts : EClass → Nat
  unknown : Nat
  noExc : Bool                    -- `last_exc is None`
  opExn : Option Exn

def stopOkOf (cfg : Cfg) (m : St) (el : Nat) : Option StopReason → Bool
  | none => true
  | some r => stopCond cfg m el r

def view (cfg : Cfg) (w : World) : View :=
  ⟨cur cfg w.trace, flt w.trace, decide (w.now = w.rs.start + (clk w.trace).el), w.rs.lastStop,
   stopOkOf cfg (cur cfg w.trace) (clk w.trace).el w.rs.lastStop,
   w.rs.perClassCounts, w.rs.unknownAttempts, w.rs.lastExc.isNone, lastOpExn w.trace⟩

theorem stopCond_mono (m : St) {el el' : Nat} (h : el ≤ el') (r : StopReason)
    (hc : stopCond cfg m el r = true) : stopCond cfg m el' r = true := by
  cases r <;> simp_all [stopCond]
  omega

theorem stopOkOf_mono (m : St) {el el' : Nat} (h : el ≤ el') (r : Option StopReason)
    (hc : stopOkOf cfg m el r = true) : stopOkOf cfg m el' r = true := by
  cases r with
  | none => rfl
  | some r => exact stopCond_mono cfg m h r hc

theorem cur_append_quiet (bx : Bool) (δ t : List (Req × Ans)) (h : QuietAll (loopRx bx) δ)
    (hx : bx = true → (cur cfg t).refused = true) :
    cur cfg (δ ++ t) = cur cfg t ∧ flt (δ ++ t) = flt t ∧ (clk (δ ++ t)).el = (clk t).el + dsum δ ∧
      lastOpExn (δ ++ t) = lastOpExn t := by
  induction δ with
  | nil => simp [dsum]
  | cons x δ ih =>
    have hx' := h x (by simp)
    have := ih (fun y hy => h y (by simp [hy]))
    refine ⟨?_, ?_, ?_, ?_⟩
    rotate_right
    · rw [List.cons_append, lastOpExn_nonop _ _ (loopR_not_op bx _ hx'.1), this.2.2.2]
    · simp only [List.cons_append, cur_cons, this.1]
      exact step_inert cfg bx _ x _ hx'.1 hx'.2 hx
    · rw [List.cons_append, flt_quiet bx _ _ hx'.1 hx'.2, this.2.1]
    · simp only [List.cons_append, clk_cons, tick_el _ _ (loopR_not_prelude bx _ hx'.1), this.2.2.1, dsum]
      omega

theorem view_fq (bx : Bool) (w w' : World) (h : FootQ (loopRx bx) w w')
    (hok : (view cfg w).stopOk = true) (hx : bx = true → (view cfg w).mon.refused = true) :
    view cfg w' = view cfg w := by
  obtain ⟨δ, e, q, t⟩ := h.trace
  have hc := cur_append_quiet cfg bx δ w.trace q hx
  have hrs := h.rs
  have hmono := stopOkOf_mono cfg (cur cfg w.trace) (Nat.le_add_right (clk w.trace).el (dsum δ)) w.rs.lastStop
    (by simpa [view] using hok)
  simp only [view, e, hc.1, hc.2.1, hc.2.2.1, hc.2.2.2, hrs, t, View.mk.injEq, true_and, and_true]
  refine ⟨by simp only [decide_eq_decide]; omega, ?_⟩
  simp_all [view]

/-! ### what the verdict needs when a run ends with an exception -/

structure ExcCore (cfg : Cfg) (e : Exn) (m : St) (el : Nat) (tr : List (Req × Ans)) : Prop where
  bad : m.bad = false
  must : m.mustOp = false
  stop : ∀ f, e = .libExhausted f →
    raisedBy (fun _ => true) tr e = true ∨ stopCond cfg m el f.stop = true
  give : 1 ≤ m.ops → m.done = false → e.isException = true → e.isAbort = false → e.isExhausted = false →
    raisedBy nonOp tr e = true ∨ (e = .libValueError ∧ m.sawOther = true) ∨
    (raisedBy isOp tr e = true ∧ m.classified = true ∧ anyStop cfg m el = true)
  grant : m.granted = true → (cfg.metric = true → m.retryEv = true) ∧
    (m.slept = true ∨ m.decision.isSome = true ∨
      ∀ f, e = .libExhausted f → raisedBy (fun _ => true) tr e = true ∨ f.stop = .aborted)

def GrantInv (cfg : Cfg) (m : St) : Prop := m.granted = true → cfg.metric = true → m.retryEv = true

def AbortOK (cfg : Cfg) (e : Exn) (w : World) : Prop :=
  e.isAbort = true →
    (cur cfg w.trace).sawAbort = true ∧ (w.rs.lastStop = none ∨ w.rs.lastStop = some .aborted)

def Exc (cfg : Cfg) (e : Exn) (w : World) : Prop :=
  flt w.trace = false → ExcCore cfg e (cur cfg w.trace) (clk w.trace).el w.trace ∧ AbortOK cfg e w

abbrev atView (cfg : Cfg) (u : View) : Assertion (.except Exn (.arg World .pure)) := fun w => ⌜view cfg w = u⌝

abbrev inPhase (cfg : Cfg) (P : View → Prop) : Assertion (.except Exn (.arg World .pure)) := fun w => ⌜P (view cfg w)⌝

abbrev excPost (cfg : Cfg) (Q : α → World → Prop) : PostCond α (.except Exn (.arg World .pure)) :=
  post⟨fun a w => ⌜Q a w⌝, fun e w => ⌜Exc cfg e w⌝⟩

theorem raisedBy_append (p : Req → Bool) (δ t : List (Req × Ans)) (e : Exn) :
    raisedBy p (δ ++ t) e = (raisedBy p δ e || raisedBy p t e) := by
  simp [raisedBy]

theorem raisedBy_head (p : Req → Bool) (r : Req) (e : Exn) (d : Nat) (t : List (Req × Ans)) (h : p r = true) :
    raisedBy p ((r, Ans.raise e d) :: t) e = true := by
  simp [raisedBy, h]

theorem raisedBy_any_of (p : Req → Bool) (t : List (Req × Ans)) (e : Exn) (h : raisedBy p t e = true) :
    raisedBy (fun _ => true) t e = true := by
  simp only [raisedBy, List.any_eq_true] at h ⊢
  obtain ⟨x, hx, h⟩ := h
  exact ⟨x, hx, by simp_all⟩

theorem exc_of_fe (bx : Bool) {e : Exn} {w w' : World} (h : FootE (loopRx bx) e w w')
    (hx : bx = true → (view cfg w).mon.refused = true)
    (hb : (view cfg w).mon.bad = false) (hg : GrantInv cfg (view cfg w).mon)
    (hm : (∀ r d rest, w'.trace = (r, Ans.raise e d) :: rest → isAttemptHook r = true) ∨
          ((view cfg w).mon.mustOp = false ∧
           (e.isAbort = false ∨
            (((view cfg w).stop = none ∨ (view cfg w).stop = some .aborted) ∧
             ∀ r d rest, w'.trace = (r, Ans.raise e d) :: rest → abortKind r = true)))) :
    Exc cfg e w' := by
  obtain ⟨δ, et, _, r, d, δ', hd, hr, q⟩ := h.trace
  subst hd
  intro hf
  have hc := cur_append_quiet cfg bx δ' w.trace q hx
  have hcur : cur cfg w'.trace =
      { cur cfg w.trace with sawAbort := (cur cfg w.trace).sawAbort || abortRaise (r, Ans.raise e d) } := by
    rw [et]
    simp only [List.cons_append, cur_cons, hc.1]
    exact step_inert' cfg bx _ (r, Ans.raise e d) _ hr hx
  have hrb : raisedBy nonOp w'.trace e = true := by
    rw [et]; exact raisedBy_head _ _ _ _ _ (by simp [nonOp, loopR_not_op bx r hr])
  have hm' : (cur cfg w.trace).mustOp = false ∧
      (e.isAbort = false ∨
        (((view cfg w).stop = none ∨ (view cfg w).stop = some .aborted) ∧ abortKind r = true)) := by
    rcases hm with hm | ⟨hm1, hm2⟩
    · have := hm r d (δ' ++ w.trace) (by simpa using et)
      rw [et] at hf
      simp [flt_cons, hookRaise, this] at hf
    · refine ⟨hm1, ?_⟩
      rcases hm2 with h | ⟨h1, h2⟩
      · exact Or.inl h
      · exact Or.inr ⟨h1, h2 r d (δ' ++ w.trace) (by simpa using et)⟩
  refine ⟨?_, ?_⟩
  · rw [hcur]
    exact ⟨hb, hm'.1, fun f _ => Or.inl (raisedBy_any_of _ _ _ hrb), fun _ _ _ _ _ => Or.inl hrb,
      fun h => ⟨hg h, Or.inr (Or.inr fun f _ => Or.inl (raisedBy_any_of _ _ _ hrb))⟩⟩
  · intro ha
    rcases hm'.2 with h | ⟨h1, h2⟩
    · simp [h] at ha
    · refine ⟨by rw [hcur]; simp [abortRaise, ha, h2], ?_⟩
      have hrs : w'.rs.lastStop = w.rs.lastStop := by rw [h.rs]
      rw [hrs]
      exact h1

theorem head_of_fe {R : Req → Bool} {e : Exn} {w w' : World} (h : FootE R e w w') {r : Req} {d : Nat}
    {rest : List (Req × Ans)} (ht : w'.trace = (r, Ans.raise e d) :: rest) : R r = true := by
  obtain ⟨δ, et, _, r0, d0, δ', hd, hr, _⟩ := h.trace
  rw [et, hd] at ht
  exact (Prod.mk.inj (List.cons.inj ht).1).1 ▸ hr

/-- leaves whose requests all go to hooks whose `Exception`s are swallowed: the view does not move; a
    failure is a callback raising something that is not an `Exception` -/
theorem leaf_spec (bx : Bool)
    (hx : ∀ w0, ⦃fun w => ⌜FootQ (loopRx bx) w0 w⌝⦄ x ⦃fqPost (loopRx bx) w0⦄)
    (hnx : ⦃fun _ => ⌜True⌝⦄ x ⦃post⟨fun _ _ => ⌜True⌝, fun e _ => ⌜e.isException = false⌝⟩⦄) (v : View)
    (hr : bx = true → v.mon.refused = true)
    (hok : v.stopOk = true) (hb : v.mon.bad = false) (hg : GrantInv cfg v.mon) (hm : v.mon.mustOp = false) :
    ⦃atView cfg v⦄ x ⦃excPost cfg fun _ w => view cfg w = v⦄ :=
  triple_mono
    (triple_and
      (triple_of_rel (P := fun w => view cfg w = v) (Qv := fun _ w => view cfg w = v)
          (Qe := fun e w => e.isAbort = false → Exc cfg e w) hx (FootQ.refl _)
        (fun _ _ _ hw t => (view_fq cfg bx _ _ t (hw ▸ hok) (hw ▸ hr)).trans hw)
        (fun _ _ _ hw t ha => exc_of_fe cfg bx t (hw ▸ hr) (hw ▸ hb) (hw ▸ hg) (Or.inr ⟨hw ▸ hm, Or.inl ha⟩)))
      hnx)
    (fun _ h => ⟨h, trivial⟩) (fun _ _ h => h.1) (fun _ _ h => h.1 (Exn.base_flags h.2).1)

/-- leaves that ask one callback whose `AbortRetryError` aborts the run -/
theorem leaf_spec_ns (R : Req → Bool)
    (hR : ∀ r, R r = true → loopRx false r = true ∧ abortKind r = true)
    (hx : ∀ w0, ⦃fun w => ⌜FootQ R w0 w⌝⦄ x ⦃fqPost R w0⦄) (v : View)
    (hs : v.stop = none) (hok : v.stopOk = true) (hb : v.mon.bad = false) (hg : GrantInv cfg v.mon)
    (hm : v.mon.mustOp = false) :
    ⦃atView cfg v⦄ x ⦃excPost cfg fun _ w => view cfg w = v⦄ :=
  triple_of_rel hx (FootQ.refl _)
    (fun _ _ _ hw t => (view_fq cfg false _ _ (t.mono fun r h => (hR r h).1) (hw ▸ hok) (by simp)).trans hw)
    (fun _ _ _ hw t => exc_of_fe cfg false (t.mono fun r h => (hR r h).1) (by simp) (hw ▸ hb) (hw ▸ hg)
      (Or.inr ⟨hw ▸ hm, Or.inr ⟨Or.inl (hw ▸ hs), fun _ _ _ h => (hR _ (head_of_fe t h)).2⟩⟩))

def hookR : Req → Bool
  | .attemptStart _ | .attemptEnd _ => true
  | _ => false

theorem hookR_loopR (r : Req) (h : hookR r = true) : loopRx false r = true := by
  cases r <;> simp_all [hookR, loopR, loopRx]

theorem hookR_hook (r : Req) (h : hookR r = true) : isAttemptHook r = true := by
  cases r <;> simp_all [hookR, isAttemptHook]

/-- leaves that only call attempt hooks: a failure is outside the property's environment -/
theorem hook_spec
    (hx : ∀ w0, ⦃fun w => ⌜FootQ hookR w0 w⌝⦄ x ⦃fqPost hookR w0⦄) (v : View)
    (hok : v.stopOk = true) (hb : v.mon.bad = false) (hg : GrantInv cfg v.mon) :
    ⦃atView cfg v⦄ x ⦃excPost cfg fun _ w => view cfg w = v⦄ :=
  triple_of_rel hx (FootQ.refl _)
    (fun _ _ _ hw t => (view_fq cfg false _ _ (t.mono hookR_loopR) (hw ▸ hok) (by simp)).trans hw)
    (fun _ _ _ hw t => exc_of_fe cfg false (t.mono hookR_loopR) (by simp) (hw ▸ hb) (hw ▸ hg)
      (Or.inl fun _ _ _ h => hookR_hook _ (head_of_fe t h)))

theorem exc_of_raise  {w' : World} {tr : List (Req × Ans)} {r : Req} {e : Exn} {d : Nat}
    (ht : w'.trace = (r, Ans.raise e d) :: tr) (hnop : isOp r = false)
    (hb : (cur cfg w'.trace).bad = false) (hg : GrantInv cfg (cur cfg w'.trace))
    (hm : isAttemptHook r = true ∨
          ((cur cfg w'.trace).mustOp = false ∧
           (e.isAbort = true → (cur cfg w'.trace).sawAbort = true ∧
              (w'.rs.lastStop = none ∨ w'.rs.lastStop = some .aborted)))) : Exc cfg e w' := by
  intro hf
  have hrb : raisedBy nonOp w'.trace e = true := by
    rw [ht]; exact raisedBy_head _ _ _ _ _ (by simp [nonOp, hnop])
  have hm' : (cur cfg w'.trace).mustOp = false ∧
      (e.isAbort = true → (cur cfg w'.trace).sawAbort = true ∧
        (w'.rs.lastStop = none ∨ w'.rs.lastStop = some .aborted)) := by
    rcases hm with hm | hm
    · rw [ht] at hf
      simp [flt_cons, hookRaise, hm] at hf
    · exact hm
  exact ⟨⟨hb, hm'.1, fun f _ => Or.inl (raisedBy_any_of _ _ _ hrb), fun _ _ _ _ _ => Or.inl hrb,
    fun h => ⟨hg h, Or.inr (Or.inr fun f _ => Or.inl (raisedBy_any_of _ _ _ hrb))⟩⟩, hm'.2⟩

theorem askHook_any (r : Req) :
    ⦃fun _ => ⌜True⌝⦄ askHook r ⦃post⟨fun _ _ => ⌜True⌝, fun _ _ => ⌜True⌝⟩⦄ :=
  triple_of_run (fun _ _ => by split <;> trivial)

theorem emit_nonexc (ev : Event) (a s : Nat) (k : Option EClass) (e : Option Exn)
    (st : Option StopReason) (c : Option Cause) (cl : Option Classification) :
    ⦃fun _ => ⌜True⌝⦄ emit cfg tl ev a s k e st c cl
    ⦃post⟨fun _ _ => ⌜True⌝, fun e' _ => ⌜e'.isException = false⌝⟩⦄ := by
  have h := askHook_any
  mvcgen [emit, metricHook, askMetric, askLog, swallowException, recordTimeline, h]
  all_goals exact Bool.eq_false_iff.mpr ‹_›

theorem callBeforeSleep_nonexc (ctx : BackoffCtx) (s : Nat) :
    ⦃fun _ => ⌜True⌝⦄ callBeforeSleep cfg ctx s
    ⦃post⟨fun _ _ => ⌜True⌝, fun e' _ => ⌜e'.isException = false⌝⟩⦄ := by
  have h := askHook_any
  mvcgen [callBeforeSleep, swallowException, h]
  all_goals exact Bool.eq_false_iff.mpr ‹_›

abbrev leafPost (cfg : Cfg) (v : View) : PostCond α (.except Exn (.arg World .pure)) :=
  post⟨fun _ w => ⌜view cfg w = v⌝, fun e w => ⌜Exc cfg e w⌝⟩

def plainEv (bx : Bool) (ev : Event) : Bool :=
  ev != .retry && !isBreakerEv ev && (bx || ev != .budgetExhausted)

def recR : Req → Bool
  | .stratRecordFailure .. | .stratRecordSuccess _ => true
  | _ => false

theorem recR_ok (r : Req) (h : recR r = true) : loopRx false r = true ∧ abortKind r = true := by
  cases r <;> simp_all [recR, loopRx, loopR, abortKind]

section leaves
variable (cfg : Cfg) (tl : Bool) (v : View) (hok : v.stopOk = true) (hb : v.mon.bad = false)
  (hg : GrantInv cfg v.mon)
include hok hb hg

theorem emit_v (hm : v.mon.mustOp = false) (ev : Event) (hev : plainEv v.mon.refused ev = true) (a s : Nat)
    (k : Option EClass) (e : Option Exn) (st : Option StopReason) (c : Option Cause)
    (cl : Option Classification) :
    ⦃atView cfg v⦄ emit cfg tl ev a s k e st c cl ⦃leafPost cfg v⦄ :=
  leaf_spec cfg v.mon.refused (fun w0 => emit_fq (loopRx v.mon.refused) w0 cfg tl ev a s k e st c cl
    (fun _ => by cases ev <;> simp_all [loopRx, loopR, plainEv])
    (fun _ _ => by cases ev <;> simp_all [loopRx, loopR, plainEv]))
    (emit_nonexc cfg tl ev a s k e st c cl) v id hok hb hg hm

theorem callBeforeSleep_v (hm : v.mon.mustOp = false) (ctx : BackoffCtx) (s : Nat) :
    ⦃atView cfg v⦄ callBeforeSleep cfg ctx s ⦃leafPost cfg v⦄ :=
  leaf_spec cfg false (fun w0 => callBeforeSleep_fq (loopRx false) w0 cfg ctx s (fun _ => rfl))
    (callBeforeSleep_nonexc cfg ctx s) v (by simp) hok hb hg hm

theorem stratRecordFailure_v (hs : v.stop = none) (hm : v.mon.mustOp = false) (key : SKey) (k : EClass) :
    ⦃atView cfg v⦄ stratRecordFailure cfg key k ⦃leafPost cfg v⦄ :=
  leaf_spec_ns cfg recR recR_ok (fun w0 => stratRecordFailure_fq recR w0 cfg key k rfl) v hs hok hb hg hm

theorem recordStrategySuccess_v (hs : v.stop = none) (hm : v.mon.mustOp = false) :
    ⦃atView cfg v⦄ recordStrategySuccess cfg ⦃leafPost cfg v⦄ :=
  leaf_spec_ns cfg recR recR_ok (fun w0 => recordStrategySuccess_fq recR w0 cfg (fun _ => rfl)) v hs hok hb hg hm

theorem callAttemptStart_v (a : Nat) :
    ⦃atView cfg v⦄ callAttemptStart cfg a ⦃leafPost cfg v⦄ :=
  hook_spec cfg (fun w0 => callAttemptStart_fq hookR w0 cfg a (fun _ => rfl)) v hok hb hg

theorem callAttemptEnd_v (a : Nat) (cls : Option Classification) (exc : Option Exn) (result : Option Nat)
    (d : AttemptDecision) (stop : Option StopReason) (cause : Option Cause) (sleep : Option Nat) :
    ⦃atView cfg v⦄ callAttemptEnd cfg a cls exc result d stop cause sleep ⦃leafPost cfg v⦄ :=
  hook_spec cfg (fun w0 => callAttemptEnd_fq hookR w0 cfg a cls exc result d stop cause sleep (fun _ => rfl))
    v hok hb hg

theorem handleSuccessAttemptEnd_v (hs : v.stop = none) (hm : v.mon.mustOp = false) (a x : Nat) :
    ⦃atView cfg v⦄ handleSuccessAttemptEnd cfg tl a x ⦃leafPost cfg v⦄ := by
  have h1 := recordStrategySuccess_v cfg v hok hb hg hs hm
  have h2 := emit_v cfg tl v hok hb hg hm .success (by simp [plainEv, isBreakerEv]) a 0 none none none none none
  have h3 := callAttemptEnd_v cfg v hok hb hg a none none (some x) .success none none none
  mvcgen [handleSuccessAttemptEnd, h1, h2, h3]

theorem callAttemptEndFromOutcome_v (a : Nat) (o : AOutcome) :
    ⦃atView cfg v⦄ callAttemptEndFromOutcome cfg a o ⦃leafPost cfg v⦄ :=
  hook_spec cfg (fun w0 => callAttemptEndFromOutcome_fq hookR w0 cfg a o (fun _ => rfl)) v hok hb hg

theorem handleAbortAttemptEnd_v (a : Nat) (e : Exn) :
    ⦃atView cfg v⦄ handleAbortAttemptEnd cfg a e ⦃leafPost cfg v⦄ :=
  hook_spec cfg (fun w0 => handleAbortAttemptEnd_fq hookR w0 cfg a e (fun _ => rfl)) v hok hb hg

end leaves

theorem of_ghost {cfg : Cfg} {P : View → Prop}
    {Q : PostCond α (.except Exn (.arg World .pure))}
    (h : ∀ u, P u → ⦃atView cfg u⦄ x ⦃Q⦄) : ⦃inPhase cfg P⦄ x ⦃Q⦄ :=
  fun w hp => h _ hp w rfl

theorem leaf_inv {cfg : Cfg} (P : View → Prop)
    (h : ∀ v, P v → ⦃atView cfg v⦄ x ⦃leafPost cfg v⦄) :
    ⦃inPhase cfg P⦄ x ⦃excPost cfg fun _ w => P (view cfg w)⦄ :=
  fun w hp => triple_mono (h _ hp) (fun _ h => h) (fun _ _ h => h ▸ hp) (fun _ _ h => h) w rfl

@[simp] theorem view_mon (cfg : Cfg) (w : World) : (view cfg w).mon = cur cfg w.trace := rfl
@[simp] theorem view_flt (cfg : Cfg) (w : World) : (view cfg w).flt = flt w.trace := rfl

theorem exc_made  {w' : World} {e : Exn} (hne : ∀ f, e ≠ .libExhausted f)
    (hb : (cur cfg w'.trace).bad = false) (hm : flt w'.trace = false → (cur cfg w'.trace).mustOp = false)
    (hgr : GrantInv cfg (cur cfg w'.trace))
    (hg : e.isException = false ∨ e.isAbort = true ∨ e.isExhausted = true ∨
          (e = .libValueError ∧ (cur cfg w'.trace).sawOther = true))
    (hab : e.isAbort = true → (cur cfg w'.trace).sawAbort = true ∧
      (w'.rs.lastStop = none ∨ w'.rs.lastStop = some .aborted)) :
    Exc cfg e w' := by
  intro hf
  refine ⟨⟨hb, hm hf, fun f h => absurd h (hne f), fun _ _ h1 h2 h3 => ?_,
    fun h => ⟨hgr h, Or.inr (Or.inr fun f h => absurd h (hne f))⟩⟩, hab⟩
  rcases hg with h | h | h | h <;> simp_all

theorem exc_plain  {w' : World} {e : Exn} (hne : ∀ f, e ≠ .libExhausted f)
    (hg : e.isException = false ∨ e.isAbort = true ∨ e.isExhausted = true)
    (hb : (cur cfg w'.trace).bad = false) (hm : flt w'.trace = false → (cur cfg w'.trace).mustOp = false)
    (hgr : GrantInv cfg (cur cfg w'.trace))
    (hab : e.isAbort = true → (cur cfg w'.trace).sawAbort = true ∧
      (w'.rs.lastStop = none ∨ w'.rs.lastStop = some .aborted)) :
    Exc cfg e w' :=
  exc_made cfg hne hb hm hgr (by rcases hg with h | h | h <;> simp [h]) hab

/-- inside attempt `n`: the operation has been called, the run has not stopped, no backoff yet -/
def Core (cfg : Cfg) (n : Nat) (v : View) : Prop :=
  v.mon.ops = n ∧ 1 ≤ n ∧ n ≤ cfg.maxAttempts ∧ v.mon.bad = false ∧ v.flt = false ∧ v.sync = true ∧
  v.stop = none ∧ v.stopOk = true ∧ v.mon.mustOp = false ∧ v.mon.decision = none ∧ v.mon.slept = false

def NoStrat (v : View) : Prop :=
  v.mon.strat = false ∧ v.mon.granted = false ∧ v.mon.retryEv = false ∧ v.mon.pollFalse = false ∧
  v.mon.refused = false

def CntOK (v : View) : Prop :=
  (∀ k, v.counts k = v.mon.classCount k) ∧ v.unknown = v.mon.classCount .unknown

/-- the top of the loop after `n` attempts -/
def Rel (cfg : Cfg) (n : Nat) (v : View) : Prop :=
  v.mon.ops = n ∧ v.mon.bad = false ∧ v.mon.done = false ∧ v.flt = false ∧ v.sync = true ∧ v.stop = none ∧
  v.stopOk = true ∧ CntOK v ∧ (1 ≤ n → v.mon.slept = true) ∧ (n = 0 → v.noExc = true ∧ v.mon.mustOp = false ∧ v.mon.granted = false) ∧
  (n = 0 ∨ n < cfg.maxAttempts) ∧ GrantInv cfg v.mon

/-- the failure of attempt `n` has been classified as `k`; the runner has not counted it yet -/
def ClsA (k : EClass) (v : View) : Prop :=
  v.mon.classified = true ∧ v.mon.lastClass = some k ∧
  (∀ k', v.mon.classCount k' = if k' = k then v.counts k' + 1 else v.counts k') ∧
  v.unknown + (if EClass.unknown = k then 1 else 0) = v.mon.classCount .unknown

/-- … the runner has counted it in `per_class_counts` -/
def ClsB (k : EClass) (v : View) : Prop :=
  v.mon.classified = true ∧ v.mon.lastClass = some k ∧ (∀ k', v.counts k' = v.mon.classCount k') ∧
  v.unknown + (if EClass.unknown = k then 1 else 0) = v.mon.classCount .unknown

/-- … and in `unknown_attempts` -/
def ClsC (k : EClass) (v : View) : Prop :=
  v.mon.classified = true ∧ v.mon.lastClass = some k ∧ CntOK v

/-- the attempt has failed with class `k`, and nothing has been done about it yet -/
def Failed (cfg : Cfg) (n : Nat) (k : EClass) (v : View) : Prop :=
  Core cfg n v ∧ NoStrat v ∧ ClsA k v ∧ v.mon.done = false

/-- the operation has failed in attempt `n`; the failure has not been classified -/
def Fresh (cfg : Cfg) (n : Nat) (v : View) : Prop :=
  Core cfg n v ∧ NoStrat v ∧ CntOK v ∧ v.mon.classified = false ∧ v.mon.done = false

/-- the operation has returned in attempt `n`; a result classifier, if any, has not been asked -/
def Begun (cfg : Cfg) (n : Nat) (v : View) : Prop :=
  Core cfg n v ∧ NoStrat v ∧ CntOK v ∧ v.mon.classified = false ∧ v.mon.done = !cfg.resultClassifier

/-- the strategy has computed a delay; the budget has not been consulted -/
def Strat (cfg : Cfg) (n : Nat) (v : View) : Prop :=
  Core cfg n v ∧ v.mon.strat = true ∧ v.mon.granted = false ∧ v.mon.retryEv = false ∧
  v.mon.pollFalse = false ∧ v.mon.refused = false ∧ n < cfg.maxAttempts ∧ v.mon.done = false

def Gr (cfg : Cfg) (n : Nat) (v : View) : Prop :=
  Core cfg n v ∧ v.mon.strat = true ∧ v.mon.granted = cfg.budget.isSome ∧ v.mon.pollFalse = false ∧
  v.mon.refused = false ∧ n < cfg.maxAttempts ∧ v.mon.done = false

def Refd (cfg : Cfg) (n : Nat) (v : View) : Prop :=
  Core cfg n v ∧ v.mon.strat = true ∧ v.mon.granted = false ∧ v.mon.refused = true ∧ v.mon.done = false

/-- reasons with which a failed attempt stops the run -/
def isFailure : StopReason → Bool
  | .aborted | .scheduled => false
  | _ => true

/-- the failure handler has decided to stop with reason `r` -/
def Stopped (cfg : Cfg) (n : Nat) (r : StopReason) (v : View) : Prop :=
  v.mon.ops = n ∧ 1 ≤ n ∧ v.mon.bad = false ∧ v.flt = false ∧ v.mon.mustOp = false ∧ v.mon.done = false ∧
  v.stop = some r ∧ v.stopOk = true ∧ v.mon.classified = true ∧ GrantInv cfg v.mon ∧
  (v.mon.granted = true → v.mon.slept = true ∨ v.mon.decision.isSome = true)

@[simp] theorem dur_unit (d : Nat) : (Ans.unit d).dur = d := rfl
@[simp] theorem dur_bool (b : Bool) (d : Nat) : (Ans.bool b d).dur = d := rfl
@[simp] theorem dur_value (v d : Nat) : (Ans.value v d).dur = d := rfl
@[simp] theorem dur_klass (c : Classification) (d : Nat) : (Ans.klass c d).dur = d := rfl
@[simp] theorem dur_noFailure (d : Nat) : (Ans.noFailure d).dur = d := rfl
@[simp] theorem dur_delay (s : SOut) (d : Nat) : (Ans.delay s d).dur = d := rfl
@[simp] theorem dur_decision (x : SleepDecision) (d : Nat) : (Ans.decision x d).dur = d := rfl
@[simp] theorem dur_raise (e : Exn) (d : Nat) : (Ans.raise e d).dur = d := rfl
@[simp] theorem dur_granted (b : Bool) : (Ans.granted b).dur = 0 := rfl
@[simp] theorem stuck_isException : Exn.stuck.isException = false := rfl
@[simp] theorem stuck_isAbort : Exn.stuck.isAbort = false := rfl
@[simp] theorem stuck_isExhausted : Exn.stuck.isExhausted = false := rfl
@[simp] theorem libAbort_isAbort : Exn.libAbort.isAbort = true := rfl
@[simp] theorem libAbort_isException : Exn.libAbort.isException = true := rfl
@[simp] theorem libValueError_isException : Exn.libValueError.isException = true := rfl
@[simp] theorem libValueError_isAbort : Exn.libValueError.isAbort = false := rfl
@[simp] theorem libValueError_isExhausted : Exn.libValueError.isExhausted = false := rfl
@[simp] theorem libExhausted_isExhausted (f : ExhaustedFields) : (Exn.libExhausted f).isExhausted = true := rfl
@[simp] theorem libExhausted_isAbort (f : ExhaustedFields) : (Exn.libExhausted f).isAbort = false := rfl

def Succ (n : Nat) (v : View) : Prop :=
  v.mon.ops = n ∧ 1 ≤ n ∧ v.mon.bad = false ∧ v.flt = false ∧ v.mon.mustOp = false ∧ v.mon.done = true ∧
  v.stop = none ∧ v.stopOk = true ∧ v.mon.granted = false

/-- the retry has been granted and reported, the abort predicate polled: ready to back off -/
def Ready (cfg : Cfg) (n : Nat) (v : View) : Prop :=
  v.mon.ops = n ∧ 1 ≤ n ∧ n < cfg.maxAttempts ∧ v.mon.bad = false ∧ v.flt = false ∧ v.sync = true ∧
  v.stop = none ∧ v.stopOk = true ∧ v.mon.mustOp = false ∧ v.mon.slept = false ∧ v.mon.done = false ∧
  v.mon.strat = true ∧ v.mon.granted = cfg.budget.isSome ∧ v.mon.refused = false ∧
  v.mon.retryEv = cfg.metric ∧ v.mon.pollFalse = cfg.abortIf ∧ v.mon.classified = true ∧ CntOK v

def Slept (cfg : Cfg) (n : Nat) (v : View) : Prop :=
  v.mon.ops = n ∧ 1 ≤ n ∧ n < cfg.maxAttempts ∧ v.mon.bad = false ∧ v.flt = false ∧ v.sync = true ∧
  v.stop = none ∧ v.stopOk = true ∧ v.mon.slept = true ∧ v.mon.done = false ∧
  v.mon.granted = cfg.budget.isSome ∧ v.mon.retryEv = cfg.metric ∧ v.mon.classified = true ∧ CntOK v

/-- the failure handler is about to stop the run -/
def PreStop (n : Nat) (v : View) : Prop :=
  v.mon.ops = n ∧ 1 ≤ n ∧ v.mon.bad = false ∧ v.flt = false ∧ v.mon.mustOp = false ∧ v.mon.done = false ∧
  v.stop = none ∧ v.sync = true ∧ v.mon.classified = true ∧ v.mon.granted = false

/-- the class of the failure permits a retry (what `_handle_failure` has checked before it selects a strategy) -/
def Permit (cfg : Cfg) (k : EClass) (v : View) : Prop :=
  k.nonRetryable = false ∧ overClass cfg v.mon k = false ∧ (k = .unknown → C03.overUnknown cfg v.mon = false)

@[simp] theorem view_prevSleep (cfg : Cfg) (s : World) (x : Option Nat) :
    view cfg { s with rs := { s.rs with prevSleep := x } } = view cfg s := rfl
@[simp] theorem view_lastStrategy (cfg : Cfg) (s : World) (x : Option SKey) :
    view cfg { s with rs := { s.rs with lastStrategy := x } } = view cfg s := rfl
@[simp] theorem view_as (cfg : Cfg) (s : World) (x : AState) : view cfg { s with as := x } = view cfg s := rfl
@[simp] theorem view_attempts (cfg : Cfg) (s : World) (x : Nat) :
    view cfg { s with attempts := x } = view cfg s := rfl
@[simp] theorem view_opCalls (cfg : Cfg) (s : World) (x : Nat) :
    view cfg { s with opCalls := x } = view cfg s := rfl

/-- what the failure handler leaves behind -/
def Decided (cfg : Cfg) (n : Nat) (d : Decision) (v : View) : Prop :=
  match d with
  | .raise => match v.stop with
    | some r => Stopped cfg n r v ∧ isFailure r = true
    | none => False
  | .retry _ _ => Gr cfg n v ∧ CntOK v ∧ v.mon.retryEv = cfg.metric ∧ v.mon.classified = true

theorem bump_self (f : EClass → Nat) (k : EClass) : bumpCount f k k = f k + 1 := by simp [bumpCount]

def pollV (cfg : Cfg) (u : View) : View :=
  if cfg.abortIf then { u with mon := { u.mon with pollFalse := u.mon.pollFalse || u.mon.strat } } else u

theorem grantInv_of {cfg : Cfg} (h : m.granted = false) : GrantInv cfg m :=
  fun hg => by simp [h] at hg

def opExnStep (x : Req × Ans) (o : Option Exn) : Option Exn :=
  if isOp x.1 then (match x.2 with
    | .raise e _ => some e
    | _ => none) else o

def push (cfg : Cfg) (v : View) (x : Req × Ans) (el : Nat) : View :=
  { v with mon := step cfg v.mon x el, flt := hookRaise x || v.flt,
           stopOk := stopOkOf cfg (step cfg v.mon x el) el v.stop, opExn := opExnStep x v.opExn }

theorem view_after (w : World) (x : Req × Ans) (rest : List Ans) (hp : isPrelude x.1 = false) :
    view cfg { w with answers := rest, now := w.now + x.2.dur, trace := x :: w.trace } =
      push cfg (view cfg w) x ((clk w.trace).el + x.2.dur) := by
  obtain ⟨r, a⟩ := x
  have ho : lastOpExn ((r, a) :: w.trace) = opExnStep (r, a) (lastOpExn w.trace) := by
    cases r <;> first | rfl | (cases a <;> rfl)
  simp only [view, push, cur_cons, clk_cons, tick_el _ _ hp, flt_cons, ho, View.mk.injEq, true_and, and_true]
  simp only [decide_eq_decide]
  omega

theorem classStop_sawAbort {cfg : Cfg} {s : St} (b : Bool) :
    classStop cfg { s with sawAbort := b } = classStop cfg s := rfl

theorem hookRaise_eq_false (r : Req) (a : Ans) (h : isAttemptHook r = false) : hookRaise (r, a) = false := by
  cases a <;> simp [hookRaise, h]

theorem classStop_of_permit {cfg : Cfg} (hl : m.lastClass = some kc)
    (hp : kc.nonRetryable = false ∧ overClass cfg m kc = false ∧ (kc = .unknown → C03.overUnknown cfg m = false))
    (hsel : (cfg.selectStrategy kc).isSome = true) : classStop cfg m = false := by
  simp only [classStop, hl, hp.1, hp.2.1, Option.isNone_eq_false_iff.mpr hsel, Bool.false_or, Bool.or_false,
    Bool.and_eq_false_iff, beq_eq_false_iff_ne, ne_eq]
  exact (Classical.em (kc = .unknown)).elim (fun h => Or.inr (hp.2.2 h)) Or.inl

/-- the strategy is asked: permitted, because the class of the failure permits a retry and the clock just read
    is before the deadline -/
theorem strat_push (kc : EClass) (v : View) (key : SKey) (kind : SKind) (ctx : BackoffCtx)
    (a : Ans) (el : Nat) (hc : Core cfg n v) (hn : NoStrat v)
    (hk : ClsC kc v) (hd : v.mon.done = false) (hp : Permit cfg kc v)
    (hlt : n < cfg.maxAttempts) (hsel : (cfg.selectStrategy kc).isSome = true)
    (hel : el - a.dur < cfg.deadline) :
    Strat cfg n (push cfg v (.strategy key kind ctx, a) el) ∧ ClsC kc (push cfg v (.strategy key kind ctx, a) el) := by
  have hcs := classStop_of_permit hk.2.1 hp hsel
  simp only [Core, NoStrat, ClsC, CntOK] at hc hn hk
  simp only [Strat, Core, ClsC, CntOK, push, step, classStop_sawAbort]
  simp [stopOkOf, hookRaise_eq_false (.strategy key kind ctx) a rfl, *]

theorem sawAbort_push (v : View) (r : Req) (e : Exn) (d el : Nat) (hk : abortKind r = true)
    (ha : e.isAbort = true) : (push cfg v (r, .raise e d) el).mon.sawAbort = true := by
  cases r <;> simp [abortKind] at hk <;> simp [push, step, abortRaise, abortKind, ha]

/-- what an exception raised from this state needs, whatever it is -/
def Quiet (cfg : Cfg) (v : View) : Prop :=
  v.mon.bad = false ∧ v.mon.mustOp = false ∧ GrantInv cfg v.mon ∧ (v.stop = none ∨ v.stop = some .aborted)

theorem exc_raised  {w' : World} {r : Req} {e : Exn} {d : Nat} {t : List (Req × Ans)}
    (ht : w'.trace = (r, .raise e d) :: t) (hnop : isOp r = false) (hq : Quiet cfg (view cfg w'))
    (hsa : e.isAbort = true → (view cfg w').mon.sawAbort = true) : Exc cfg e w' :=
  exc_of_raise cfg ht hnop hq.1 hq.2.2.1 (Or.inr ⟨hq.2.1, fun h => ⟨hsa h, hq.2.2.2⟩⟩)

theorem exc_stuck  {w' : World} (hq : Quiet cfg (view cfg w')) : Exc cfg .stuck w' :=
  exc_plain cfg (by simp) (by simp) hq.1 (fun _ => hq.2.1) hq.2.2.1 (by simp)

theorem quiet_of_core {cfg : Cfg} {n : Nat} (hc : Core cfg n v) (hg : v.mon.granted = false) :
    Quiet cfg v :=
  ⟨hc.2.2.2.1, hc.2.2.2.2.2.2.2.2.1, grantInv_of hg, Or.inl hc.2.2.2.2.2.2.1⟩

theorem sawAbort_after (w : World) (r : Req) (e : Exn) (d : Nat) (rest : List Ans)
    (hp : isPrelude r = false) (hk : abortKind r = true) (ha : e.isAbort = true) :
    (view cfg { w with answers := rest, now := w.now + (Ans.raise e d).dur,
                       trace := (r, .raise e d) :: w.trace }).mon.sawAbort = true := by
  rw [view_after cfg w (r, .raise e d) rest hp]
  exact sawAbort_push cfg _ r e d _ hk ha

/-- a classifier is asked in attempt `n`, before any strategy: the first classification of the attempt is counted -/
theorem classify_push {cfg : Cfg} {n : Nat} (hc : Core cfg n v) (hn : NoStrat v) (hk : CntOK v)
    (hcl : v.mon.classified = false) (hd : v.mon.done = false) (r : Req)
    (hr : (∃ s, r = .classify s) ∨ (∃ x, r = .resultClassify x)) (a : Ans) (el : Nat) :
    Quiet cfg (push cfg v (r, a) el) ∧
    (∀ c dd, a = .klass c dd → Core cfg n (push cfg v (r, a) el) ∧ NoStrat (push cfg v (r, a) el) ∧
      ClsA c.klass (push cfg v (r, a) el) ∧ (push cfg v (r, a) el).mon.done = false) := by
  simp only [Core, NoStrat, CntOK] at hc hn hk
  rcases hr with ⟨s, rfl⟩ | ⟨x, rfl⟩ <;> cases a <;>
    simp [Quiet, GrantInv, Core, NoStrat, ClsA, push, step, classify, stopOkOf, hookRaise, isAttemptHook, *]
  all_goals (split <;> rfl)

theorem noFailure_push {cfg : Cfg} {n : Nat} (hc : Core cfg n v) (hn : NoStrat v) (x d el : Nat) :
    Succ n (push cfg v (.resultClassify x, .noFailure d) el) := by
  simp only [Core, NoStrat] at hc hn
  simp [Succ, push, step, stopOkOf, hookRaise, *]

theorem ask_ghost (r : Req) (hr : isPrelude r = false) :
    ⦃atView cfg u⦄ ask r
    ⦃post⟨fun a w => ⌜(∀ e d, a ≠ .raise e d) ∧ ∃ el, view cfg w = push cfg u (r, a) el ∧
            (u.sync = true → el = w.now - w.rs.start)⌝,
          fun e w => ⌜∃ d el, view cfg w = push cfg u (r, .raise e d) el ∧ ∃ t, w.trace = (r, .raise e d) :: t⌝⟩⦄ := by
  have key : ∀ (s : World) (a : Ans), view cfg s = u → ∃ el, view cfg (exchanged s (r, a)) = push cfg u (r, a) el ∧
      (u.sync = true → el = (exchanged s (r, a)).now - (exchanged s (r, a)).rs.start) := by
    rintro s a rfl
    refine ⟨_, view_after cfg s (r, a) _ hr, fun hs => ?_⟩
    have : s.now = s.rs.start + (clk s.trace).el := by simpa [view] using hs
    simp only [exchanged]
    omega
  exact ask_triple r (fun s a h ha => ⟨ha, key s a h⟩)
    (fun s e d h => ⟨d, (key s _ h).imp fun el h => ⟨h.1, _, rfl⟩⟩)

theorem exc_pushed {w : World} {r : Req} {e : Exn} {d el : Nat} {t : List (Req × Ans)}
    (hv : view cfg w = push cfg u (r, .raise e d) el) (ht : w.trace = (r, .raise e d) :: t) (hnop : isOp r = false)
    (hk : abortKind r = true) (hq : Quiet cfg (push cfg u (r, .raise e d) el)) : Exc cfg e w :=
  exc_raised cfg ht hnop (hv ▸ hq) fun ha => hv ▸ sawAbort_push cfg u r e d el hk ha

theorem callClassifier_spec (e : Exn) :
    ⦃inPhase cfg (Fresh cfg n)⦄ callClassifier e
    ⦃excPost cfg fun c w => Failed cfg n c.klass (view cfg w)⦄ :=
  of_ghost fun u ⟨hc, hn, hk, hcl, hd⟩ => by
    have h := ask_ghost cfg u (.classify e.ref) rfl
    have hp := classify_push hc hn hk hcl hd _ (Or.inl ⟨e.ref, rfl⟩)
    mvcgen [callClassifier, h]
    case vc2 => obtain ⟨_, el, hv, _⟩ := ‹_ ∧ _›; rw [hv]; exact (hp _ el).2 _ _ rfl
    case vc3 => obtain ⟨_, el, hv, _⟩ := ‹_ ∧ _›; exact exc_stuck cfg (hv ▸ (hp _ el).1)
    case vc4 => rintro ⟨d, el, hv, t, ht⟩; exact exc_pushed cfg u hv ht rfl rfl (hp _ el).1

theorem shouldClassifyResult_spec (x : Nat) :
    ⦃inPhase cfg (Begun cfg n)⦄ shouldClassifyResult cfg x
    ⦃excPost cfg fun r w => match r with
      | none => Succ n (view cfg w)
      | some c => Failed cfg n c.klass (view cfg w)⦄ :=
  of_ghost fun u ⟨hc, hn, hk, hcl, hd⟩ => by
    have h := ask_ghost cfg u (.resultClassify x) rfl
    have hp := fun hrc : cfg.resultClassifier = true =>
      classify_push hc hn hk hcl (by rw [hd, hrc]; rfl) _ (Or.inr ⟨x, rfl⟩)
    mvcgen [shouldClassifyResult, h]
    case vc2 => obtain ⟨_, el, hv, _⟩ := ‹_ ∧ _›; rw [hv]; exact noFailure_push hc hn x _ el
    case vc3 => obtain ⟨_, el, hv, _⟩ := ‹_ ∧ _›; rw [hv]; exact (hp ‹_› _ el).2 _ _ rfl
    case vc4 => obtain ⟨_, el, hv, _⟩ := ‹_ ∧ _›; exact exc_stuck cfg (hv ▸ (hp ‹_› _ el).1)
    case vc5 => rintro ⟨d, el, hv, t, ht⟩; exact exc_pushed cfg u hv ht rfl rfl (hp ‹_› _ el).1
    -- no result classifier: the value is a success
    case vc6 =>
      subst_vars
      exact ⟨hc.1, hc.2.1, hc.2.2.2.1, hc.2.2.2.2.1, hc.2.2.2.2.2.2.2.2.1,
        by rw [hd, (Bool.eq_false_iff.mpr ‹_› : cfg.resultClassifier = false)]; rfl,
        hc.2.2.2.2.2.2.1, hc.2.2.2.2.2.2.2.1, hn.2.1⟩

theorem stopOk_of_none (w : World) (h : (view cfg w).stop = none) : (view cfg w).stopOk = true := by
  have h' : w.rs.lastStop = none := h
  simp [view, stopOkOf, h']

theorem exc_of_hook  {w' : World} {r : Req} {e e' : Exn} {d : Nat} {t : List (Req × Ans)}
    (ht : w'.trace = (r, .raise e' d) :: t) (hh : isAttemptHook r = true) : Exc cfg e w' := by
  intro hf
  rw [ht, flt_cons] at hf
  simp [hookRaise, hh] at hf

theorem poll_push {cfg : Cfg} (hs : v.stop = none) (hok : v.stopOk = true) (hb : v.mon.bad = false)
    (hg : GrantInv cfg v.mon) (ha : cfg.abortIf = true) (a : Ans) (el : Nat) :
    (∀ d, a = .bool false d → push cfg v (.abortIf, a) el = pollV cfg v) ∧
    ((∀ d, a ≠ .bool false d) → Quiet cfg (push cfg v (.abortIf, a) el)) ∧
    (∀ d, a = .bool true d → (push cfg v (.abortIf, a) el).mon.sawAbort = true ∧
      (push cfg v (.abortIf, a) el).flt = v.flt) := by
  obtain ⟨m, _, _, _, _, _, _, _, _⟩ := v
  cases a <;>
    simp_all [push, pollV, Quiet, GrantInv, step, stopOkOf, hookRaise, isAttemptHook, opExnStep, isOp, abortRaise]

/-- the run has been aborted (a poll answered True, or a callback raised `AbortRetryError`) -/
def Ab (cfg : Cfg) (v : View) : Prop :=
  v.mon.bad = false ∧ v.flt = false ∧ v.mon.mustOp = false ∧ v.stop = some .aborted ∧ v.stopOk = true ∧
  v.mon.sawAbort = true ∧ GrantInv cfg v.mon

theorem triple_and_exc {P : World → Prop} {Q : α → World → Prop}
    {E1 E2 : Exn → World → Prop}
    (h1 : ⦃fun w => ⌜P w⌝⦄ x ⦃post⟨fun a w => ⌜Q a w⌝, fun e w => ⌜E1 e w⌝⟩⦄)
    (h2 : ⦃fun _ => ⌜True⌝⦄ x ⦃post⟨fun _ _ => ⌜True⌝, fun e w => ⌜E2 e w⌝⟩⦄) :
    ⦃fun w => ⌜P w⌝⦄ x ⦃post⟨fun a w => ⌜Q a w⌝, fun e w => ⌜E1 e w ∧ E2 e w⌝⟩⦄ :=
  triple_mono (triple_and h1 h2) (fun _ h => ⟨h, trivial⟩) (fun _ _ h => h.1) (fun _ _ h => h)

/-- how `check_abort` can fail, seen from `execute()`'s handlers -/
def XAb (cfg : Cfg) (e : Exn) (w : World) : Prop :=
  flt w.trace = true ∨ (e.isAbort = false ∧ e.isException = false ∧ Exc cfg e w) ∨
  (e = .libAbort ∧ Ab cfg (view cfg w))

theorem flt_hook {w' : World} {r : Req} {e : Exn} {d : Nat} {t : List (Req × Ans)}
    (ht : w'.trace = (r, .raise e d) :: t) (hh : isAttemptHook r = true) : flt w'.trace = true := by
  rw [ht, flt_cons]; simp [hookRaise, hh]

/-- the abort predicate can be polled -/
def Live (cfg : Cfg) (v : View) : Prop :=
  v.stop = none ∧ v.mon.bad = false ∧ GrantInv cfg v.mon

/-- `check_abort`: a poll that answers False changes nothing but `pollFalse`; True ends the run.  The second
    half of the exceptional post is what `execute()`'s handlers need. -/
theorem checkAbort_full (hl : Live cfg u) (a : Nat) :
    ⦃atView cfg u⦄ checkAbort cfg tl a
    ⦃post⟨fun _ w => ⌜view cfg w = pollV cfg u⌝,
          fun e w => ⌜Exc cfg e w ∧ (u.flt = false → XAb cfg e w)⌝⟩⦄ := by
  obtain ⟨hs, hb, hg⟩ := hl
  have he := fun v hok hb hg hm => triple_and_exc
    (emit_v cfg tl v hok hb hg hm .aborted (by simp [plainEv, isBreakerEv]) a 0 none none (some .aborted) none none)
    (emit_nonexc cfg tl .aborted a 0 none none (some .aborted) none none)
  have key := fun (ha : cfg.abortIf = true) (w : World) (h : view cfg w = u) (x : Ans) (rest : List Ans) =>
    (view_after cfg w (.abortIf, x) rest rfl).symm ▸
      poll_push (h ▸ hs) (stopOk_of_none cfg w (h ▸ hs)) (h ▸ hb) (h ▸ hg) ha x ((clk w.trace).el + x.dur)
  have gi : ∀ {m m' : St}, m = m' → GrantInv cfg m' → GrantInv cfg m := fun h g => h ▸ g
  mvcgen [checkAbort, ask_exchanged, setStop, modifyRS, he]
  all_goals subst_vars
  all_goals try obtain ⟨_, rfl⟩ := ‹_ ∧ _ = exchanged _ _›
  case vc1 => exact (key ‹_› _ rfl _ _).1 _ rfl
  -- it answered True
  case vc2 => exact ((key ‹_› _ rfl (.bool true _) []).2.2 _ rfl).1
  case vc3 => exact ((key ‹_› _ rfl (.bool true _) []).2.1 nofun).1
  case vc4 => exact ((key ‹_› _ rfl (.bool true _) []).2.1 nofun).2.2.1
  case vc5 => exact ((key ‹_› _ rfl (.bool true _) []).2.1 nofun).2.1
  case vc6 =>
    have hv := ‹view cfg _ = view cfg _›
    exact (fun hq ht =>
      have hb' := (congrArg (fun v : View => v.mon.bad) hv).trans hq.1
      have hm' := (congrArg (fun v : View => v.mon.mustOp) hv).trans hq.2.1
      have hg' := gi (congrArg View.mon hv) hq.2.2.1
      have hsa := (congrArg (fun v : View => v.mon.sawAbort) hv).trans ht.1
      ⟨exc_made cfg nofun hb' (fun _ => hm') hg' (Or.inr (Or.inl rfl))
          (fun _ => ⟨hsa, Or.inr (congrArg View.stop hv)⟩),
        fun hf => Or.inr (Or.inr ⟨rfl, hb', ((congrArg View.flt hv).trans ht.2).trans hf, hm',
          congrArg View.stop hv, (congrArg View.stopOk hv).trans ht.1, hsa, hg'⟩)⟩)
      ((key ‹_› _ rfl (.bool true _) []).2.1 nofun) ((key ‹_› _ rfl (.bool true _) []).2.2 _ rfl)
  case vc7 => exact fun hE hne => ⟨hE, fun _ => Or.inr (Or.inl ⟨(Exn.base_flags hne).1, hne, hE⟩)⟩
  case vc8 =>
    exact ⟨exc_stuck cfg ((key ‹_› _ rfl _ _).2.1 ‹_›),
      fun _ => Or.inr (Or.inl ⟨rfl, rfl, exc_stuck cfg ((key ‹_› _ rfl _ _).2.1 ‹_›)⟩)⟩
  -- the abort predicate itself raised: outside the property's environment
  case vc9 =>
    rintro ⟨d, rfl⟩
    exact ⟨exc_of_hook cfg rfl rfl, fun _ => Or.inl (flt_hook rfl rfl)⟩
  case vc10 => exact (if_neg ‹_›).symm

theorem checkAbort_spec (hl : Live cfg u) (a : Nat) :
    ⦃atView cfg u⦄ checkAbort cfg tl a
    ⦃excPost cfg fun _ w => view cfg w = pollV cfg u⦄ :=
  triple_mono (checkAbort_full cfg tl u hl a) (fun _ h => h) (fun _ _ h => h) (fun _ _ h => h.1)

theorem checkAbort_x (hl : Live cfg u ∧ u.flt = false) (a : Nat) :
    ⦃atView cfg u⦄ checkAbort cfg tl a
    ⦃post⟨fun _ w => ⌜view cfg w = pollV cfg u⌝, fun e w => ⌜XAb cfg e w⌝⟩⦄ :=
  triple_mono (checkAbort_full cfg tl u hl.1 a) (fun _ h => h) (fun _ _ h => h) (fun _ _ h => h.2 hl.2)

def OpFail (cfg : Cfg) (n : Nat) (e : Exn) (v : View) : Prop :=
  Core cfg n v ∧ NoStrat v ∧ CntOK v ∧ v.mon.classified = false ∧ v.mon.done = false ∧
  (e.isAbort = true → v.mon.sawAbort = true)

theorem op_push {cfg : Cfg} {n : Nat} (hr : Rel cfg n v) (hlt : n < cfg.maxAttempts) (k : Nat) (a : Ans)
    (el : Nat) :
    Core cfg (n + 1) (push cfg v (.op k, a) el) ∧ NoStrat (push cfg v (.op k, a) el) ∧
    CntOK (push cfg v (.op k, a) el) ∧ (push cfg v (.op k, a) el).mon.classified = false ∧
    (push cfg v (.op k, a) el).mon.done = (match a with | .value .. => !cfg.resultClassifier | _ => false) ∧
    (∀ e d, a = .raise e d → (push cfg v (.op k, a) el).opExn = some e ∧
      (e.isAbort = true → (push cfg v (.op k, a) el).mon.sawAbort = true)) := by
  simp only [Rel, CntOK] at hr
  cases a <;>
    simp [Core, NoStrat, CntOK, push, step, stopOkOf, hookRaise, isAttemptHook, opExnStep, isOp, abortRaise,
      abortKind, *]
  case raise => exact ⟨⟨hlt, hr.2.2.2.2.2.2.2.2.1⟩, fun h => Or.inr h⟩
  all_goals exact ⟨hlt, hr.2.2.2.2.2.2.2.2.1⟩

theorem invokeOp_spec (hn : n < cfg.maxAttempts) (a : Nat) :
    ⦃inPhase cfg (Rel cfg n)⦄ invokeOp a
    ⦃post⟨fun _ w => ⌜Begun cfg (n + 1) (view cfg w)⌝,
          fun e w => ⌜OpFail cfg (n + 1) e (view cfg w) ∧
                      (e.isException = true → raisedBy isOp w.trace e = true)⌝⟩⦄ :=
  of_ghost fun u hr => by
    have h := fun k => ask_ghost cfg u (.op k) rfl
    have hp := fun k => op_push hr hn k
    mvcgen [invokeOp, h]
    case vc2 =>
      obtain ⟨_, el, hv, _⟩ := ‹_ ∧ _›
      rw [hv]
      exact (fun hk => ⟨hk.1, hk.2.1, hk.2.2.1, hk.2.2.2.1, hk.2.2.2.2.1⟩) (hp _ _ el)
    case vc3 =>
      obtain ⟨_, el, hv, _⟩ := ‹_ ∧ _›
      rw [hv]
      refine (fun hk => ⟨⟨hk.1, hk.2.1, hk.2.2.1, hk.2.2.2.1, hk.2.2.2.2.1.trans ?_, nofun⟩, nofun⟩) (hp _ _ el)
      split
      · exact (‹∀ v dur : Nat, Ans.value _ _ = Ans.value v dur → False› _ _ rfl).elim
      · rfl
    case vc4 =>
      rintro ⟨d, el, hv, t, ht⟩
      rw [hv, ht]
      exact (fun hk => ⟨⟨hk.1, hk.2.1, hk.2.2.1, hk.2.2.2.1, hk.2.2.2.2.1, (hk.2.2.2.2.2 _ _ rfl).2⟩,
        fun _ => raisedBy_head isOp _ _ _ _ rfl⟩) (hp _ _ el)

theorem budget_push {cfg : Cfg} {n : Nat} {k : EClass} (hc : Strat cfg n v) (hk : ClsC k v)
    (hb : cfg.budget.isSome = true) (g : Bool) (el : Nat) :
    ClsC k (push cfg v (.budgetConsume, .granted g) el) ∧
    (push cfg v (.budgetConsume, .granted g) el).mon.retryEv = false ∧
    (g = true → Gr cfg n (push cfg v (.budgetConsume, .granted g) el)) ∧
    (g = false → Refd cfg n (push cfg v (.budgetConsume, .granted g) el)) := by
  simp only [Strat, Core, ClsC, CntOK] at hc hk
  cases g <;> simp [Gr, Refd, Core, ClsC, CntOK, push, step, stopOkOf, hookRaise, *] <;> omega

theorem budgetConsume_spec (k : EClass) (hc : Strat cfg n u) (hk : ClsC k u) :
    ⦃atView cfg u⦄ budgetConsume cfg
    ⦃excPost cfg fun g w => ClsC k (view cfg w) ∧ (view cfg w).mon.retryEv = false ∧ (g = true → Gr cfg n (view cfg w)) ∧ (g = false → Refd cfg n (view cfg w))⦄ := by
  mvcgen [budgetConsume]
  all_goals subst_vars
  case vc1 =>
    exact ⟨hk, hc.2.2.2.1, ⟨hc.1, hc.2.1, by rw [‹cfg.budget = none›]; exact hc.2.2.1, hc.2.2.2.2.1, hc.2.2.2.2.2.1,
      hc.2.2.2.2.2.2.1, hc.2.2.2.2.2.2.2⟩, nofun⟩
  case vc2 =>
    rename_i _ hbc s
    exact (view_after cfg { s with budget := _ } (.budgetConsume, .granted _) s.answers rfl).symm ▸
      budget_push hc hk (by rw [hbc]; rfl) _ _

theorem ask_push (r : Req) (hr : isPrelude r = false) (hnop : isOp r = false) (P P' : View → Prop)
    (hP : ∀ v a el, P v → P' (push cfg v (r, a) el)) (hQ : ∀ v, P' v → Quiet cfg v) :
    ⦃fun w => ⌜P (view cfg w)⌝⦄ ask r
    ⦃post⟨fun _ w => ⌜P' (view cfg w)⌝,
          fun e w => ⌜P' (view cfg w) ∧ (e.isAbort = false → Exc cfg e w)⌝⟩⦄ := by
  have key : ∀ (s : World) (a : Ans) (rest : List Ans), P (view cfg s) →
      P' (view cfg { s with answers := rest, now := s.now + a.dur, trace := (r, a) :: s.trace }) :=
    fun s a rest h => by rw [view_after cfg s (r, a) rest hr]; exact hP _ _ _ h
  exact ask_triple r (fun s a h _ => key s a _ h) (fun s e d h =>
    ⟨key s _ _ h, fun ha => exc_raised cfg rfl hnop (hQ _ (key s _ _ h)) (fun h' => by rw [ha] at h'; cases h')⟩)

theorem askHook_push (r : Req) (hr : isPrelude r = false) (hnop : isOp r = false) (P P' : View → Prop)
    (hP : ∀ v a el, P v → P' (push cfg v (r, a) el)) (hQ : ∀ v, P' v → Quiet cfg v) :
    ⦃fun w => ⌜P (view cfg w)⌝⦄ askHook r
    ⦃post⟨fun _ w => ⌜P' (view cfg w)⌝,
          fun e w => ⌜P' (view cfg w) ∧ (e.isAbort = false → Exc cfg e w)⌝⟩⦄ :=
  askHook_triple r (ask_push cfg r hr hnop P P' hP hQ)
    (fun w h => presil_cases (fun w => P (view cfg w)) w (fun _ => h))

/-- the retry has been granted; `b`: the `retry` event has been reported -/
def Granted (cfg : Cfg) (n : Nat) (kc : EClass) (b : Bool) (v : View) : Prop :=
  Gr cfg n v ∧ ClsC kc v ∧ v.mon.retryEv = b

theorem quiet_of_granted {cfg : Cfg} {n : Nat} {b : Bool} (h : Granted cfg n kc b v)
    (hb : cfg.metric = true → b = true) : Quiet cfg v :=
  ⟨h.1.1.2.2.2.1, h.1.1.2.2.2.2.2.2.2.2.1, fun _ hm => h.2.2.trans (hb hm), Or.inl h.1.1.2.2.2.2.2.2.1⟩

theorem retry_push {cfg : Cfg} {n : Nat} (a s : Nat) (tg : Tags) (ans : Ans) (el : Nat)
    (h : Granted cfg n kc false v) : Granted cfg n kc true (push cfg v (.metric .retry a s tg, ans) el) := by
  simp only [Granted, Gr, Core, ClsC, CntOK] at h
  simp only [Granted, Gr, Core, ClsC, CntOK, push, step]
  simp [stopOkOf, hookRaise_eq_false (.metric .retry a s tg) ans rfl, *]

theorem log_push {cfg : Cfg} {n : Nat} {b : Bool} (ev : Event) (a s : Nat) (tg : Tags)
    (ra : Option Int) (ans : Ans) (el : Nat)
    (h : Granted cfg n kc b v) : Granted cfg n kc b (push cfg v (.log ev a s tg ra, ans) el) := by
  simp only [Granted, Gr, Core, ClsC, CntOK] at h
  simp only [Granted, Gr, Core, ClsC, CntOK, push, step]
  simp [stopOkOf, hookRaise_eq_false (.log ev a s tg ra) ans rfl, *]

theorem emit_retry_spec (kc : EClass)
    (a s : Nat) (k : Option EClass) (e : Option Exn) (st : Option StopReason) (c : Option Cause)
    (cl : Option Classification) :
    ⦃inPhase cfg (Granted cfg n kc false)⦄ emit cfg tl .retry a s k e st c cl
    ⦃excPost cfg fun _ w => Granted cfg n kc cfg.metric (view cfg w)⦄ := by
  have hM := fun tg => askHook_push cfg (.metric .retry a s tg) rfl rfl _ _
    (fun v ans el h => retry_push (cfg := cfg) (n := n) (kc := kc) a s tg ans el h)
    (fun v h => quiet_of_granted h (fun _ => rfl))
  have hL := fun tg ra => askHook_push cfg (.log .retry a s tg ra) rfl rfl _ _
    (fun v ans el h => log_push (cfg := cfg) (n := n) (kc := kc) (b := cfg.metric) .retry a s tg ra ans el h)
    (fun v h => quiet_of_granted h id)
  unfold emit metricHook
  cases hm : cfg.metric <;> simp only [hm] at hL <;> simp only [Bool.false_eq_true, if_false, if_true] <;>
    mvcgen [askMetric, askLog, swallowException, recordTimeline, hM, hL]
  -- what is left: a hook raised.  A swallowed `Exception` leaves the state that was reached; anything else propagates
  all_goals
    obtain ⟨hg, hx⟩ := ‹Granted _ _ _ _ _ ∧ _›
    first
      | exact hg
      | exact hx (Exn.base_flags (Bool.eq_false_iff.mpr ‹_›)).1

theorem el_of_sync (w : World) (h : (view cfg w).sync = true) :
    (clk w.trace).el = w.now - w.rs.start := by
  have : w.now = w.rs.start + (clk w.trace).el := by simpa [view] using h
  omega

theorem stopped_of_preStop (r : StopReason) (w : World) (hp : PreStop n (view cfg w))
    (hc : stopCond cfg (cur cfg w.trace) (clk w.trace).el r = true) :
    Stopped cfg n r (view cfg { w with rs := { w.rs with lastStop := some r } }) :=
  ⟨hp.1, hp.2.1, hp.2.2.1, hp.2.2.2.1, hp.2.2.2.2.1, hp.2.2.2.2.2.1, rfl, hc, hp.2.2.2.2.2.2.2.2.1,
    grantInv_of hp.2.2.2.2.2.2.2.2.2, fun h => absurd (hp.2.2.2.2.2.2.2.2.2 ▸ h) (by simp)⟩

theorem deadline_cond (w : World) {v : View} {m : St} (hv : view cfg w = v) (hs : v.sync = true)
    (h : cfg.deadline ≤ w.now - w.rs.start) : stopCond cfg m (clk w.trace).el .deadlineExceeded = true := by
  rw [el_of_sync cfg w (hv ▸ hs)]; simpa [stopCond] using h

theorem noStrategy_cond {cfg : Cfg} {el : Nat} (hl : m.lastClass = some kc)
    (h : cfg.selectStrategy kc = none) : stopCond cfg m el .noStrategy = true := by
  simp [stopCond, hl, h]

theorem preStop_of_core {cfg : Cfg} {n : Nat} (hc : Core cfg n v)
    (hg : v.mon.granted = false) (hk : v.mon.classified = true) (hd : v.mon.done = false) : PreStop n v :=
  ⟨hc.1, hc.2.1, hc.2.2.2.1, hc.2.2.2.2.1, hc.2.2.2.2.2.2.2.2.1, hd, hc.2.2.2.2.2.2.1, hc.2.2.2.2.2.1, hk, hg⟩

theorem decided_of_stopped {cfg : Cfg} {n : Nat} {r : StopReason} (hS : Stopped cfg n r v)
    (hf : isFailure r = true) : Decided cfg n .raise v := by
  simp only [Decided, hS.2.2.2.2.2.2.1]; exact ⟨hS, hf⟩

abbrev decidedPost (cfg : Cfg) (n : Nat) :=
  excPost cfg fun d w => Decided cfg n d (view cfg w)

/-- terminal branch of `_handle_failure`: the reason's condition holds (of the deadline: by the clock just read) -/
theorem stopWith_spec (r : StopReason) (ev : Event)
    (hp : PreStop n u) (hf : isFailure r = true) (hev : plainEv u.mon.refused ev = true)
    (a : Nat) (k : EClass) (exc : Option Exn) (cause : Cause) :
    ⦃fun w => ⌜view cfg w = u ∧ stopCond cfg u.mon (clk w.trace).el r = true⌝⦄ stopWith cfg tl r ev a k exc cause
    ⦃decidedPost cfg n⦄ := by
  have he := fun v hok hb hg hm hev =>
    emit_v cfg tl v hok hb hg hm ev hev a 0 (some k) exc (some r) (some cause) none
  mvcgen [stopWith, setStop, modifyRS, he]
  all_goals (obtain ⟨rfl, hq⟩ := ‹_ ∧ _›)
  case vc1 => exact hq
  case vc2 => exact hp.2.2.1
  case vc3 => exact grantInv_of hp.2.2.2.2.2.2.2.2.2
  case vc4 => exact hp.2.2.2.2.1
  case vc5 => exact hev
  case vc6 => rw [‹view cfg _ = view cfg _›]; exact decided_of_stopped (stopped_of_preStop cfg n r _ hp hq) hf

/-- the failure is counted in `per_class_counts` -/
def FailedB (cfg : Cfg) (n : Nat) (k : EClass) (v : View) : Prop :=
  Core cfg n v ∧ NoStrat v ∧ ClsB k v ∧ v.mon.done = false

/-- the failure is counted everywhere, and the class limits allow another attempt -/
def FailedC (cfg : Cfg) (n : Nat) (k : EClass) (v : View) : Prop :=
  Core cfg n v ∧ NoStrat v ∧ ClsC k v ∧ v.mon.done = false ∧ Permit cfg k v

section
variable (cfg : Cfg) (n : Nat) (kc : EClass) (w : World) (key : SKey) (kind : SKind) (ctx : BackoffCtx)
    (a : Ans) (rest : List Ans) (hF : FailedC cfg n kc (view cfg w))
    (hlt : n < cfg.maxAttempts) (hsel : (cfg.selectStrategy kc).isSome = true)
    (hel : w.now - w.rs.start < cfg.deadline)
include hF hlt hsel hel

theorem strat_after :
    Strat cfg n (view cfg { w with answers := rest, now := w.now + a.dur,
                                   trace := (.strategy key kind ctx, a) :: w.trace }) ∧
    ClsC kc (view cfg { w with answers := rest, now := w.now + a.dur,
                               trace := (.strategy key kind ctx, a) :: w.trace }) := by
  obtain ⟨hc, hn, hk, hd, hp⟩ := hF
  rw [view_after cfg w (.strategy key kind ctx, a) rest rfl]
  exact strat_push cfg n kc _ key kind ctx a _ hc hn hk hd hp hlt hsel
    (by rw [el_of_sync cfg w hc.2.2.2.2.2.1]; simpa using hel)

end

theorem callStrategy_spec (kc : EClass) (u : View) (key : SKey) (kind : SKind)
    (ctx : BackoffCtx) (hF : FailedC cfg n kc u) (hlt : n < cfg.maxAttempts)
    (hsel : (cfg.selectStrategy kc).isSome = true) :
    ⦃fun w => ⌜view cfg w = u ∧ w.now - w.rs.start < cfg.deadline⌝⦄ callStrategy key kind ctx
    ⦃excPost cfg fun _ w => Strat cfg n (view cfg w) ∧ ClsC kc (view cfg w)⦄ := by
  mvcgen [callStrategy, ask_exchanged]
  all_goals (obtain ⟨rfl, hel⟩ := ‹view cfg _ = u ∧ _›)
  all_goals have hs := fun a rest => strat_after cfg n kc _ key kind ctx a rest hF hlt hsel hel
  case vc1 =>
    obtain ⟨_, rfl⟩ := ‹_ ∧ _ = exchanged _ _›
    exact hs _ _
  case vc2 =>
    obtain ⟨_, rfl⟩ := ‹_ ∧ _ = exchanged _ _›
    exact exc_stuck cfg (quiet_of_core (hs _ _).1.1 (hs _ _).1.2.2.1)
  case vc3 =>
    rintro ⟨d, rfl⟩
    exact exc_raised cfg rfl rfl (quiet_of_core (hs _ _).1.1 (hs _ _).1.2.2.1)
      (sawAbort_after cfg _ _ _ _ _ rfl rfl)

/-- `_handle_failure`, part 3 -/
theorem grantRetry_spec (c : Classification) (cause : Cause)
    (e : Option Exn) (key : SKey) (kind : SKind) (rem : Nat) (hF : FailedC cfg n c.klass u)
    (hlt : n < cfg.maxAttempts)
    (hsel : (cfg.selectStrategy c.klass).isSome = true) :
    ⦃fun w => ⌜view cfg w = u ∧ w.now - w.rs.start < cfg.deadline⌝⦄ grantRetry cfg tl c n cause e key kind rem
    ⦃decidedPost cfg n⦄ := by
  have h1 := fun ctx => callStrategy_spec cfg n c.klass u key kind ctx hF hlt hsel
  have h2 := fun u hc hk => budgetConsume_spec cfg n u c.klass hc hk
  have h3 := fun s => emit_retry_spec cfg tl n c.klass n s (some c.klass) e none (some cause) (some c)
  have h4 := fun u hp hev => stopWith_spec cfg tl n u .budgetExhausted .budgetExhausted hp rfl hev n c.klass e cause
  mvcgen [grantRetry, getRS, modifyRS, h1, h2, h3, h4]
  case vc2 => exact (‹Strat cfg n _ ∧ _›).1
  case vc3 => exact (‹Strat cfg n _ ∧ _›).2
  -- the budget granted
  case vc4 => obtain ⟨hk, hr, hg, _⟩ := ‹ClsC _ _ ∧ _›; exact ⟨hg ‹_›, hk, hr⟩
  case vc5 => rename_i h; exact ⟨h.1, h.2.1.2.2, h.2.2, h.2.1.1⟩
  -- the budget refused
  case vc6 => obtain ⟨_, _, _, hr⟩ := ‹ClsC _ _ ∧ _›; exact ⟨trivial, (hr (Bool.eq_false_iff.mpr ‹_›)).2.2.2.1⟩
  case vc7 =>
    intro s hk _ _ hr
    have hr := hr (Bool.eq_false_iff.mpr ‹_›)
    exact preStop_of_core hr.1 hr.2.2.1 hk.1 hr.2.2.2.2
  case vc8 =>
    intro s _ _ _ hr
    rw [(hr (Bool.eq_false_iff.mpr ‹_›)).2.2.2.1]; rfl

theorem handleFailure2_spec (c : Classification) (cause : Cause) (e : Option Exn) :
    ⦃inPhase cfg (FailedC cfg n c.klass)⦄ handleFailure2 cfg tl c n cause e
    ⦃decidedPost cfg n⦄ :=
  of_ghost fun u hF => by
    have ⟨hc, hn, hk, hd, hp⟩ := hF
    have hps := preStop_of_core hc hn.2.1 hk.1 hd
    have h1 := fun v hok hb hg hs hm key => stratRecordFailure_v cfg v hok hb hg hs hm key c.klass
    have h2 := fun r ev hf (hev : plainEv false ev = true) =>
      stopWith_spec cfg tl n u r ev hps hf (hn.2.2.2.2 ▸ hev) n c.klass e cause
    have h3 := fun key kind rem hlt hsel => grantRetry_spec cfg tl n u c cause e key kind rem hF hlt hsel
    mvcgen [handleFailure2, elapsed, modifyRS, h1, h2, h3]
    all_goals subst_vars
    case vc3 => exact ⟨rfl, deadline_cond cfg _ rfl hc.2.2.2.2.2.1 (Nat.le_of_lt ‹_›)⟩
    case vc6 => exact ⟨rfl, decide_eq_true (hc.1.symm ▸ ‹n ≥ _›)⟩
    case vc9 => exact ⟨rfl, noStrategy_cond hk.2.1 ‹_›⟩
    -- the strategy's `record_failure`
    case vc10 => exact hc.2.2.2.2.2.2.2.1
    case vc11 => exact hc.2.2.2.1
    case vc12 => exact grantInv_of hn.2.1
    case vc13 => exact hc.2.2.2.2.2.2.1
    case vc14 => exact hc.2.2.2.2.2.2.2.2.1
    -- the clock is read again
    case vc17 => exact ⟨‹_›, deadline_cond cfg _ ‹_› hc.2.2.2.2.2.1 ‹_›⟩
    case vc18 => exact Nat.lt_of_not_ge ‹_›
    case vc19 => rw [‹cfg.selectStrategy _ = some _›]; rfl
    case vc20 => exact ⟨‹_›, Nat.lt_of_not_ge ‹_›⟩

theorem overUnknown_mono (m : St) (x : Nat) (h : Retry.overUnknown cfg x = true)
    (hx : x ≤ m.classCount .unknown) : C03.overUnknown cfg m = true := by
  unfold Retry.overUnknown at h
  unfold C03.overUnknown
  cases hm : cfg.maxUnknown <;> simp [hm] at h ⊢
  omega

theorem overClass_of (m : St) (f : EClass → Nat) (k : EClass) (h : overPerClass cfg f k = true)
    (hx : f k = m.classCount k) : overClass cfg m k = true := by
  unfold overPerClass at h
  unfold overClass
  cases hm : cfg.perClass k <;> simp [hm] at h ⊢
  omega

theorem overUnknown_false_of (m : St) (x : Nat) (h : Retry.overUnknown cfg x = false)
    (hx : x = m.classCount .unknown) : C03.overUnknown cfg m = false := by
  unfold Retry.overUnknown at h
  unfold C03.overUnknown
  cases hm : cfg.maxUnknown <;> simp [hm] at h ⊢
  omega

theorem overClass_false_of (m : St) (f : EClass → Nat) (k : EClass)
    (h : overPerClass cfg f k = false) (hx : f k = m.classCount k) : overClass cfg m k = false := by
  unfold overPerClass at h
  unfold overClass
  cases hm : cfg.perClass k <;> simp [hm] at h ⊢
  omega

theorem maxUnknown_cond {cfg : Cfg} {el : Nat} (hl : m.lastClass = some .unknown)
    (h : C03.overUnknown cfg m = true) : stopCond cfg m el .maxUnknownAttempts = true := by
  simp [stopCond, hl, h]

theorem handleUnknown_spec (c : Classification) (hu : c.klass = .unknown) (cause : Cause) (e : Option Exn) :
    ⦃fun w => ⌜FailedB cfg n c.klass (view cfg w) ∧ overClass cfg (view cfg w).mon c.klass = false⌝⦄
    handleUnknown cfg tl c n cause e
    ⦃decidedPost cfg n⦄ :=
  of_ghost (P := fun v => FailedB cfg n c.klass v ∧ overClass cfg v.mon c.klass = false)
    fun u ⟨⟨hc, hn, hk, hd⟩, hoc⟩ => by
    have h1 := fun u hp hev => stopWith_spec cfg tl n u .maxUnknownAttempts .maxUnknownAttemptsExceeded hp rfl
      hev n c.klass e cause
    have h2 := handleFailure2_spec cfg tl n c cause e
    have hu1 : u.unknown + 1 = u.mon.classCount .unknown := by simpa [hu] using hk.2.2.2
    mvcgen [handleUnknown, getRS, modifyRS, h1, h2]
    all_goals subst_vars
    -- the runner's count has caught up with the monitor's
    case vc1 => exact preStop_of_core hc hn.2.1 hk.1 hd
    case vc2 => exact hn.2.2.2.2 ▸ rfl
    case vc3 =>
      exact ⟨trivial, maxUnknown_cond (hu ▸ hk.2.1) (overUnknown_mono cfg _ _ ‹_› (Nat.le_of_eq hu1))⟩
    case vc4 =>
      exact ⟨hc, hn, ⟨hk.1, hk.2.1, hk.2.2.1, hu1⟩, hd, hu ▸ rfl, hoc,
        fun _ => overUnknown_false_of cfg _ _ (Bool.eq_false_iff.mpr ‹_›) hu1⟩

theorem perClass_cond {cfg : Cfg} {el : Nat} (hl : m.lastClass = some kc)
    (h : overClass cfg m kc = true) : stopCond cfg m el .maxAttemptsPerClass = true := by
  simp [stopCond, hl, h]

theorem nonRetryable_cond {cfg : Cfg} {el : Nat} (hl : m.lastClass = some kc)
    (h : kc.nonRetryable = true) : stopCond cfg m el .nonRetryableClass = true := by
  simp [stopCond, hl, h]

theorem handleFailure1_spec (c : Classification) (cause : Cause) (e : Option Exn) :
    ⦃inPhase cfg (FailedB cfg n c.klass)⦄ handleFailure1 cfg tl c n cause e
    ⦃decidedPost cfg n⦄ :=
  of_ghost fun u hF => by
    have ⟨hc, hn, hk, hd⟩ := hF
    have hps := preStop_of_core hc hn.2.1 hk.1 hd
    have h1 := fun r ev hf (hev : plainEv false ev = true) =>
      stopWith_spec cfg tl n u r ev hps hf (hn.2.2.2.2 ▸ hev) n c.klass e cause
    have h2 := handleFailure2_spec cfg tl n c cause e
    have h3 := fun hu => handleUnknown_spec cfg tl n c hu cause e
    mvcgen [handleFailure1, getRS, h1, h2, h3]
    all_goals subst_vars
    case vc3 => exact ⟨rfl, perClass_cond hk.2.1 (overClass_of cfg _ _ _ ‹_› (hk.2.2.1 _))⟩
    case vc6 => exact ⟨rfl, nonRetryable_cond hk.2.1 ‹_›⟩
    case vc8 =>
      exact ⟨hF, overClass_false_of cfg _ _ _ (Bool.eq_false_iff.mpr ‹¬ overPerClass _ _ _ = true›) (hk.2.2.1 _)⟩
    case vc9 =>
      have h2 := hk.2.2.2
      rw [if_neg (fun h => ‹¬ c.klass = EClass.unknown› h.symm)] at h2
      exact ⟨hc, hn, ⟨hk.1, hk.2.1, hk.2.2.1, h2⟩, hd, Bool.eq_false_iff.mpr ‹_›,
        overClass_false_of cfg _ _ _ (Bool.eq_false_iff.mpr ‹¬ overPerClass _ _ _ = true›) (hk.2.2.1 _),
        fun h => absurd h ‹_›⟩

theorem handleFailure_spec (c : Classification) (cause : Cause) (e : Option Exn) (r : Option Nat) :
    ⦃inPhase cfg (Failed cfg n c.klass)⦄ handleFailure cfg tl c n cause e r
    ⦃decidedPost cfg n⦄ :=
  of_ghost fun u ⟨hc, hn, hk, hd⟩ => by
    have h1 := handleFailure1_spec cfg tl n c cause e
    mvcgen [handleFailure, Retry.recordFailure, modifyRS, h1]
    all_goals subst_vars
    -- the runner has now counted the failure in `per_class_counts`
    exact ⟨hc, hn, ⟨hk.1, hk.2.1, fun k' => (hk.2.2.1 k').symm, hk.2.2.2⟩, hd⟩

theorem handleException_spec (e : Exn) :
    ⦃inPhase cfg (Fresh cfg n)⦄ handleException cfg tl e n
    ⦃decidedPost cfg n⦄ := by
  have h1 := callClassifier_spec cfg n e
  have h2 := fun c => handleFailure_spec cfg tl n c .exception (some e) none
  mvcgen [handleException, h1, h2]

theorem quiet_of_ready {cfg : Cfg} {n : Nat} (h : Ready cfg n v) : Quiet cfg v :=
  ⟨h.2.2.2.1, h.2.2.2.2.2.2.2.2.1, fun _ hm => h.2.2.2.2.2.2.2.2.2.2.2.2.2.2.1.trans hm, Or.inl h.2.2.2.2.2.2.1⟩

theorem handler_push {cfg : Cfg} {n : Nat} (hr : Ready cfg n v) (lvl : Lvl) (ctx : BackoffCtx)
    (s : Nat) (a : Ans) (el : Nat) :
    Ready cfg n (push cfg v (.sleepHandler lvl ctx s, a) el) ∧
    (∀ d dd, a = .decision d dd → (push cfg v (.sleepHandler lvl ctx s, a) el).mon.decision = some d ∧
      (d = .abort → (push cfg v (.sleepHandler lvl ctx s, a) el).mon.sawAbort = true) ∧
      (d = .defer → (push cfg v (.sleepHandler lvl ctx s, a) el).mon.sawDefer = true) ∧
      (d = .other → (push cfg v (.sleepHandler lvl ctx s, a) el).mon.sawOther = true)) := by
  simp only [Ready, CntOK] at hr
  cases a <;> simp [Ready, CntOK, push, step, stopOkOf, hookRaise_eq_false (.sleepHandler lvl ctx s) _ rfl, *]
  exact ⟨fun h => Or.inr h, fun h => Or.inr h, fun h => Or.inr h⟩

def Asked (cfg : Cfg) (n : Nat) (d : SleepDecision) (v : View) : Prop :=
  Ready cfg n v ∧ v.mon.decision = some d ∧ (d = .abort → v.mon.sawAbort = true) ∧
  (d = .defer → v.mon.sawDefer = true) ∧ (d = .other → v.mon.sawOther = true)

/-- the sleeper is due -/
def Rested (cfg : Cfg) (n : Nat) (v : View) : Prop :=
  Ready cfg n v ∧ v.mon.decision = if cfg.handler.isSome then some .sleep else none

theorem callSleepHandler_spec (lvl : Lvl) (ctx : BackoffCtx) (s : Nat) :
    ⦃inPhase cfg (Ready cfg n)⦄ callSleepHandler lvl ctx s
    ⦃excPost cfg fun d w => Asked cfg n d (view cfg w)⦄ :=
  of_ghost fun u hr => by
    have h := ask_ghost cfg u (.sleepHandler lvl ctx s) rfl
    have hp := handler_push hr lvl ctx s
    mvcgen [callSleepHandler, h]
    case vc2 => obtain ⟨_, el, hv, _⟩ := ‹_ ∧ _›; rw [hv]; exact ⟨(hp _ el).1, (hp _ el).2 _ _ rfl⟩
    case vc3 => obtain ⟨_, el, hv, _⟩ := ‹_ ∧ _›; exact exc_stuck cfg (hv ▸ quiet_of_ready (hp _ el).1)
    case vc4 =>
      rintro ⟨d, el, hv, t, ht⟩; exact exc_pushed cfg u hv ht rfl rfl (quiet_of_ready (hp _ el).1)

/-- the sleeper is asked from `Ready`: permitted; if it returns, the monitor expects another attempt exactly when
    the deadline has not passed -/
theorem sleeper_push {cfg : Cfg} {n : Nat} (hr : Ready cfg n v)
    (hdn : v.mon.decision = if cfg.handler.isSome then some .sleep else none) (lvl : Lvl) (d : Nat) (a : Ans)
    (el : Nat) :
    Slept cfg n (push cfg v (.sleeper lvl d, a) el) ∧
    (push cfg v (.sleeper lvl d, a) el).mon.mustOp =
      ((match a with | .raise .. => false | _ => true) && decide (el ≤ cfg.deadline)) := by
  simp only [Ready, CntOK] at hr
  cases hh : cfg.handler <;> simp [hh] at hdn <;> cases a <;>
    simp [Slept, CntOK, push, step, stopOkOf, hookRaise, isAttemptHook, *]

theorem quiet_of_slept {cfg : Cfg} {n : Nat} (h : Slept cfg n v) (hm : v.mon.mustOp = false) :
    Quiet cfg v :=
  ⟨h.2.2.2.1, hm, fun _ hx => h.2.2.2.2.2.2.2.2.2.2.2.1.trans hx, Or.inl h.2.2.2.2.2.2.1⟩

theorem callSleeper_spec (s : Nat) :
    ⦃inPhase cfg (Rested cfg n)⦄ callSleeper cfg s
    ⦃excPost cfg fun _ w => Slept cfg n (view cfg w) ∧
      (view cfg w).mon.mustOp = decide (w.now - w.rs.start ≤ cfg.deadline)⦄ :=
  of_ghost fun u ⟨hr, hdn⟩ => by
    have h := ask_ghost cfg u (.sleeper cfg.sleeper s) rfl
    have hp := sleeper_push hr hdn cfg.sleeper s
    mvcgen [callSleeper, h]
    case vc2 =>
      obtain ⟨hx, el, hv, hel⟩ := ‹_ ∧ _›
      rw [hv, ← hel hr.2.2.2.2.2.1]
      refine ⟨(hp _ el).1, (hp _ el).2.trans ?_⟩
      split
      · exact (hx _ _ rfl).elim
      · exact Bool.true_and _
    case vc3 =>
      rintro ⟨d, el, hv, t, ht⟩
      exact exc_pushed cfg u hv ht rfl rfl (quiet_of_slept (hp _ el).1 (hp _ el).2)

/-- the run can be ended as ABORTED here -/
def PreAb (cfg : Cfg) (v : View) : Prop :=
  v.mon.sawAbort = true ∧ v.stopOk = true ∧ v.mon.bad = false ∧ GrantInv cfg v.mon ∧ v.mon.mustOp = false ∧
  v.flt = false

theorem emitAbortedOnce_spec (hp : PreAb cfg u) (a : Nat) :
    ⦃atView cfg u⦄ emitAbortedOnce cfg tl a
    ⦃excPost cfg fun _ w => view cfg w = { u with stop := some .aborted, stopOk := true }⦄ := by
  obtain ⟨hsa, hok, hb, hg, hm, _⟩ := hp
  have he := fun v hok hb hg hm => emit_v cfg tl v hok hb hg hm .aborted (by simp [plainEv, isBreakerEv]) a 0
    none none (some .aborted) none none
  mvcgen [emitAbortedOnce, getRS, setStop, modifyRS, he]
  all_goals subst_vars
  -- `aborted` is already recorded
  case vc1 => rw [← hok, ← (‹_ = some StopReason.aborted› : (view cfg _).stop = _)]
  -- it is recorded now: its condition is that the monitor has seen the abort
  case vc6 => rw [← hsa]; rfl

/-- a handler's DEFER or ABORT, once it is recorded as the stop reason -/
theorem stopped_of_ready {cfg : Cfg} {n : Nat} {r : StopReason} {v v' : View} (hr : Ready cfg n v)
    (hd : v.mon.decision.isSome = true) (hm : v'.mon = v.mon) (hf : v'.flt = v.flt) (hs : v'.stop = some r)
    (hok : v'.stopOk = true) : Stopped cfg n r v' := by
  refine ⟨?_, hr.2.1, ?_, hf.trans hr.2.2.2.2.1, ?_, ?_, hs, hok, ?_, ?_, ?_⟩ <;> rw [hm]
  · exact hr.1
  · exact hr.2.2.2.1
  · exact hr.2.2.2.2.2.2.2.2.1
  · exact hr.2.2.2.2.2.2.2.2.2.2.1
  · exact hr.2.2.2.2.2.2.2.2.2.2.2.2.2.2.2.2.1
  · exact (quiet_of_ready hr).2.2.1
  · exact fun _ => Or.inr hd

theorem handleSleepDecision_spec (act : SleepDecision) (s : Nat) :
    ⦃inPhase cfg (Asked cfg n act)⦄ handleSleepDecision cfg tl act n s
    ⦃excPost cfg fun r w => r = act ∧ (act = .sleep → Asked cfg n act (view cfg w)) ∧ (act = .defer → Stopped cfg n .scheduled (view cfg w)) ∧ (act = .abort → Stopped cfg n .aborted (view cfg w)) ∧ act ≠ .other⦄ :=
  of_ghost fun u hA => by
    have ⟨hr, hdn, h1, h2, h3⟩ := hA
    have he := fun v hok hb hg hm cl ex cs => emit_v cfg tl v hok hb hg hm .scheduled
      (by simp [plainEv, isBreakerEv]) n s cl ex (some .scheduled) cs none
    have ha := emitAbortedOnce_spec cfg tl u
    have hq := quiet_of_ready hr
    have hd : u.mon.decision.isSome = true := by rw [hdn]; rfl
    cases act with
    | sleep =>
      mvcgen [handleSleepDecision]
      subst_vars
      exact ⟨trivial, hA, nofun, nofun, nofun⟩
    | defer =>
      mvcgen [handleSleepDecision, getRS, setStop, modifyRS, he]
      all_goals subst_vars
      case vc1 => exact h2
      case vc2 => exact hq.1
      case vc3 => exact hq.2.2.1
      case vc4 => exact hq.2.1
      case vc5 =>
        rename_i hv
        have hm := congrArg View.mon hv
        have hf := congrArg View.flt hv
        exact ⟨trivial, nofun, stopped_of_ready hr hd hm hf (congrArg View.stop hv)
          ((congrArg View.stopOk hv).trans h2), nofun, nofun⟩
    | abort =>
      mvcgen [handleSleepDecision, ha]
      case vc1 => exact ⟨h1, hr.2.2.2.2.2.2.2.1, hq.1, hq.2.2.1, hq.2.1, hr.2.2.2.2.1⟩
      case vc3 =>
        rename_i hv
        have hm := congrArg View.mon hv
        have hf := congrArg View.flt hv
        exact ⟨trivial, nofun, nofun, stopped_of_ready hr hd hm hf (congrArg View.stop hv) (congrArg View.stopOk hv),
          nofun⟩
    | other =>
      mvcgen [handleSleepDecision]
      subst_vars
      exact exc_made cfg nofun hq.1 (fun _ => hq.2.1) hq.2.2.1 (Or.inr (Or.inr (Or.inr ⟨rfl, h3⟩))) nofun

/-- the failure handler's decision, after the poll that follows a grant -/
def Decided2 (cfg : Cfg) (n : Nat) (d : Decision) (v : View) : Prop :=
  match d with
  | .raise => Decided cfg n .raise v
  | .retry _ _ => Ready cfg n v ∧ v.mon.decision = none

/-- what `_sync_failure_outcome` leaves behind, by attempt decision -/
def Fin (cfg : Cfg) (n : Nat) (o : AOutcome) (v : View) : Prop :=
  match o.decision with
  | .retry => Slept cfg n v
  | .success => False
  | _ => match v.stop with
    | some r => Stopped cfg n r v ∧ o.stop = some r ∧ (o.decision = .raise → isFailure r = true) ∧
                (o.decision = .scheduled → r = .scheduled) ∧ (o.decision = .aborted → r = .aborted)
    | none => False

theorem decided2_of_poll (s : Nat) (c : BackoffCtx) (v : View)
    (h : Decided cfg n (.retry s c) v) : Decided2 cfg n (.retry s c) (pollV cfg v) := by
  simp only [Decided, Decided2, Gr, Core, Ready, CntOK, pollV] at *
  split <;> simp_all

def AfterSleep (cfg : Cfg) (n : Nat) (r : SleepDecision) (w : World) : Prop :=
  (r = .sleep → Slept cfg n (view cfg w) ∧
                (view cfg w).mon.mustOp = decide (w.now - w.rs.start ≤ cfg.deadline)) ∧
  (r = .defer → Stopped cfg n .scheduled (view cfg w)) ∧
  (r = .abort → Stopped cfg n .aborted (view cfg w)) ∧ r ≠ .other

/-- `_sync_sleep_action` -/
theorem sleepAction_spec (s : Nat) (ctx : BackoffCtx) :
    ⦃fun w => ⌜Ready cfg n (view cfg w) ∧ (view cfg w).mon.decision = none⌝⦄ sleepAction cfg tl n s ctx
    ⦃excPost cfg fun r w => AfterSleep cfg n r w⦄ := by
  have h1 := callSleepHandler_spec cfg n
  have h2 := handleSleepDecision_spec cfg tl n
  have h3 := fun ctx s => leaf_inv (P := Rested cfg n)
    (fun v h => callBeforeSleep_v cfg v h.1.2.2.2.2.2.2.2.1 (quiet_of_ready h.1).1 (quiet_of_ready h.1).2.2.1
      (quiet_of_ready h.1).2.1 ctx s)
  have h4 := callSleeper_spec cfg n
  mvcgen [sleepAction, h1, h2, h3, h4]
  -- no handler: `before_sleep`, then the sleeper
  case vc1 => rename_i h; exact ⟨h.1, by rw [h.2, ‹cfg.handler = none›]; rfl⟩
  case vc3 => exact ⟨fun _ => ‹Slept _ _ _ ∧ _›, nofun, nofun, nofun⟩
  -- the handler said SLEEP: nothing has moved since it was asked
  case vc4 => exact ‹_ ∧ _›.1
  case vc6 =>
    obtain ⟨he, hv, _⟩ := ‹_ = _ ∧ (_ → _) ∧ _›
    have hs := he.symm.trans (‹_› : _ = SleepDecision.sleep)
    have hA := hv hs
    exact ⟨hA.1, by rw [hA.2.1, hs, ‹cfg.handler = some _›]; rfl⟩
  case vc8 => subst_vars; exact ⟨fun _ => ‹Slept _ _ _ ∧ _›, nofun, nofun, nofun⟩
  case vc9 =>
    obtain ⟨rfl, _, h2, h3, h4⟩ := ‹_ = _ ∧ (_ → _) ∧ _›
    exact ⟨fun h => absurd h ‹_›, h2, h3, h4⟩

theorem plainEv_of (bx : Bool) (ev : Event) (h : plainEv false ev = true) : plainEv bx ev = true := by
  cases bx <;> simp_all [plainEv]

theorem stopOk_deadline (w : World) (hs : (view cfg w).sync = true)
    (h : cfg.deadline ≤ w.now - w.rs.start) :
    (view cfg { w with rs := { w.rs with lastStop := some .deadlineExceeded } }).stopOk = true :=
  deadline_cond (m := cur cfg w.trace) cfg w rfl hs h

theorem stopped_of_slept (r : StopReason) (w : World) (hS : Slept cfg n (view cfg w))
    (hm : (view cfg w).mon.mustOp = false) (hc : stopCond cfg (cur cfg w.trace) (clk w.trace).el r = true) :
    Stopped cfg n r (view cfg { w with rs := { w.rs with lastStop := some r } }) :=
  ⟨hS.1, hS.2.1, hS.2.2.2.1, hS.2.2.2.2.1, hm, hS.2.2.2.2.2.2.2.2.2.1, rfl, hc, hS.2.2.2.2.2.2.2.2.2.2.2.2.1,
    fun _ h => hS.2.2.2.2.2.2.2.2.2.2.2.1.trans h, fun _ => Or.inl hS.2.2.2.2.2.2.2.2.1⟩

theorem fin_of_stopped {cfg : Cfg} {n : Nat} {r : StopReason} {o : AOutcome} (hS : Stopped cfg n r v)
    (hd : o.decision = .raise ∨ o.decision = .scheduled ∨ o.decision = .aborted)
    (hq : o.stop = some r ∧ (o.decision = .raise → isFailure r = true) ∧ (o.decision = .scheduled → r = .scheduled) ∧
      (o.decision = .aborted → r = .aborted)) : Fin cfg n o v := by
  simp only [Fin, hS.2.2.2.2.2.2.1]
  split
  · rename_i h; rw [h] at hd; simp at hd
  · rename_i h; rw [h] at hd; simp at hd
  · exact ⟨hS, hq⟩

/-- `_finalize_attempt` after the backoff -/
theorem finalizeAttempt_spec (act : SleepDecision) (s : Nat) (ctx : BackoffCtx)
    (cls : Option Classification) (e : Option Exn) (r : Option Nat) (c : Option Cause) :
    ⦃fun w => ⌜AfterSleep cfg n act w⌝⦄ finalizeAttempt cfg tl n (.retry s ctx) (some act) cls e r c
    ⦃excPost cfg fun o w => Fin cfg n o (view cfg w)⦄ := by
  have he := fun v hok hb hg hm ev hev k st =>
    emit_v cfg tl v hok hb hg hm ev hev n 0 k e st c none
  cases act with
  | other => intro w h; exact absurd rfl h.2.2.2
  | defer =>
    mvcgen [finalizeAttempt, getRS]
    exact fin_of_stopped ((‹AfterSleep _ _ _ _›).2.1 rfl) (Or.inr (Or.inl rfl)) ⟨rfl, nofun, fun _ => rfl, nofun⟩
  | abort =>
    mvcgen [finalizeAttempt, getRS]
    exact fin_of_stopped ((‹AfterSleep _ _ _ _›).2.2.1 rfl) (Or.inr (Or.inr rfl)) ⟨rfl, nofun, nofun, fun _ => rfl⟩
  | sleep =>
    mvcgen [finalizeAttempt, getRS, elapsed, setStop, modifyRS, he]
    all_goals obtain ⟨hS, hm⟩ := (‹AfterSleep _ _ _ _›).1 rfl
    -- the deadline passed during the sleep
    case vc3 => exact stopOk_deadline cfg _ hS.2.2.2.2.2.1 (Nat.le_of_lt ‹_›)
    case vc4 => exact hS.2.2.2.1
    case vc5 => exact fun _ h => hS.2.2.2.2.2.2.2.2.2.2.2.1.trans h
    case vc6 => exact hm.trans (decide_eq_false (Nat.not_le_of_gt ‹_›))
    case vc7 => exact plainEv_of _ _ rfl
    case vc8 =>
      rw [‹view cfg _ = view cfg _›]
      exact fin_of_stopped (stopped_of_slept cfg n _ _ hS (hm.trans (decide_eq_false (Nat.not_le_of_gt ‹_›)))
        (deadline_cond cfg _ rfl hS.2.2.2.2.2.1 (Nat.le_of_lt ‹_›))) (Or.inl rfl) ⟨rfl, fun _ => rfl, nofun, nofun⟩
    -- `Slept` says that another attempt is allowed
    case vc9 | vc10 | vc11 | vc12 | vc13 | vc14 => exact absurd ‹n = _› (Nat.ne_of_lt hS.2.2.1)
    case vc15 => exact hS

/-- `_sync_failure_outcome`: back off (if the decision is "retry") and finalise the attempt -/
theorem failureOutcome_spec (d : Decision) (cls : Option Classification) (e : Option Exn) (r : Option Nat)
    (c : Option Cause) :
    ⦃inPhase cfg (Decided2 cfg n d)⦄ failureOutcome cfg tl n d cls e r c
    ⦃excPost cfg fun o w => Fin cfg n o (view cfg w)⦄ :=
  of_ghost fun u hd => by
    cases d with
    | raise =>
      mvcgen [failureOutcome, finalizeAttempt, getRS]
      subst_vars
      have hst : ∀ w : World, w.rs.lastStop = (view cfg w).stop := fun _ => rfl
      simp only [Decided2, Decided] at hd
      split at hd
      · exact fin_of_stopped hd.1 (Or.inl rfl) ⟨(hst _).trans ‹_›, fun _ => hd.2, nofun, nofun⟩
      · exact hd.elim
    | retry s ctx =>
      have h1 := sleepAction_spec cfg tl n s ctx
      have h2 := fun act => finalizeAttempt_spec cfg tl n act s ctx cls e r c
      mvcgen [failureOutcome, h1, h2]
      subst_vars
      exact hd

theorem anyStop_of (m : St) (el : Nat) (r : StopReason) (h : stopCond cfg m el r = true)
    (hf : isFailure r = true) : anyStop cfg m el = true := by
  cases r <;> simp_all [anyStop, isFailure]

theorem stopCond_of_view (w : World) (r : StopReason) (hs : (view cfg w).stop = some r)
    (hok : (view cfg w).stopOk = true) : stopCond cfg (cur cfg w.trace) (clk w.trace).el r = true := by
  have hs' : w.rs.lastStop = some r := hs
  simpa [view, stopOkOf, hs'] using hok

theorem exc_lib_exhausted  {w : World} {n : Nat} {r : StopReason} (f : ExhaustedFields)
    (hS : Stopped cfg n r (view cfg w)) (hf : f.stop = r) : Exc cfg (.libExhausted f) w := by
  have hc := stopCond_of_view cfg w r hS.2.2.2.2.2.2.1 hS.2.2.2.2.2.2.2.1
  simp only [Stopped, GrantInv, view_mon] at hS
  intro _
  refine ⟨⟨hS.2.2.1, hS.2.2.2.2.1, fun f' h => ?_, fun _ _ _ _ h => by simp at h,
    fun hg => ⟨hS.2.2.2.2.2.2.2.2.2.1 hg, ?_⟩⟩, fun h => by simp at h⟩
  · cases h; exact Or.inr (hf ▸ hc)
  · rcases hS.2.2.2.2.2.2.2.2.2.2 hg with h | h
    · exact Or.inl h
    · exact Or.inr (Or.inl h)

theorem exc_lib_abort  {w : World} {n : Nat}
    (hS : Stopped cfg n .aborted (view cfg w)) : Exc cfg .libAbort w := by
  have hc := stopCond_of_view cfg w .aborted hS.2.2.2.2.2.2.1 hS.2.2.2.2.2.2.2.1
  have hst : w.rs.lastStop = some .aborted := hS.2.2.2.2.2.2.1
  simp only [Stopped, view_mon] at hS
  exact exc_made cfg (by simp) hS.2.2.1 (fun _ => hS.2.2.2.2.1) hS.2.2.2.2.2.2.2.2.2.1 (Or.inr (Or.inl rfl))
    (fun _ => ⟨by simpa [stopCond] using hc, Or.inr hst⟩)

/-- `call()` re-raises the operation's exception: the failure was classified and a stop condition holds -/
theorem exc_reraise  {w : World} {n : Nat} {r : StopReason} {e : Exn}
    (hS : Stopped cfg n r (view cfg w)) (hfail : isFailure r = true) (hrb : raisedBy isOp w.trace e = true)
    (hex : e.isExhausted = false) (hna : e.isAbort = false) : Exc cfg e w := by
  have hc := stopCond_of_view cfg w r hS.2.2.2.2.2.2.1 hS.2.2.2.2.2.2.2.1
  simp only [Stopped, GrantInv, view_mon] at hS
  intro _
  refine ⟨⟨hS.2.2.1, hS.2.2.2.2.1, fun f h => ?_,
    fun _ _ _ _ _ => Or.inr (Or.inr ⟨hrb, hS.2.2.2.2.2.2.2.2.1, anyStop_of cfg _ _ r hc hfail⟩),
    fun hg => ⟨hS.2.2.2.2.2.2.2.2.2.1 hg, ?_⟩⟩, fun h => by simp [hna] at h⟩
  · subst h; simp at hex
  · rcases hS.2.2.2.2.2.2.2.2.2.2 hg with h | h
    · exact Or.inl h
    · exact Or.inr (Or.inl h)

theorem rel_of_slept (v : View) (h : Slept cfg n v) : Rel cfg n v := by
  simp only [Slept, Rel, CntOK, GrantInv] at *
  obtain ⟨h1, h2, h3, h4, h5, h6, h7, h8, h9, h10, _, h12, _, h14, h15⟩ := h
  exact ⟨h1, h4, h10, h5, h6, h7, h8, ⟨h14, h15⟩, fun _ => h9, fun h0 => by omega, Or.inr h3,
    fun _ hm => by rw [h12, hm]⟩

/-- an attempt in call mode returns: the loop goes on with the invariant, or the run has succeeded -/
abbrev AttemptOK (cfg : Cfg) (n : Nat) (r : Option Nat) (w : World) : Prop :=
  (r = none → Rel cfg n (view cfg w)) ∧ (r ≠ none → Succ n (view cfg w))

theorem deliverCall_exn_spec (o : AOutcome) (rs : RState) (e : Exn)
    (fb : ExhaustedFields) (hex : e.isExhausted = false) (hna : e.isAbort = false) :
    ⦃inPhase cfg (Fin cfg n o)⦄ deliverCall (determineAction o rs n false) (some e) fb
    ⦃post⟨fun r w => ⌜AttemptOK cfg n r w⌝,
          fun e' w => ⌜raisedBy isOp w.trace e = true → Exc cfg e' w⌝⟩⦄ :=
  of_ghost fun u hF => by
    unfold determineAction
    simp only [Fin] at hF
    cases hdec : o.decision <;> simp only [hdec] at hF ⊢ <;> mvcgen [deliverCall]
    all_goals (subst_vars)
    case retry => exact ⟨fun _ => rel_of_slept cfg n _ hF, fun h => absurd rfl h⟩
    case raise =>
      split at hF <;> first | contradiction | exact fun hrb => exc_reraise cfg hF.1 (by simp_all) hrb hex hna
    case scheduled =>
      split at hF <;> first | contradiction | exact fun _ => exc_lib_exhausted cfg _ hF.1 (by simp [hF.2.1])
    case aborted =>
      split at hF <;> first
        | contradiction
        | (obtain ⟨hS, _, _, _, hr⟩ := hF; subst hr; exact fun _ => exc_lib_abort cfg hS)

theorem deliverCall_res_spec (o : AOutcome) (rs : RState) (fb : ExhaustedFields) :
    ⦃inPhase cfg (Fin cfg n o)⦄ deliverCall (determineAction o rs n true) none fb
    ⦃post⟨fun r w => ⌜AttemptOK cfg n r w⌝,
          fun e' w => ⌜Exc cfg e' w⌝⟩⦄ :=
  of_ghost fun u hF => by
    unfold determineAction
    simp only [Fin] at hF
    cases hdec : o.decision <;> simp only [hdec] at hF ⊢ <;> mvcgen [deliverCall]
    all_goals (subst_vars)
    case retry => exact ⟨fun _ => rel_of_slept cfg n _ hF, fun h => absurd rfl h⟩
    case raise =>
      split at hF <;> first | contradiction | exact exc_lib_exhausted cfg _ hF.1 (by simp [hF.2.1])
    case scheduled =>
      split at hF <;> first | contradiction | exact exc_lib_exhausted cfg _ hF.1 (by simp [hF.2.1])
    case aborted =>
      split at hF <;> first
        | contradiction
        | (obtain ⟨hS, _, _, _, hr⟩ := hF; subst hr; exact exc_lib_abort cfg hS)

theorem pollV_noStrat (h1 : u.mon.strat = false) (h2 : u.mon.pollFalse = false) :
    pollV cfg u = u := by
  unfold pollV
  split
  · obtain ⟨m, _, _, _, _, _, _, _, _⟩ := u
    cases m
    simp_all
  · rfl

theorem keep_of_poll {cfg : Cfg} {P : View → Prop} {v v' : View} (h : v' = pollV cfg v) (hn : NoStrat v)
    (hp : P v) : P v' := by
  rw [h, pollV_noStrat cfg v hn.1 hn.2.2.2.1]; exact hp

theorem fin_basic (o : AOutcome) (v : View) (h : Fin cfg n o v) :
    v.stopOk = true ∧ v.mon.bad = false ∧ GrantInv cfg v.mon ∧ v.flt = false := by
  simp only [Fin] at h
  cases hd : o.decision <;> simp only [hd] at h
  case retry => simp only [Slept, GrantInv] at *; simp_all
  all_goals (split at h <;> first | contradiction | (simp only [Stopped, GrantInv] at *; simp_all))

theorem attemptEnd_fin (o : AOutcome) :
    ⦃inPhase cfg (Fin cfg n o)⦄ callAttemptEndFromOutcome cfg n o
    ⦃excPost cfg fun _ w => Fin cfg n o (view cfg w)⦄ :=
  leaf_inv (P := Fin cfg n o) fun v h =>
    callAttemptEndFromOutcome_v cfg v (fin_basic _ _ _ _ h).1 (fin_basic _ _ _ _ h).2.1 (fin_basic _ _ _ _ h).2.2.1 n o

/-- the log only grows during the retry loop, so "the operation raised `e`" is never forgotten -/
theorem rbOp_ext (e : Exn) (w w' : World) (h : Ext loopK w w') (hr : raisedBy isOp w.trace e = true) :
    raisedBy isOp w'.trace e = true := by
  obtain ⟨δ, ht⟩ := h.grows
  rw [ht, raisedBy_append, hr]
  simp

theorem triple_and_inv {P I : World → Prop} {Q : α → World → Prop}
    {E : Exn → World → Prop}
    (h1 : ⦃fun w => ⌜P w⌝⦄ x ⦃post⟨fun a w => ⌜Q a w⌝, fun e w => ⌜I w → E e w⌝⟩⦄)
    (h2 : ⦃fun w => ⌜I w⌝⦄ x ⦃post⟨fun _ w => ⌜I w⌝, fun _ w => ⌜I w⌝⟩⦄) :
    ⦃fun w => ⌜P w ∧ I w⌝⦄ x ⦃post⟨fun a w => ⌜Q a w⌝, fun e w => ⌜E e w⌝⟩⦄ :=
  triple_mono (triple_and h1 h2) (fun _ h => h) (fun _ _ h => h.1) (fun _ _ h => h.1 h.2)

abbrev attemptPost (cfg : Cfg) (n : Nat) : PostCond (Option Nat) (.except Exn (.arg World .pure)) :=
  post⟨fun r w => ⌜AttemptOK cfg n r w⌝,
       fun e w => ⌜Exc cfg e w⌝⟩

theorem checkAbort_keep (cfg : Cfg) (tl : Bool) (u : View) (hs : u.stop = none) (hb : u.mon.bad = false)
    (hg : GrantInv cfg u.mon) (h1 : u.mon.strat = false) (h2 : u.mon.pollFalse = false) (a : Nat) :
    ⦃fun w => ⌜view cfg w = u⌝⦄ checkAbort cfg tl a
    ⦃post⟨fun _ w => ⌜view cfg w = u⌝, fun e w => ⌜Exc cfg e w⌝⟩⦄ := by
  have h := checkAbort_spec cfg tl u ⟨hs, hb, hg⟩ a
  rw [pollV_noStrat cfg u h1 h2] at h
  exact h

theorem decided2_cases (cfg : Cfg) (n : Nat) (d : Decision) (v : View) (h : Decided cfg n d v)
    (hd : d = .raise) : Decided2 cfg n d v := by
  subst hd; exact h

theorem live_of_retry {cfg : Cfg} {n : Nat} {d : Decision} (h : Decided cfg n d v)
    (hd : ¬ d.isRaise = true) : Live cfg v ∧ v.flt = false := by
  cases d with
  | raise => exact absurd rfl hd
  | retry s c => exact ⟨⟨h.1.1.2.2.2.2.2.2.1, h.1.1.2.2.2.1, fun _ hm => h.2.2.1.trans hm⟩, h.1.1.2.2.2.2.1⟩

theorem decided2_of (d : Decision) (v v' : View) (h : Decided cfg n d v)
    (hd : ¬ d.isRaise = true) (hv : v' = pollV cfg v) : Decided2 cfg n d v' := by
  cases d with
  | raise => exact absurd rfl hd
  | retry s c => rw [hv]; exact decided2_of_poll cfg n s c v h

theorem callExceptionPath_core (e : Exn) (hex : e.isExhausted = false) (hna : e.isAbort = false) :
    ⦃inPhase cfg (Fresh cfg n)⦄ callExceptionPath cfg n e
    ⦃post⟨fun r w => ⌜AttemptOK cfg n r w⌝,
          fun e' w => ⌜raisedBy isOp w.trace e = true → Exc cfg e' w⌝⟩⦄ :=
  of_ghost fun u ⟨hc, hn, hk, hcl, hd⟩ => by
    have h1 := fun u hl => checkAbort_spec cfg false u hl n
    have h2 := handleException_spec cfg false n e
    have h3 := fun d cls => failureOutcome_spec cfg false n d cls (some e) none (some .exception)
    have h4 := attemptEnd_fin cfg n
    have h5 := fun o rs => deliverCall_exn_spec cfg n o rs e default hex hna
    mvcgen [callExceptionPath, getRS, modifyAS, h1, h2, h3, h4, h5]
    all_goals subst_vars
    -- the first poll: no strategy has been asked yet, so it leaves the view alone
    case vc1 => exact ⟨hc.2.2.2.2.2.2.1, hc.2.2.2.1, grantInv_of hn.2.1⟩
    case vc2 =>
      exact keep_of_poll ‹_› hn ⟨hc, hn, hk, hcl, hd⟩
    case vc3 => exact decided2_cases cfg n _ _ ‹_› ((Decision.isRaise_iff _).mp ‹_›)
    case vc6 | vc7 | vc12 | vc13 | vc14 | vc15 | vc16 => exact fun h _ => h
    -- the poll after a decision to retry
    case vc8 => exact (live_of_retry ‹_› ‹_›).1
    case vc9 =>
      exact decided2_of cfg n _ _ _ ‹_› ‹_› ‹view cfg _ = pollV cfg _›

theorem not_exception_of_kise (e : Exn) (h : e.isKiSe = true) : e.isException = false := by
  cases e <;> simp_all [Exn.isKiSe, Exn.isException]

/-- the operation's exception propagates at once (abort, cancellation, nested exhaustion) -/
theorem exc_propagate  {w : World} {e : Exn} (hb : (view cfg w).mon.bad = false)
    (hm : (view cfg w).mon.mustOp = false) (hgr : (view cfg w).mon.granted = false)
    (hgo : e.isException = false ∨ e.isAbort = true ∨ e.isExhausted = true)
    (hab : e.isAbort = true → (view cfg w).mon.sawAbort = true ∧
      ((view cfg w).stop = none ∨ (view cfg w).stop = some .aborted))
    (hrb : e.isException = true → raisedBy isOp w.trace e = true) : Exc cfg e w := by
  simp only [view_mon] at hb hm hgr hab
  intro _
  refine ⟨⟨hb, hm, fun f h => Or.inl ?_, fun _ _ h1 h2 h3 => ?_, fun h => by simp [hgr] at h⟩, hab⟩
  · subst h
    exact raisedBy_any_of _ _ _ (hrb rfl)
  · rcases hgo with h | h | h <;> simp_all

theorem exc_op_fail {w : World} {e : Exn} (hc : Core cfg n (view cfg w)) (hn : NoStrat (view cfg w))
    (hgo : e.isException = false ∨ e.isAbort = true ∨ e.isExhausted = true) (hna : ¬ e.isAbort = true) :
    (e.isException = true → raisedBy isOp w.trace e = true) → Exc cfg e w :=
  exc_propagate cfg hc.2.2.2.1 hc.2.2.2.2.2.2.2.2.1 hn.2.1 hgo (fun h => absurd h hna)

/-- the `except` ladder around `func()` in call mode -/
theorem callOpHandler_core (e : Exn) :
    ⦃inPhase cfg (OpFail cfg n e)⦄ callOpHandler cfg n e
    ⦃post⟨fun r w => ⌜AttemptOK cfg n r w⌝,
          fun e' w => ⌜(e.isException = true → raisedBy isOp w.trace e = true) → Exc cfg e' w⌝⟩⦄ :=
  of_ghost fun u ⟨hc, hn, hk, hcl, hd, hsa⟩ => by
    have h1 := fun v hok hb hg => handleAbortAttemptEnd_v cfg v hok hb hg n e
    have h2 := fun u hp => emitAbortedOnce_spec cfg false u hp n
    have h3 := callExceptionPath_core cfg n e
    mvcgen [callOpHandler, h1, h2, h3]
    all_goals subst_vars
    -- `AbortRetryError`: the attempt-end hook, then `aborted` is recorded
    case vc1 => exact hc.2.2.2.2.2.2.2.1
    case vc2 => exact hc.2.2.2.1
    case vc3 => exact grantInv_of hn.2.1
    case vc4 =>
      rw [‹view cfg _ = view cfg _›]
      exact ⟨hsa ‹_›, hc.2.2.2.2.2.2.2.1, hc.2.2.2.1, grantInv_of hn.2.1, hc.2.2.2.2.2.2.2.2.1, hc.2.2.2.2.1⟩
    case vc5 =>
      have hv1 := ‹view cfg _ = view cfg _›
      have hv := ‹view cfg _ = { view cfg _ with stop := some .aborted, stopOk := true }›
      have h1 := congrArg View.mon hv1
      have h2 := congrArg View.mon hv
      have hm : (view cfg _).mon = (view cfg _).mon := h2.trans h1
      exact exc_propagate cfg (hm ▸ hc.2.2.2.1) (hm ▸ hc.2.2.2.2.2.2.2.2.1) (hm ▸ hn.2.1) (Or.inr (Or.inl ‹_›))
        (fun h => ⟨hm ▸ hsa h, Or.inr (congrArg View.stop hv)⟩)
    case vc6 | vc7 => exact fun h _ => h
    -- cancellation, KeyboardInterrupt/SystemExit, a nested exhaustion, a non-`Exception`: re-raised at once
    case vc8 => exact exc_op_fail cfg n hc hn (Or.inl rfl) ‹_›
    case vc9 => exact exc_op_fail cfg n hc hn (Or.inl (not_exception_of_kise e ‹_›)) ‹_›
    case vc10 => exact exc_op_fail cfg n hc hn (Or.inr (Or.inr ‹_›)) ‹_›
    case vc16 => exact exc_op_fail cfg n hc hn (Or.inl (Bool.eq_false_iff.mpr ‹_›)) ‹_›
    -- an `Exception`: the attempt has failed
    case vc11 => exact ⟨hc, hn, hk, hcl, hd⟩
    case vc12 => exact fun h1 h2 => ⟨h1, h2⟩
    case vc13 => exact fun h hr => h (hr ‹_›)
    case vc14 | vc15 => exact fun _ _ => Bool.eq_false_iff.mpr ‹_›

/-- … with what the log says about where `e` came from -/
theorem callOpHandler_spec (e : Exn) :
    ⦃fun w => ⌜OpFail cfg n e (view cfg w) ∧ (e.isException = true → raisedBy isOp w.trace e = true)⌝⦄
    callOpHandler cfg n e ⦃attemptPost cfg n⦄ :=
  triple_and_inv (callOpHandler_core cfg n e)
    (inv_of_ext (fun w => e.isException = true → raisedBy isOp w.trace e = true)
      (fun w0 => callOpHandler_ext w0 cfg n e) (fun w w' h hi he => rbOp_ext e w w' h (hi he)))

theorem callResultFailure_spec (x : Nat) (c : Classification) :
    ⦃inPhase cfg (Failed cfg n c.klass)⦄ callResultFailure cfg n x c ⦃attemptPost cfg n⦄ :=
  of_ghost fun u ⟨hc, hn, hk, hd⟩ => by
    have h1 := fun u hl => checkAbort_spec cfg false u hl n
    have h2 := handleFailure_spec cfg false n c .result none (some x)
    have h3 := fun d => failureOutcome_spec cfg false n d (some c) none (some x) (some .result)
    have h4 := attemptEnd_fin cfg n
    have h5 := deliverCall_res_spec cfg n
    mvcgen [callResultFailure, getRS, modifyAS, h1, h2, h3, h4, h5]
    all_goals subst_vars
    -- the first poll: no strategy has been asked yet, so it leaves the view alone
    case vc1 => exact ⟨hc.2.2.2.2.2.2.1, hc.2.2.2.1, grantInv_of hn.2.1⟩
    case vc2 =>
      exact keep_of_poll ‹_› hn ⟨hc, hn, hk, hd⟩
    case vc3 => exact decided2_cases cfg n _ _ ‹_› ((Decision.isRaise_iff _).mp ‹_›)
    -- the poll after a decision to retry
    case vc6 => exact (live_of_retry ‹_› ‹_›).1
    case vc7 =>
      exact decided2_of cfg n _ _ _ ‹_› ‹_› ‹view cfg _ = pollV cfg _›

theorem successEnd_spec (x : Nat) :
    ⦃inPhase cfg (Succ n)⦄ handleSuccessAttemptEnd cfg tl n x
    ⦃excPost cfg fun _ w => Succ n (view cfg w)⦄ :=
  leaf_inv (Succ n) fun v h => handleSuccessAttemptEnd_v cfg tl v h.2.2.2.2.2.2.2.1 h.2.2.1
    (grantInv_of h.2.2.2.2.2.2.2.2) h.2.2.2.2.2.2.1 h.2.2.2.2.1 n x

theorem callResultPath_spec (x : Nat) :
    ⦃inPhase cfg (Begun cfg n)⦄ callResultPath cfg n x ⦃attemptPost cfg n⦄ := by
  have h1 := shouldClassifyResult_spec cfg n x
  have h2 := successEnd_spec cfg false n x
  have h3 := callResultFailure_spec cfg n x
  mvcgen [callResultPath, h1, h2, h3]
  -- a confirmed success
  exact ⟨nofun, fun _ => ‹Succ _ _›⟩

theorem rel_pollV (h : Rel cfg n u) : Rel cfg n (pollV cfg u) := by
  simp only [Rel, CntOK, GrantInv, pollV] at *
  split <;> simp_all

theorem checkAbort_rel (a : Nat) :
    ⦃inPhase cfg (Rel cfg n)⦄ checkAbort cfg tl a
    ⦃excPost cfg fun _ w => Rel cfg n (view cfg w)⦄ :=
  fun w hp => triple_mono (checkAbort_spec cfg tl _ ⟨hp.2.2.2.2.2.1, hp.2.1, hp.2.2.2.2.2.2.2.2.2.2.2⟩ a)
    (fun _ h => h) (fun _ _ h => h ▸ rel_pollV cfg n _ hp) (fun _ _ h => h) w rfl

theorem callAttempt_spec (hlt : n < cfg.maxAttempts) :
    ⦃inPhase cfg (Rel cfg n)⦄ callAttempt cfg (n + 1) ⦃attemptPost cfg (n + 1)⦄ := by
  have h1 := checkAbort_rel cfg false n n
  have h2 := leaf_inv (P := Rel cfg n)
    (fun v h => callAttemptStart_v cfg v h.2.2.2.2.2.2.1 h.2.1 h.2.2.2.2.2.2.2.2.2.2.2 (n + 1))
  have h3 := invokeOp_spec cfg n hlt (n + 1)
  have h4 := callOpHandler_spec cfg (n + 1)
  have h5 := callResultPath_spec cfg (n + 1)
  mvcgen [callAttempt, modifyAS, h1, h2, h3, h4, h5]

theorem rel_zero {cfg : Cfg} (hr : Rel cfg 0 v) :
    v.mon.ops = 0 ∧ v.mon.bad = false ∧ v.mon.mustOp = false ∧ v.mon.granted = false ∧ v.noExc = true ∧
      v.stopOk = true ∧ GrantInv cfg v.mon :=
  have h0 := hr.2.2.2.2.2.2.2.2.2.1 rfl
  ⟨hr.1, hr.2.1, h0.2.1, h0.2.2, h0.1, hr.2.2.2.2.2.2.1, hr.2.2.2.2.2.2.2.2.2.2.2⟩

/-- no attempt was made (`max_attempts = 0`) -/
theorem exc_zero  {w : World} {e : Exn} {v : View} (hv : cur cfg w.trace = v.mon) (hr : Rel cfg 0 v)
    (hstop : ∀ f, e = .libExhausted f → f.stop = .maxAttemptsGlobal ∧ cfg.maxAttempts = 0)
    (hna : e.isAbort = false) : Exc cfg e w := by
  have hz := rel_zero hr
  intro _
  rw [hv]
  refine ⟨⟨hz.2.1, hz.2.2.1, fun f h => Or.inr ?_, fun h => by omega, fun h => by simp [hz.2.2.2.1] at h⟩,
    fun h => by simp [hna] at h⟩
  obtain ⟨h1, h2⟩ := hstop f h
  simp [h1, stopCond, h2]

theorem raiseExhaustedCall_spec (hr : Rel cfg 0 u) (h0 : cfg.maxAttempts = 0) :
    ⦃atView cfg u⦄ raiseExhaustedCall cfg
    ⦃post⟨fun _ _ => ⌜False⌝, fun e w => ⌜Exc cfg e w⌝⟩⦄ := by
  have he := fun v hok hb hg hm k ex cs => emit_v cfg false v hok hb hg hm .maxAttemptsExceeded
    (by simp [plainEv, isBreakerEv]) cfg.maxAttempts 0 k ex (some .maxAttemptsGlobal) cs none
  mvcgen [raiseExhaustedCall, emitMaxAttemptsExceeded, getRS, setStop, modifyRS, he]
  all_goals subst_vars
  all_goals have hu := rel_zero hr
  case vc1 => exact hu.2.2.2.2.2.1
  case vc2 => exact hu.2.1
  case vc3 => exact hu.2.2.2.2.2.2
  case vc4 => exact hu.2.2.1
  all_goals have hv := ‹view cfg _ = view cfg _›
  case vc5 => exact exc_zero cfg (congrArg View.mon hv) hr (fun f h => by cases h; exact ⟨rfl, h0⟩) rfl
  case vc6 =>
    rename_i x
    exact Bool.noConfusion ((congrArg Option.isNone x).symm.trans ((congrArg View.noExc hv).trans hu.2.2.2.2.1))
  case vc7 => exact exc_zero cfg (congrArg View.mon hv) hr nofun rfl

/-- what the verdict needs when a run returns a value -/
def RetOK (cfg : Cfg) (w : World) : Prop :=
  flt w.trace = false → ∃ n, Succ n (view cfg w)

/-- the loop of `_run_sync_call`: `fuel` iterations left after `n` attempts -/
theorem callLoop_spec  : ∀ (fuel n : Nat), n + fuel = cfg.maxAttempts →
    ⦃inPhase cfg (Rel cfg n)⦄ callLoop cfg fuel (n + 1)
    ⦃excPost cfg fun _ w => RetOK cfg w⦄ := by
  intro fuel
  induction fuel with
  | zero =>
    intro n hn
    refine of_ghost fun u hr => ?_
    have h0 : n = 0 := by
      simp only [Rel] at hr
      omega
    subst h0
    have h1 := raiseExhaustedCall_spec cfg u hr (by omega)
    mvcgen [callLoop, h1]
    all_goals (intro h; exact absurd h id)
  | succ f ih =>
    intro n hn
    have h1 := callAttempt_spec cfg n (by omega)
    have h2 := ih (n + 1) (by omega)
    mvcgen [callLoop, h1, h2]
    · rename_i hpost
      exact fun _ => ⟨n + 1, hpost.2 nofun⟩
    · exact ‹_ ∧ _›.1

theorem initState_spec  :
    ⦃fun w => ⌜cur cfg w.trace = {} ∧ clk w.trace = {} ∧ flt w.trace = false⌝⦄ initState
    ⦃post⟨fun _ w => ⌜Rel cfg 0 (view cfg w)⌝, fun _ _ => ⌜False⌝⟩⦄ := by
  mvcgen [initState]
  all_goals (simp_all +zetaDelta [Rel, CntOK, GrantInv, view, stopOkOf])

/-- `Retry.call` -/
theorem runCall_spec  :
    ⦃fun w => ⌜cur cfg w.trace = {} ∧ clk w.trace = {} ∧ flt w.trace = false⌝⦄ runCall cfg
    ⦃excPost cfg fun _ w => RetOK cfg w⦄ := by
  have h1 := initState_spec cfg
  have h2 := callLoop_spec cfg cfg.maxAttempts 0 (by omega)
  mvcgen [runCall, h1, h2]
  all_goals (intros; assumption)

/-- what the verdict needs when `execute()` returns an outcome -/
structure OutCore (cfg : Cfg) (o : Outcome) (m : St) (el : Nat) : Prop where
  bad : m.bad = false
  must : m.mustOp = false
  stop : ∀ r, o.stop = some r → stopCond cfg m el r = true
  give : 1 ≤ m.ops → m.done = false → o.ok = false ∧ o.stop.isSome = true
  grant : m.granted = true → (cfg.metric = true → m.retryEv = true) ∧
    (m.slept = true ∨ m.decision.isSome = true ∨ o.stop = none ∨ o.stop = some .aborted)

def OutOK (cfg : Cfg) (o : Outcome) (w : World) : Prop :=
  flt w.trace = false → OutCore cfg o (cur cfg w.trace) (clk w.trace).el

theorem buildOutcome_spec (ok : Bool) (value : Option Nat) (n : Nat) (ns : Option Nat) :
    ⦃atView cfg u⦄ buildOutcome ok value n ns
    ⦃post⟨fun o w => ⌜view cfg w = u ∧ o.ok = ok ∧ o.stop = if ok then none else u.stop⌝,
          fun _ _ => ⌜False⌝⟩⦄ := by
  mvcgen [buildOutcome, getRS, elapsed]
  all_goals (subst_vars; simp [view])

theorem outOK_of_stopped  {w : World} {n : Nat} {r : StopReason} {o : Outcome}
    (hS : Stopped cfg n r (view cfg w)) (ho : o.ok = false) (hs : o.stop = some r) : OutOK cfg o w := by
  have hc := stopCond_of_view cfg w r hS.2.2.2.2.2.2.1 hS.2.2.2.2.2.2.2.1
  simp only [Stopped, GrantInv, view_mon] at hS
  intro _
  refine ⟨hS.2.2.1, hS.2.2.2.2.1, fun r' h => ?_, fun _ _ => ⟨ho, by simp [hs]⟩, fun hg => ⟨hS.2.2.2.2.2.2.2.2.2.1 hg, ?_⟩⟩
  · rw [hs] at h; cases h; exact hc
  · rcases hS.2.2.2.2.2.2.2.2.2.2 hg with h | h
    · exact Or.inl h
    · exact Or.inr (Or.inl h)

theorem outOK_of_succ  {w : World} {n : Nat} {o : Outcome} (hS : Succ n (view cfg w))
    (hs : o.stop = none) : OutOK cfg o w := by
  simp only [Succ, view_mon] at hS
  intro _
  exact ⟨hS.2.2.1, hS.2.2.2.2.1, fun r h => by simp [hs] at h, fun _ h => by simp [hS.2.2.2.2.2.1] at h,
    fun h => by simp [hS.2.2.2.2.2.2.2.2] at h⟩

theorem outOK_of_ab  {w : World} {o : Outcome} (hA : Ab cfg (view cfg w)) (ho : o.ok = false)
    (hs : o.stop = some .aborted) : OutOK cfg o w := by
  simp only [Ab, GrantInv, view_mon] at hA
  intro _
  refine ⟨hA.1, hA.2.2.1, fun r h => ?_, fun _ _ => ⟨ho, by simp [hs]⟩,
    fun hg => ⟨hA.2.2.2.2.2.2 hg, Or.inr (Or.inr (Or.inr hs))⟩⟩
  rw [hs] at h; cases h
  simp [stopCond, hA.2.2.2.2.2.1]

abbrev xPost (cfg : Cfg) (P : World → Prop) : PostCond (Option Outcome) (.except Exn (.arg World .pure)) :=
  post⟨fun r w => ⌜match r with
                  | none => P w
                  | some o => OutOK cfg o w⌝,
       fun e w => ⌜Exc cfg e w⌝⟩

abbrev xPostG (cfg : Cfg) (n : Nat) : PostCond (Option Outcome) (.except Exn (.arg World .pure)) :=
  xPost cfg (fun w => flt w.trace = false → Slept cfg n (view cfg w))

theorem abortOutcome_spec (hp : PreAb cfg u) (a : Nat) :
    ⦃atView cfg u⦄ abortOutcome cfg tl a
    ⦃excPost cfg fun o w => OutOK cfg o w⦄ := by
  have h1 := fun u hp => emitAbortedOnce_spec cfg tl u hp a
  have h2 := buildOutcome_spec cfg
  mvcgen [abortOutcome, h1, h2]
  all_goals subst_vars
  case vc1 => exact hp
  case vc2 =>
    have hv1 := ‹view cfg _ = View.mk _ _ _ _ _ _ _ _ _›
    intro hv ho hs
    refine outOK_of_ab cfg ?_ ho (hs.trans ?_)
    · rw [hv, hv1]; exact ⟨hp.2.2.1, hp.2.2.2.2.2, hp.2.2.2.2.1, rfl, rfl, hp.1, hp.2.2.2.1⟩
    · rw [hv1]; rfl

theorem execAbortExit_spec (hp : PreAb cfg u) (a : Nat) (e : Exn)
    (P : World → Prop) :
    ⦃atView cfg u⦄ execAbortExit cfg tl a e ⦃xPost cfg P⦄ := by
  have h1 := fun v hok hb hg => handleAbortAttemptEnd_v cfg v hok hb hg a e
  have h2 := fun u hp n => abortOutcome_spec cfg tl u hp n
  mvcgen [execAbortExit, h1, h2]
  all_goals subst_vars
  case vc1 => exact hp.2.1
  case vc2 => exact hp.2.2.1
  case vc3 => exact hp.2.2.2.1
  case vc4 => rw [‹view cfg _ = view cfg _›]; exact hp

theorem sawAbort_of_stopped (w : World) (n : Nat) (h : Stopped cfg n .aborted (view cfg w)) :
    (view cfg w).mon.sawAbort = true := by
  have := stopCond_of_view cfg w .aborted h.2.2.2.2.2.2.1 h.2.2.2.2.2.2.2.1
  simpa [stopCond] using this

theorem deliverExecute_spec (o : AOutcome) (rs : RState) (fr : Bool) :
    ⦃inPhase cfg (Fin cfg n o)⦄ deliverExecute cfg tl (determineAction o rs n fr) o ⦃xPostG cfg n⦄ :=
  of_ghost fun u hF => by
    have h1 := fun u hp a => abortOutcome_spec cfg tl u hp a
    have h2 := buildOutcome_spec cfg
    unfold determineAction
    simp only [Fin] at hF
    cases hdec : o.decision <;> cases fr <;> simp only [hdec] at hF ⊢ <;> mvcgen [deliverExecute, h1, h2]
    all_goals (clear h1 h2)
    all_goals (try subst_vars)
    all_goals first
      | (intro _; assumption)
      | (split at hF <;> first
          | contradiction
          | (rename_i x r heq
             obtain ⟨hv, hok, hst⟩ := ‹view cfg _ = view cfg _ ∧ _ ∧ _›
             rw [← hv] at hF heq
             exact outOK_of_stopped cfg hF.1 hok (by rw [hst, ← hv]; simpa using heq))
          | (rename_i x r heq
             obtain ⟨hS, _, _, _, hr⟩ := hF
             have hr' := hr
             subst hr'
             have hsa := sawAbort_of_stopped cfg _ n hS
             simp only [Stopped] at hS
             simp only [PreAb]
             simp_all))

/-- the rest of the exception path of `execute()`: back off, report, deliver -/
theorem execExceptionPath3_spec (e : Exn) (d : Decision)
    (hd : Decided2 cfg n d u) :
    ⦃atView cfg u⦄ execExceptionPath3 cfg tl n e d ⦃xPostG cfg n⦄ := by
  have h3 := fun cls => failureOutcome_spec cfg tl n d cls (some e) none (some .exception)
  have h4 := attemptEnd_fin cfg n
  have h5 := fun o rs => deliverExecute_spec cfg tl n o rs false
  mvcgen [execExceptionPath3, getRS, modifyAS, h3, h4, h5]
  subst_vars
  exact hd

/-- `try: check_abort() except AbortRetryError` -/
theorem checkAbortCaught_spec (hl : Live cfg u ∧ u.flt = false) (a : Nat) :
    ⦃atView cfg u⦄ checkAbortCaught cfg tl a
    ⦃post⟨fun b w => ⌜(b = false → view cfg w = pollV cfg u) ∧
                      (b = true → flt w.trace = true ∨ Ab cfg (view cfg w))⌝,
          fun e w => ⌜flt w.trace = true ∨ (e.isAbort = false ∧ e.isException = false ∧ Exc cfg e w)⌝⟩⦄ := by
  have h1 := fun u hl => checkAbort_x cfg tl u hl a
  mvcgen [checkAbortCaught, abortToTrue, h1]
  all_goals (clear h1)
  all_goals (try subst_vars)
  all_goals (try simp only [restore_dummy] at *)
  all_goals first
    | assumption
    | (exact ⟨by assumption, fun h => by simp at h⟩)
    | (rename_i hx; simp only [XAb] at hx; rcases hx with h | ⟨h1, _, _⟩ | ⟨h1, h2⟩ <;> simp_all; done)

/-- once an attempt hook has raised, nothing is claimed any more -/
theorem flt_grows (w w' : World) (h : Ext loopK w w') (hf : flt w.trace = true) : flt w'.trace = true := by
  obtain ⟨δ, ht⟩ := h.grows
  rw [ht]
  simp only [flt, attemptHookFault, List.any_append] at hf ⊢
  simp [hf]

theorem xpost_of_flt {x : M (Option Outcome)} (cfg : Cfg) (n : Nat)
    (hx : ∀ w0, ⦃fun w => ⌜Ext loopK w0 w⌝⦄ x ⦃extPost loopK w0⦄) :
    ⦃fun w => ⌜flt w.trace = true⌝⦄ x ⦃xPostG cfg n⦄ := by
  apply triple_of_run
  intro w hw
  have := adequacy (hx w) w (Ext.refl loopK w)
  split <;> simp_all
  · rename_i r w' _
    have hf := flt_grows _ _ this hw
    cases r <;> simp [OutOK, hf]
  · rename_i e w' _
    have hf := flt_grows _ _ this hw
    simp [Exc, hf]

theorem execAbortExit_g (n a : Nat) (e : Exn) :
    ⦃fun w => ⌜flt w.trace = true ∨ PreAb cfg (view cfg w)⌝⦄ execAbortExit cfg tl a e ⦃xPostG cfg n⦄ :=
  triple_or (xpost_of_flt cfg n fun w0 => execAbortExit_ext w0 cfg tl a e)
    (of_ghost fun u hp => execAbortExit_spec cfg tl u hp a e _)

theorem preAb_of_ab (v : View) (h : Ab cfg v) : PreAb cfg v := by
  simp only [Ab, PreAb] at *
  simp_all

theorem exc_of_flt (e : Exn) (w : World) (h : flt w.trace = true) : Exc cfg e w := by
  intro hf; simp [h] at hf

theorem exc_of_caught (e : Exn) (w : World)
    (h : flt w.trace = true ∨ e.isAbort = false ∧ e.isException = false ∧ Exc cfg e w) : Exc cfg e w := by
  rcases h with h | ⟨_, _, h⟩
  · exact exc_of_flt cfg e w h
  · exact h

theorem execExceptionPath2_spec (e : Exn) :
    ⦃inPhase cfg (Fresh cfg n)⦄ execExceptionPath2 cfg tl n e ⦃xPostG cfg n⦄ :=
  of_ghost fun u ⟨hc, hn, hk, hcl, hd⟩ => by
    have h1 := handleException_spec cfg tl n e
    have h2 := fun u d hd => execExceptionPath3_spec cfg tl n u e d hd
    have h3 := fun u hl => checkAbortCaught_spec cfg tl u hl n
    have h4 := execAbortExit_g cfg tl n n e
    mvcgen [execExceptionPath2, getRS, modifyAS, h1, h2, h3, h4]
    all_goals subst_vars
    case vc1 => exact ⟨hc, hn, hk, hcl, hd⟩
    case vc2 => exact decided2_cases cfg n _ _ ‹_› ((Decision.isRaise_iff _).mp ‹_›)
    case vc3 => exact live_of_retry ‹_› ‹_›
    case vc4 => rename_i h; exact (h.2 rfl).imp id (preAb_of_ab cfg _)
    case vc5 =>
      intro s h _
      exact decided2_of cfg n _ _ _ ‹_› ‹_› (h (Bool.eq_false_iff.mpr ‹_›))
    case vc6 => exact exc_of_caught cfg _ _

theorem execExceptionPath_spec (e : Exn) :
    ⦃inPhase cfg (Fresh cfg n)⦄ execExceptionPath cfg tl n e ⦃xPostG cfg n⦄ :=
  of_ghost fun u ⟨hc, hn, hk, hcl, hd⟩ => by
    have h2 := execExceptionPath2_spec cfg tl n e
    have h3 := fun u hl => checkAbortCaught_spec cfg tl u hl n
    have h4 := execAbortExit_g cfg tl n n e
    mvcgen [execExceptionPath, modifyAS, h2, h3, h4]
    all_goals subst_vars
    case vc1 => exact ⟨⟨hc.2.2.2.2.2.2.1, hc.2.2.2.1, grantInv_of hn.2.1⟩, hc.2.2.2.2.1⟩
    case vc2 => rename_i h; exact (h.2 rfl).imp id (preAb_of_ab cfg _)
    -- the poll answered False: no strategy has been asked yet, so it left the view alone
    case vc3 => rename_i h _; exact keep_of_poll (h.1 (Bool.eq_false_iff.mpr ‹_›)) hn ⟨hc, hn, hk, hcl, hd⟩
    case vc4 => exact exc_of_caught cfg _ _

/-- the `except` ladder of `execute()` when the operation itself raised -/
theorem execHandler_core (e : Exn) :
    ⦃inPhase cfg (OpFail cfg n e)⦄ execHandler cfg tl n e
    ⦃post⟨fun r w => ⌜match r with
                      | none => flt w.trace = false → Slept cfg n (view cfg w)
                      | some o => OutOK cfg o w⌝,
          fun e' w => ⌜(e.isException = true → raisedBy isOp w.trace e = true) → Exc cfg e' w⌝⟩⦄ :=
  of_ghost fun u ⟨hc, hn, hk, hcl, hd, hsa⟩ => by
    have h1 := execAbortExit_g cfg tl n n e
    have h2 := execExceptionPath_spec cfg tl n e
    mvcgen [execHandler, h1, h2]
    all_goals subst_vars
    case vc1 =>
      exact Or.inr ⟨hsa ‹_›, hc.2.2.2.2.2.2.2.1, hc.2.2.2.1, grantInv_of hn.2.1, hc.2.2.2.2.2.2.2.2.1, hc.2.2.2.2.1⟩
    case vc7 => exact ⟨hc, hn, hk, hcl, hd⟩
    case vc2 | vc8 => exact fun h => h
    case vc3 | vc9 => exact fun h _ => h
    -- cancellation, KeyboardInterrupt/SystemExit, a nested exhaustion, a non-`Exception`: re-raised at once
    case vc4 => exact exc_op_fail cfg n hc hn (Or.inl rfl) ‹_›
    case vc5 => exact exc_op_fail cfg n hc hn (Or.inl (not_exception_of_kise e ‹_›)) ‹_›
    case vc6 => exact exc_op_fail cfg n hc hn (Or.inr (Or.inr ‹_›)) ‹_›
    case vc10 => exact exc_op_fail cfg n hc hn (Or.inl (Bool.eq_false_iff.mpr ‹_›)) ‹_›

/-- how the part of an `execute()` attempt up to and including `func()` can fail -/
def HPre (cfg : Cfg) (n : Nat) (e : Exn) (w : World) : Prop :=
  flt w.trace = true ∨ (e.isAbort = false ∧ e.isException = false ∧ Exc cfg e w) ∨
  (e = .libAbort ∧ Ab cfg (view cfg w)) ∨
  (OpFail cfg n e (view cfg w) ∧ (e.isException = true → raisedBy isOp w.trace e = true))

theorem execHandler_rethrow (e : Exn) (h1 : e.isAbort = false)
    (h2 : e.isException = false) : execHandler cfg tl n e = throw e := by
  unfold execHandler
  simp only [h1, h2, Bool.false_eq_true, if_false]
  repeat' split
  all_goals rfl

theorem execHandler_g (e : Exn) :
    ⦃fun w => ⌜HPre cfg n e w⌝⦄ execHandler cfg tl n e ⦃xPostG cfg n⦄ := by
  apply triple_of_run
  intro w hw
  rcases hw with hw | ⟨h1, h2, hE⟩ | ⟨h1, hA⟩ | ⟨hO, hrb⟩
  · exact adequacy (xpost_of_flt cfg n (fun w0 => execHandler_ext w0 cfg tl n e)) w hw
  · rw [execHandler_rethrow cfg tl n e h1 h2]
    exact hE
  · subst h1
    have : execHandler cfg tl n Exn.libAbort = execAbortExit cfg tl n Exn.libAbort := by
      unfold execHandler; simp [Exn.isAbort]
    rw [this]
    exact adequacy (execAbortExit_spec cfg tl _ (preAb_of_ab cfg _ hA) n _ _) w rfl
  · exact adequacy (triple_and_inv (execHandler_core cfg tl n e)
      (inv_of_ext (fun w => e.isException = true → raisedBy isOp w.trace e = true)
        (fun w0 => execHandler_ext w0 cfg tl n e) (fun w w' h hi he => rbOp_ext e w w' h (hi he)))) w ⟨hO, hrb⟩

/-- attempt-hook leaves, seen from `execute()`: a failure sets the fault flag -/
theorem hook_spec_flt
    (hx : ∀ w0, ⦃fun w => ⌜FootQ hookR w0 w⌝⦄ x ⦃fqPost hookR w0⦄) (v : View) (hok : v.stopOk = true) :
    ⦃atView cfg v⦄ x ⦃post⟨fun _ w => ⌜view cfg w = v⌝, fun _ w => ⌜flt w.trace = true⌝⟩⦄ := by
  apply triple_of_run
  intro w hw
  have := adequacy (hx w) w (FootQ.refl hookR w)
  subst hw
  split <;> simp_all
  · exact view_fq cfg false _ _ (this.mono hookR_loopR) hok (by simp)
  · obtain ⟨δ, et, _, r, d, δ', hd, hr, _⟩ := this.trace
    rw [et, hd]
    simp only [List.cons_append, flt_cons, hookRaise]
    cases r <;> simp_all [hookR, isAttemptHook]

theorem callAttemptStart_x (v : View) (hok : v.stopOk = true) (a : Nat) :
    ⦃atView cfg v⦄ callAttemptStart cfg a
    ⦃post⟨fun _ w => ⌜view cfg w = v⌝, fun _ w => ⌜flt w.trace = true⌝⟩⦄ :=
  hook_spec_flt cfg (fun w0 => callAttemptStart_fq hookR w0 cfg a (fun _ => rfl)) v hok

@[simp] theorem view_as_attempts (cfg : Cfg) (s : World) (x : AState) (y : Nat) :
    view cfg { s with as := x, attempts := y } = view cfg s := rfl

/-- the `try:` body of `execute()` up to and including `func()` -/
theorem execPre_spec (hlt : n < cfg.maxAttempts) :
    ⦃inPhase cfg (Rel cfg n)⦄ execPre cfg tl (n + 1)
    ⦃post⟨fun _ w => ⌜Begun cfg (n + 1) (view cfg w)⌝,
          fun e w => ⌜HPre cfg (n + 1) e w⌝⟩⦄ :=
  of_ghost fun u hr => by
    have h1 := fun u hl => checkAbort_x cfg tl u hl n
    have h2 := fun v hok => callAttemptStart_x cfg v hok (n + 1)
    have h3 := invokeOp_spec cfg n hlt (n + 1)
    mvcgen [execPre, modifyAS, h1, h2, h3]
    all_goals subst_vars
    case vc1 => exact ⟨⟨hr.2.2.2.2.2.1, hr.2.1, hr.2.2.2.2.2.2.2.2.2.2.2⟩, hr.2.2.2.1⟩
    -- the loop-top poll keeps the invariant
    case vc2 => rw [‹view cfg _ = pollV cfg _›]; exact (rel_pollV cfg n _ hr).2.2.2.2.2.2.1
    case vc3 =>
      have := rel_pollV cfg n _ hr
      rw [← ‹view cfg _ = pollV cfg _›, ← ‹view cfg _ = view cfg _›] at this
      exact this
    -- the operation raised
    case vc5 => exact fun h f => Or.inr (Or.inr (Or.inr ⟨h, f⟩))
    case vc6 => exact fun h => Or.inl h
    case vc7 => exact fun h => h.imp id (Or.imp id Or.inl)

/-- from the verdict at an exceptional exit: an abort can be turned into an ABORTED outcome -/
theorem preAb_of_exc (e : Exn) (w : World) (h : Exc cfg e w) (hf : flt w.trace = false)
    (ha : e.isAbort = true) : PreAb cfg (view cfg w) := by
  obtain ⟨hc, hab⟩ := h hf
  obtain ⟨hsa, hst⟩ := hab ha
  refine ⟨hsa, ?_, hc.bad, fun hg hm => (hc.grant hg).1 hm, hc.must, hf⟩
  rcases hst with h | h <;> simp [view, stopOkOf, h, stopCond, hsa]

theorem execResultFailure_spec (x : Nat) (c : Classification) :
    ⦃inPhase cfg (Failed cfg n c.klass)⦄ execResultFailure cfg tl n x c ⦃xPostG cfg n⦄ :=
  of_ghost fun u ⟨hc, hn, hk, hd⟩ => by
    have h1 := fun u hl => checkAbort_spec cfg tl u hl n
    have h2 := handleFailure_spec cfg tl n c .result none (some x)
    have h3 := fun d => failureOutcome_spec cfg tl n d (some c) none (some x) (some .result)
    have h4 := attemptEnd_fin cfg n
    have h5 := fun o rs => deliverExecute_spec cfg tl n o rs true
    mvcgen [execResultFailure, getRS, modifyAS, h1, h2, h3, h4, h5]
    all_goals subst_vars
    -- the first poll: no strategy has been asked yet, so it leaves the view alone
    case vc1 => exact ⟨hc.2.2.2.2.2.2.1, hc.2.2.2.1, grantInv_of hn.2.1⟩
    case vc2 =>
      exact keep_of_poll ‹_› hn ⟨hc, hn, hk, hd⟩
    case vc3 => exact decided2_cases cfg n _ _ ‹_› ((Decision.isRaise_iff _).mp ‹_›)
    -- the poll after a decision to retry
    case vc6 => exact (live_of_retry ‹_› ‹_›).1
    case vc7 =>
      exact decided2_of cfg n _ _ _ ‹_› ‹_› ‹view cfg _ = pollV cfg _›

/-- the rest of the `try:` body of `execute()`, after `func()` returned -/
theorem execResultPath_spec (x : Nat) :
    ⦃inPhase cfg (Begun cfg n)⦄ execResultPath cfg tl n x ⦃xPostG cfg n⦄ := by
  have h1 := shouldClassifyResult_spec cfg n x
  have h2 := successEnd_spec cfg tl n x
  have h3 := execResultFailure_spec cfg tl n x
  have h4 := buildOutcome_spec cfg
  mvcgen [execResultPath, h1, h2, h3, h4]
  -- a confirmed success
  obtain ⟨hv, _, hst⟩ := ‹view cfg _ = view cfg _ ∧ _ ∧ _›
  exact outOK_of_succ cfg (n := n) (by rw [hv]; exact ‹Succ _ _›) (hst.trans (if_pos trivial))

/-- the `except` ladder of `execute()` once `func()` has returned: an `AbortRetryError` still ends the run as
    ABORTED, everything else is re-raised -/
theorem execReturnedHandler_g (e : Exn) :
    ⦃fun w => ⌜Exc cfg e w⌝⦄ execReturnedHandler cfg tl n e ⦃xPostG cfg n⦄ := by
  apply triple_of_run
  intro w hE
  by_cases hf : flt w.trace = true
  · exact adequacy (xpost_of_flt cfg n (fun w0 => execReturnedHandler_ext w0 cfg tl n e)) w hf
  · have hf' : flt w.trace = false := by simpa using hf
    by_cases ha : e.isAbort = true
    · have : execReturnedHandler cfg tl n e = execAbortExit cfg tl n e := by
        unfold execReturnedHandler; simp [ha]
      rw [this]
      exact adequacy (execAbortExit_spec cfg tl _ (preAb_of_exc cfg e w hE hf' ha) n e _) w rfl
    · have : execReturnedHandler cfg tl n e = throw e := by
        unfold execReturnedHandler; simp [ha]
      rw [this]
      exact hE

/-- one iteration of the loop of `execute()` when no attempt hook has raised so far -/
theorem execAttempt_core (hlt : n < cfg.maxAttempts) :
    ⦃inPhase cfg (Rel cfg n)⦄ execAttempt cfg tl (n + 1) ⦃xPostG cfg (n + 1)⦄ := by
  have h1 := execPre_spec cfg tl n hlt
  have h2 := fun e => execHandler_g cfg tl (n + 1) e
  have h3 := execResultPath_spec cfg tl (n + 1)
  have h4 := fun e => execReturnedHandler_g cfg tl (n + 1) e
  mvcgen [execAttempt, h1, h2, h3, h4]
  case vc3 => exact fun h => h

/-- … and in general -/
theorem execAttempt_g (hlt : n < cfg.maxAttempts) :
    ⦃fun w => ⌜flt w.trace = true ∨ Rel cfg n (view cfg w)⌝⦄ execAttempt cfg tl (n + 1)
    ⦃xPostG cfg (n + 1)⦄ :=
  triple_or (xpost_of_flt cfg (n + 1) fun w0 => execAttempt_ext w0 cfg tl (n + 1)) (execAttempt_core cfg tl n hlt)

abbrev outPost (cfg : Cfg) : PostCond Outcome (.except Exn (.arg World .pure)) :=
  post⟨fun o w => ⌜OutOK cfg o w⌝, fun e w => ⌜Exc cfg e w⌝⟩

theorem outpost_of_flt {x : M Outcome} (cfg : Cfg)
    (hx : ∀ w0, ⦃fun w => ⌜Ext loopK w0 w⌝⦄ x ⦃extPost loopK w0⦄) :
    ⦃fun w => ⌜flt w.trace = true⌝⦄ x ⦃outPost cfg⦄ := by
  apply triple_of_run
  intro w hw
  have := adequacy (hx w) w (Ext.refl loopK w)
  split <;> simp_all
  · rename_i r w' _
    simp [OutOK, flt_grows _ _ this hw]
  · rename_i e w' _
    simp [Exc, flt_grows _ _ this hw]

theorem outOK_zero  {w : World} {o : Outcome} {v : View} (hv : cur cfg w.trace = v.mon)
    (hr : Rel cfg 0 v) (hs : o.stop = some .maxAttemptsGlobal) (h0 : cfg.maxAttempts = 0) : OutOK cfg o w := by
  have hz := rel_zero hr
  intro _
  rw [hv]
  refine ⟨hz.2.1, hz.2.2.1, fun r h => ?_, fun h => by omega, fun h => by simp [hz.2.2.2.1] at h⟩
  rw [hs] at h; cases h
  simp [stopCond, h0]

/-- `build_exhausted_outcome` when no attempt was made (`max_attempts = 0`) -/
theorem buildExhaustedOutcome_spec (hr : Rel cfg 0 u)
    (h0 : cfg.maxAttempts = 0) :
    ⦃atView cfg u⦄ buildExhaustedOutcome cfg tl ⦃outPost cfg⦄ := by
  have he := fun v hok hb hg hm k ex cs => emit_v cfg tl v hok hb hg hm .maxAttemptsExceeded
    (by simp [plainEv, isBreakerEv]) cfg.maxAttempts 0 k ex (some .maxAttemptsGlobal) cs none
  have h2 := buildOutcome_spec cfg
  mvcgen [buildExhaustedOutcome, emitMaxAttemptsExceeded, getRS, setStop, modifyRS, he, h2]
  all_goals subst_vars
  all_goals have hu := rel_zero hr
  case vc1 => exact hu.2.2.2.2.2.1
  case vc2 => exact hu.2.1
  case vc3 => exact hu.2.2.2.2.2.2
  case vc4 => exact hu.2.2.1
  case vc5 =>
    have h1 : cur cfg _ = (view cfg _).mon := congrArg View.mon ‹view cfg _ = view cfg _›
    intro hv _ hs
    have h2 : cur cfg _ = cur cfg _ := congrArg View.mon hv
    exact outOK_zero cfg (h2.trans h1) hr hs h0

/-- the loop of `_run_sync_execute` -/
theorem execLoop_spec  : ∀ (fuel n : Nat), n + fuel = cfg.maxAttempts →
    ⦃fun w => ⌜flt w.trace = true ∨ Rel cfg n (view cfg w)⌝⦄ execLoop cfg tl fuel (n + 1) ⦃outPost cfg⦄ := by
  intro fuel
  induction fuel with
  | zero =>
    intro n hn
    refine triple_or (outpost_of_flt cfg fun w0 => execLoop_ext w0 cfg tl 0 (n + 1)) (of_ghost fun u hr => ?_)
    have h0 : n = 0 := by
      simp only [Rel] at hr
      omega
    subst h0
    exact buildExhaustedOutcome_spec cfg tl u hr (by omega)
  | succ f ih =>
    intro n hn
    have h1 := execAttempt_g cfg tl n (by omega)
    have h2 := ih (n + 1) (by omega)
    mvcgen [execLoop, h1, h2]
    all_goals (clear h1 h2)
    all_goals (try assumption)
    all_goals (
      rename_i s h
      by_cases hf : flt s.trace = true
      · exact Or.inl hf
      · exact Or.inr (rel_of_slept cfg _ _ (h (by simpa using hf))))

/-- `Retry.execute` -/
theorem runExecute_spec  :
    ⦃fun w => ⌜cur cfg w.trace = {} ∧ clk w.trace = {} ∧ flt w.trace = false⌝⦄ runExecute cfg
    ⦃outPost cfg⦄ := by
  have h1 := initState_spec cfg
  have h2 := execLoop_spec cfg cfg.timeline cfg.maxAttempts 0 (by omega)
  mvcgen [runExecute, h1, h2]
  all_goals (first | assumption | exact Or.inr (by assumption))

open Redress.Policy

/-- the verdict for a run that raises (`Exc` without the bookkeeping about aborts) -/
def ExcV (cfg : Cfg) (e : Exn) (w : World) : Prop :=
  flt w.trace = false → ExcCore cfg e (cur cfg w.trace) (clk w.trace).el w.trace

theorem excV_of_exc (e : Exn) (w : World) (h : Exc cfg e w) : ExcV cfg e w :=
  fun hf => (h hf).1

/-- the verdict for a run that returns a value -/
def RetV (cfg : Cfg) (w : World) : Prop :=
  flt w.trace = false →
    (cur cfg w.trace).bad = false ∧ (cur cfg w.trace).mustOp = false ∧
    (1 ≤ (cur cfg w.trace).ops → (cur cfg w.trace).done = true) ∧ (cur cfg w.trace).granted = false

theorem retV_of_retOK (w : World) (h : RetOK cfg w) : RetV cfg w := by
  intro hf
  obtain ⟨n, hS⟩ := h hf
  simp only [Succ, view_mon] at hS
  exact ⟨hS.2.2.1, hS.2.2.2.2.1, fun _ => hS.2.2.2.2.2.1, hS.2.2.2.2.2.2.2.2⟩

/-- requests made by the policy wrappers outside the retry loop -/
def polR : Req → Bool
  | .breakerAllow | .breakerSuccess | .breakerFailure _ | .breakerCancel => true
  | .metric ev .. => isBreakerEv ev
  | .log ev .. => isBreakerEv ev
  | _ => false

theorem step_pol (s : St) (x : Req × Ans) (el : Nat) (h : polR x.1 = true) : step cfg s x el = s := by
  obtain ⟨r, a⟩ := x
  cases r with
  | metric ev _ _ _ =>
    cases ev <;> simp_all [polR, step, abortKind, abortRaise, isBreakerEv] <;> (cases a <;> simp)
  | _ => simp_all [polR, step, abortKind, abortRaise] <;> (cases a <;> simp)

theorem polR_not_op (r : Req) (h : polR r = true) : isOp r = false := by
  cases r <;> simp_all [polR, isOp]

theorem polR_not_hook (r : Req) (h : polR r = true) : isAttemptHook r = false := by
  cases r <;> simp_all [polR, isAttemptHook]

theorem polR_prelude_or (r : Req) (h : polR r = true) :
    isPrelude r = true ∨ r = .breakerSuccess ∨ (∃ k, r = .breakerFailure k) ∨ r = .breakerCancel := by
  cases r <;> simp_all [polR, isPrelude]

theorem pol_append  (δ t : List (Req × Ans)) (h : ∀ x ∈ δ, polR x.1 = true) :
    cur cfg (δ ++ t) = cur cfg t ∧ flt (δ ++ t) = flt t ∧ (clk t).el ≤ (clk (δ ++ t)).el := by
  induction δ with
  | nil => simp
  | cons x δ ih =>
    have hx := h x (by simp)
    have := ih (fun y hy => h y (by simp [hy]))
    refine ⟨?_, ?_, ?_⟩
    · simp only [List.cons_append, cur_cons, this.1]
      exact step_pol cfg _ x _ hx
    · obtain ⟨r, a⟩ := x
      rw [List.cons_append, flt_cons, this.2.1]
      cases a <;> simp [hookRaise, polR_not_hook r hx]
    · simp only [List.cons_append, clk_cons, Clock.tick]
      split
      · exact this.2.2
      · exact Nat.le_trans this.2.2 (Nat.le_add_right _ _)

theorem raisedBy_mono (p : Req → Bool) (δ t : List (Req × Ans)) (e : Exn) (h : raisedBy p t e = true) :
    raisedBy p (δ ++ t) e = true := by
  rw [raisedBy_append, h]; simp

theorem anyStop_mono (m : St) {el el' : Nat} (h : el ≤ el') (ha : anyStop cfg m el = true) :
    anyStop cfg m el' = true := by
  simp only [anyStop, List.any_eq_true] at ha ⊢
  obtain ⟨r, hr, hc⟩ := ha
  exact ⟨r, hr, stopCond_mono cfg m h r hc⟩

theorem excCore_grow (e : Exn) (m : St) {el el' : Nat} (t δ : List (Req × Ans))
    (h : ExcCore cfg e m el t) (hel : el ≤ el') : ExcCore cfg e m el' (δ ++ t) := by
  refine ⟨h.bad, h.must, fun f hf => ?_, fun h1 h2 h3 h4 h5 => ?_, fun hg => ⟨(h.grant hg).1, ?_⟩⟩
  · rcases h.stop f hf with h | h
    · exact Or.inl (raisedBy_mono _ _ _ _ h)
    · exact Or.inr (stopCond_mono cfg m hel _ h)
  · rcases h.give h1 h2 h3 h4 h5 with h | h | ⟨h, h', h''⟩
    · exact Or.inl (raisedBy_mono _ _ _ _ h)
    · exact Or.inr (Or.inl h)
    · exact Or.inr (Or.inr ⟨raisedBy_mono _ _ _ _ h, h', anyStop_mono cfg m hel h''⟩)
  · rcases (h.grant hg).2 with h | h | h
    · exact Or.inl h
    · exact Or.inr (Or.inl h)
    · refine Or.inr (Or.inr fun f hf => ?_)
      rcases h f hf with h | h
      · exact Or.inl (raisedBy_mono _ _ _ _ h)
      · exact Or.inr h

/-- what any exception raised by a callback of the wrappers needs from the state it was raised in -/
def Bv (cfg : Cfg) (w : World) : Prop :=
  flt w.trace = false →
    (cur cfg w.trace).bad = false ∧ (cur cfg w.trace).mustOp = false ∧ GrantInv cfg (cur cfg w.trace)

theorem bv_of_retV (w : World) (h : RetV cfg w) : Bv cfg w := by
  intro hf
  obtain ⟨h1, h2, _, h4⟩ := h hf
  exact ⟨h1, h2, fun hg => by simp [h4] at hg⟩

theorem bv_of_excV (e : Exn) (w : World) (h : ExcV cfg e w) : Bv cfg w := by
  intro hf
  have := h hf
  exact ⟨this.bad, this.must, fun hg hm => (this.grant hg).1 hm⟩

theorem excV_of_raised  {w' : World} {e : Exn} {r : Req} {d : Nat} {t : List (Req × Ans)}
    (ht : w'.trace = (r, Ans.raise e d) :: t) (hnop : isOp r = false)
    (hb : (cur cfg w'.trace).bad = false) (hm : (cur cfg w'.trace).mustOp = false)
    (hg : GrantInv cfg (cur cfg w'.trace)) : ExcV cfg e w' := by
  intro _
  have hrb : raisedBy nonOp w'.trace e = true := by
    rw [ht]; exact raisedBy_head _ _ _ _ _ (by simp [nonOp, hnop])
  exact ⟨hb, hm, fun f _ => Or.inl (raisedBy_any_of _ _ _ hrb), fun _ _ _ _ _ => Or.inl hrb,
    fun h => ⟨hg h, Or.inr (Or.inr fun f _ => Or.inl (raisedBy_any_of _ _ _ hrb))⟩⟩

theorem pol_spec {α : Type} {x : M α} (cfg : Cfg) (R : Req → Bool) (hR : ∀ r, R r = true → polR r = true)
    (hx : ∀ w0, ⦃fun w => ⌜FootQ R w0 w⌝⦄ x ⦃fqPost R w0⦄) (I : World → Prop)
    (hI : ∀ w w' δ, w'.trace = δ ++ w.trace → (∀ y ∈ δ, R y.1 = true) → w'.rs = w.rs → I w → I w')
    (hB : ∀ w, I w → Bv cfg w) :
    ⦃fun w => ⌜I w⌝⦄ x ⦃post⟨fun _ w => ⌜I w⌝, fun e w => ⌜ExcV cfg e w⌝⟩⦄ := by
  apply triple_of_run
  intro w hw
  have := adequacy (hx w) w (FootQ.refl R w)
  split
  · rename_i a w' heq
    rw [heq] at this
    have this : FootQ R w w' := this
    obtain ⟨δ, et, q, _⟩ := this.trace
    exact hI _ _ δ et (fun y hy => (q y hy).1) this.rs hw
  · rename_i e w' heq
    rw [heq] at this
    have this : FootE R e w w' := this
    obtain ⟨δ, et, _, r, d, δ', hd, hr, q⟩ := this.trace
    have hI' := hI w w' δ et (by
      intro y hy
      rw [hd] at hy
      rcases List.mem_cons.mp hy with rfl | hy
      · exact hr
      · exact (q y hy).1) this.rs hw
    show ExcV cfg e w'
    intro hf
    obtain ⟨h1, h2, h3⟩ := hB _ hI' hf
    exact excV_of_raised cfg (by rw [et, hd]; rfl) (polR_not_op r (hR r hr)) h1 h2 h3 hf

theorem retV_grow (w w' : World) (δ : List (Req × Ans)) (ht : w'.trace = δ ++ w.trace)
    (hd : ∀ y ∈ δ, polR y.1 = true) (h : RetV cfg w) : RetV cfg w' := by
  have := pol_append cfg δ w.trace hd
  intro hf
  rw [ht, this.2.1] at hf
  rw [ht, this.1]
  exact h hf

theorem excV_grow (e : Exn) (w w' : World) (δ : List (Req × Ans)) (ht : w'.trace = δ ++ w.trace)
    (hd : ∀ y ∈ δ, polR y.1 = true) (h : ExcV cfg e w) : ExcV cfg e w' := by
  have := pol_append cfg δ w.trace hd
  intro hf
  rw [ht, this.2.1] at hf
  rw [ht, this.1]
  exact excCore_grow cfg e _ _ _ (h hf) this.2.2

theorem outOK_grow (o : Outcome) (w w' : World) (δ : List (Req × Ans))
    (ht : w'.trace = δ ++ w.trace) (hd : ∀ y ∈ δ, polR y.1 = true) (h : OutOK cfg o w) : OutOK cfg o w' := by
  have := pol_append cfg δ w.trace hd
  intro hf
  rw [ht, this.2.1] at hf
  rw [ht, this.1]
  have h' := h hf
  exact ⟨h'.bad, h'.must, fun r hr => stopCond_mono cfg _ this.2.2 r (h'.stop r hr), h'.give, h'.grant⟩

/-- how a call ends, as far as the verdict is concerned -/
inductive Rz
  | ret
  | exn (e : Exn)
  | out (o : Outcome)

def Inv (cfg : Cfg) (z : Rz) (w : World) : Prop :=
  match z with
  | .ret => RetV cfg w
  | .exn e => ExcV cfg e w
  | .out o => OutOK cfg o w

theorem inv_grow (z : Rz) (w w' : World) (δ : List (Req × Ans)) (ht : w'.trace = δ ++ w.trace)
    (hd : ∀ y ∈ δ, polR y.1 = true) (h : Inv cfg z w) : Inv cfg z w' := by
  cases z with
  | ret => exact retV_grow cfg w w' δ ht hd h
  | exn e => exact excV_grow cfg e w w' δ ht hd h
  | out o => exact outOK_grow cfg o w w' δ ht hd h

theorem bv_of_inv (z : Rz) (w : World) (h : Inv cfg z w) : Bv cfg w := by
  cases z with
  | ret => exact bv_of_retV cfg w h
  | exn e => exact bv_of_excV cfg e w h
  | out o =>
    intro hf
    have := h hf
    exact ⟨this.bad, this.must, fun hg hm => (this.grant hg).1 hm⟩

theorem isCircuit_eq (ev : Event) : ev.isCircuit = isBreakerEv ev := by
  cases ev <;> rfl

theorem polR_metric (ev : Event) (h : ev.isCircuit = true) (t : Tags) : polR (.metric ev 0 0 t) = true := by
  simpa [polR, isCircuit_eq] using h

theorem polR_log (ev : Event) (h : ev.isCircuit = true) (t : Tags) : polR (.log ev 0 0 t none) = true := by
  simpa [polR, isCircuit_eq] using h

abbrev invPost (cfg : Cfg) (z : Rz) : PostCond α (.except Exn (.arg World .pure)) :=
  post⟨fun _ w => ⌜Inv cfg z w⌝, fun e w => ⌜Inv cfg (.exn e) w⌝⟩

section polLeaves
variable (cfg : Cfg) (z : Rz)

theorem inv_spec {α : Type} {x : M α} (hx : ∀ w0, ⦃fun w => ⌜FootQ polR w0 w⌝⦄ x ⦃fqPost polR w0⦄) :
    ⦃fun w => ⌜Inv cfg z w⌝⦄ x ⦃invPost cfg z⦄ :=
  pol_spec cfg polR (fun _ h => h) hx (Inv cfg z)
    (fun w w' δ ht hd _ h => inv_grow cfg z w w' δ ht hd h) (bv_of_inv cfg z)

theorem recordSuccess_p : ⦃fun w => ⌜Inv cfg z w⌝⦄ Policy.recordSuccess cfg ⦃invPost cfg z⦄ :=
  inv_spec cfg z (fun w0 => recordSuccess_fq polR w0 polR_metric polR_log cfg rfl)

theorem recordCancel_p : ⦃fun w => ⌜Inv cfg z w⌝⦄ Policy.recordCancel cfg ⦃invPost cfg z⦄ :=
  inv_spec cfg z (fun w0 => recordCancel_fq polR w0 cfg rfl)

theorem recordFailure_p (k : EClass) : ⦃fun w => ⌜Inv cfg z w⌝⦄ Policy.recordFailure cfg k ⦃invPost cfg z⦄ :=
  inv_spec cfg z (fun w0 => recordFailure_fq polR w0 polR_metric polR_log cfg k (fun _ => rfl))

theorem handleExhaustedCall_p (e : Exn) :
    ⦃fun w => ⌜Inv cfg z w⌝⦄ handleExhaustedCall cfg e ⦃invPost cfg z⦄ :=
  inv_spec cfg z (fun w0 => handleExhaustedCall_fq polR w0 polR_metric polR_log cfg e (fun _ => rfl))

theorem policyOutcome_p (ok : Bool) (value : Option Nat) (stop : Option StopReason) (attempts : Nat)
    (lc : Option EClass) (le : Option String) (cause : Option Cause) :
    ⦃fun w => ⌜Inv cfg z w⌝⦄ policyOutcome ok value stop attempts lc le cause ⦃invPost cfg z⦄ :=
  inv_spec cfg z (fun w0 => policyOutcome_fq polR w0 ok value stop attempts lc le cause)

end polLeaves

theorem overClass_sawAbort (m : St) (b : Bool) :
    overClass cfg { m with sawAbort := b } = overClass cfg m := by
  funext k; simp [overClass]

theorem overUnknown_sawAbort (m : St) (b : Bool) :
    C03.overUnknown cfg { m with sawAbort := b } = C03.overUnknown cfg m := by
  simp [C03.overUnknown]

theorem anyStop_sawAbort (m : St) (b : Bool) (el : Nat) :
    anyStop cfg { m with sawAbort := b } el = anyStop cfg m el := by
  simp [anyStop, stopCond, overClass_sawAbort, overUnknown_sawAbort]

/-- `Policy.call` asks the classifier once more, for the breaker: the verdict about the exception that is
    being re-raised is not affected -/
theorem excCore_classifyStep (e : Exn) (m : St) (el el' el'' : Nat) (t : List (Req × Ans))
    (r : String) (a : Ans) (h : ExcCore cfg e m el t) (hex : e.isExhausted = false) (hel : el ≤ el') :
    ExcCore cfg e (step cfg m (.classify r, a) el'') el' ((.classify r, a) :: t) := by
  have hne : ∀ f, e ≠ .libExhausted f := fun f hf => by subst hf; simp at hex
  have hg := excCore_grow cfg e m t [(Req.classify r, a)] h hel
  have key : ∀ m' : St, m'.bad = m.bad → m'.mustOp = m.mustOp → m'.ops = m.ops → m'.done = m.done →
      m'.sawOther = m.sawOther → m'.granted = m.granted → m'.retryEv = m.retryEv → m'.slept = m.slept →
      m'.decision = m.decision →
      (m.classified = true → m'.classified = true ∧ anyStop cfg m' el' = anyStop cfg m el') →
      ExcCore cfg e m' el' ((.classify r, a) :: t) := by
    intro m' h1 h2 h3 h4 h5 h6 h7 h8 h9 h10
    refine ⟨h1 ▸ hg.bad, h2 ▸ hg.must, fun f hf => absurd hf (hne f), fun a1 a2 a3 a4 a5 => ?_, fun a1 => ?_⟩
    · rcases hg.give (h3 ▸ a1) (h4 ▸ a2) a3 a4 a5 with g | g | ⟨g1, g2, g3⟩
      · exact Or.inl g
      · exact Or.inr (Or.inl ⟨g.1, h5 ▸ g.2⟩)
      · exact Or.inr (Or.inr ⟨g1, (h10 g2).1, (h10 g2).2 ▸ g3⟩)
    · have := hg.grant (h6 ▸ a1)
      rw [h7, h8, h9]
      exact this
  cases a with
  | klass c d =>
    simp only [step, abortRaise, Bool.or_false]
    by_cases hc : m.classified = true
    · have hcl : classify { m with sawAbort := m.sawAbort } c.klass = { m with sawAbort := m.sawAbort } := by
        simp [classify, hc]
      rw [hcl]
      apply key <;> simp
    · have hc' : m.classified = false := by simpa using hc
      apply key <;> simp [classify, hc']
  | _ =>
    simp only [step, abortRaise, abortKind, Bool.and_true]
    apply key <;> simp [anyStop_sawAbort]

theorem classify_step_fields (m : St) (r : String) (a : Ans) (el : Nat) :
    (step cfg m (.classify r, a) el).bad = m.bad ∧ (step cfg m (.classify r, a) el).mustOp = m.mustOp ∧
    (step cfg m (.classify r, a) el).granted = m.granted ∧ (step cfg m (.classify r, a) el).retryEv = m.retryEv := by
  cases a <;> simp [step, classify, abortRaise] <;> split <;> simp

theorem flt_classify (r : String) (a : Ans) (t : List (Req × Ans)) : flt ((Req.classify r, a) :: t) = flt t := by
  rw [flt_cons]; cases a <;> simp [hookRaise, isAttemptHook]

theorem clk_classify_le (r : String) (a : Ans) (t : List (Req × Ans)) :
    (clk t).el ≤ (clk ((Req.classify r, a) :: t)).el := by
  simp [Clock.tick, isPrelude]

theorem inv_classify_keep (e0 : Exn) (w w' : World) (r : String) (a : Ans)
    (ht : w'.trace = (Req.classify r, a) :: w.trace) (hex : e0.isExhausted = false)
    (h : Inv cfg (.exn e0) w) : Inv cfg (.exn e0) w' := by
  simp only [Inv, ExcV] at h ⊢
  rw [ht, flt_classify]
  intro hf
  exact excCore_classifyStep cfg e0 _ _ _ _ _ r a (h hf) hex (clk_classify_le r a w.trace)

theorem inv_classify_raise (e0 e1 : Exn) (w w' : World) (r : String) (d : Nat)
    (ht : w'.trace = (Req.classify r, Ans.raise e1 d) :: w.trace) (h : Inv cfg (.exn e0) w) :
    Inv cfg (.exn e1) w' := by
  simp only [Inv] at h ⊢
  intro hf
  have hf' : flt w.trace = false := by rw [ht, flt_classify] at hf; exact hf
  obtain ⟨h1, h2, h3⟩ := bv_of_excV cfg e0 w h hf'
  have hs := classify_step_fields cfg (cur cfg w.trace) r (Ans.raise e1 d) ((clk w.trace).tick (Req.classify r, Ans.raise e1 d)).el
  refine excV_of_raised cfg ht rfl ?_ ?_ ?_ hf
  · rw [ht, cur_cons, hs.1]; exact h1
  · rw [ht, cur_cons, hs.2.1]; exact h2
  · rw [ht, cur_cons]; intro hg hm; rw [hs.2.2.2]; rw [hs.2.2.1] at hg; exact h3 hg hm

theorem inv_classify_stuck (e0 : Exn) (w w' : World) (r : String) (a : Ans)
    (ht : w'.trace = (Req.classify r, a) :: w.trace) (h : Inv cfg (.exn e0) w) :
    Inv cfg (.exn .stuck) w' := by
  simp only [Inv] at h ⊢
  intro hf
  have hf' : flt w.trace = false := by rw [ht, flt_classify] at hf; exact hf
  obtain ⟨h1, h2, h3⟩ := bv_of_excV cfg e0 w h hf'
  have hs := classify_step_fields cfg (cur cfg w.trace) r a ((clk w.trace).tick (Req.classify r, a)).el
  rw [ht, cur_cons]
  refine ⟨hs.1 ▸ h1, hs.2.1 ▸ h2, fun f hf => by simp at hf, fun _ _ hx => by simp at hx,
    fun hg => ⟨fun hm => ?_, Or.inr (Or.inr fun f hf => by simp at hf)⟩⟩
  rw [hs.2.2.2]; rw [hs.2.2.1] at hg; exact h3 hg hm

/-- `classify_for_breaker` -/
theorem callClassifier_p (e0 e' : Exn) (hex : e0.isExhausted = false) :
    ⦃fun w => ⌜Inv cfg (.exn e0) w⌝⦄ callClassifier e' ⦃invPost cfg (.exn e0)⦄ := by
  mvcgen [callClassifier, ask_trace]
  · exact inv_classify_keep cfg e0 _ _ _ _ (‹_ ∧ _›).2 hex ‹_›
  · exact inv_classify_stuck cfg e0 _ _ _ _ (‹_ ∧ _›).2 ‹_›
  · exact fun ⟨d, ht⟩ => inv_classify_raise cfg e0 _ _ _ _ d ht ‹_›

/-- requests made before the retry state exists -/
def preR : Req → Bool
  | .breakerAllow => true
  | .metric ev .. => isBreakerEv ev
  | .log ev .. => isBreakerEv ev
  | _ => false

theorem preR_polR (r : Req) (h : preR r = true) : polR r = true := by
  cases r <;> simp_all [preR, polR]

theorem preR_prelude (r : Req) (h : preR r = true) : isPrelude r = true := by
  cases r <;> simp_all [preR, isPrelude]

/-- nothing that concerns the monitor has happened yet -/
def Pre0 (cfg : Cfg) (w : World) : Prop :=
  cur cfg w.trace = {} ∧ clk w.trace = {} ∧ flt w.trace = false

theorem clk_prelude (δ t : List (Req × Ans)) (hd : ∀ y ∈ δ, isPrelude y.1 = true) (h : clk t = {}) :
    clk (δ ++ t) = {} := by
  induction δ with
  | nil => simpa using h
  | cons x δ ih =>
    have := ih (fun y hy => hd y (by simp [hy]))
    simp [this, Clock.tick, hd x (by simp)]

theorem pre0_grow (w w' : World) (δ : List (Req × Ans)) (ht : w'.trace = δ ++ w.trace)
    (hd : ∀ y ∈ δ, preR y.1 = true) (h : Pre0 cfg w) : Pre0 cfg w' := by
  have hp := pol_append cfg δ w.trace (fun y hy => preR_polR _ (hd y hy))
  have hc := clk_prelude δ w.trace (fun y hy => preR_prelude _ (hd y hy)) h.2.1
  exact ⟨by rw [ht, hp.1]; exact h.1, by rw [ht]; exact hc, by rw [ht, hp.2.1]; exact h.2.2⟩

theorem bv_of_pre0 (w : World) (h : Pre0 cfg w) : Bv cfg w := by
  intro _
  rw [h.1]
  exact ⟨rfl, rfl, fun hg => by simp at hg⟩

theorem inv_exn_of_pre0 (w : World) (e : Exn) (h : Pre0 cfg w) (hne : ∀ f, e ≠ .libExhausted f) :
    Inv cfg (.exn e) w := by
  intro _
  rw [h.1]
  exact ⟨rfl, rfl, fun f hf => absurd hf (hne f), fun h1 => by simp at h1, fun hg => by simp at hg⟩

theorem inv_out_of_pre0 (w : World) (o : Outcome) (h : Pre0 cfg w) (hs : o.stop = none) :
    Inv cfg (.out o) w := by
  intro _
  rw [h.1]
  exact ⟨rfl, rfl, fun r hr => by simp [hs] at hr, fun h1 => by simp at h1, fun hg => by simp at hg⟩

theorem pre_spec {α : Type} {x : M α} (cfg : Cfg)
    (hx : ∀ w0, ⦃fun w => ⌜FootQ preR w0 w⌝⦄ x ⦃fqPost preR w0⦄) :
    ⦃fun w => ⌜Pre0 cfg w⌝⦄ x ⦃post⟨fun _ w => ⌜Pre0 cfg w⌝, fun e w => ⌜Inv cfg (.exn e) w⌝⟩⦄ :=
  pol_spec cfg preR preR_polR hx (Pre0 cfg)
    (fun w w' δ ht hd _ h => pre0_grow cfg w w' δ ht hd h) (bv_of_pre0 cfg)

theorem preR_metric (ev : Event) (h : ev.isCircuit = true) (t : Tags) : preR (.metric ev 0 0 t) = true := by
  simpa [preR, isCircuit_eq] using h

theorem preR_log (ev : Event) (h : ev.isCircuit = true) (t : Tags) : preR (.log ev 0 0 t none) = true := by
  simpa [preR, isCircuit_eq] using h

theorem emitBreakerEvent_pre (ev : Option Event) (st : CState) (k : Option EClass)
    (hev : ∀ ev', ev = some ev' → ev'.isCircuit = true) :
    ⦃fun w => ⌜Pre0 cfg w⌝⦄ emitBreakerEvent cfg ev st k
    ⦃post⟨fun _ w => ⌜Pre0 cfg w⌝, fun e w => ⌜Inv cfg (.exn e) w⌝⟩⦄ :=
  pre_spec cfg (fun w0 => emitBreakerEvent_fq preR w0 cfg ev st k
    (fun ev' h t => preR_metric ev' (hev ev' h) t) (fun ev' h t => preR_log ev' (hev ev' h) t))

/-- `breaker.allow()` -/
theorem breakerAllow_pre (bc : Breaker.Cfg) :
    ⦃fun w => ⌜Pre0 cfg w⌝⦄ breakerAllow bc
    ⦃post⟨fun d w => ⌜(∀ ev', d.2.2 = some ev' → ev'.isCircuit = true) ∧ Pre0 cfg w⌝,
          fun e w => ⌜Inv cfg (.exn e) w⌝⟩⦄ := by
  mvcgen [breakerAllow]
  rename_i s h
  exact ⟨fun ev' hev => Breaker.allow_ev bc s.breaker s.now ev' hev, pre0_grow cfg s _ [_] rfl (by simp [preR]) h⟩

theorem runCall_p  :
    ⦃fun w => ⌜Pre0 cfg w⌝⦄ runCall cfg ⦃invPost cfg .ret⦄ := by
  apply triple_of_run
  intro w hw
  have := adequacy (runCall_spec cfg) w hw
  split <;> simp_all
  · exact retV_of_retOK cfg _ this
  · exact excV_of_exc cfg _ _ this

theorem runExecute_p  :
    ⦃fun w => ⌜Pre0 cfg w⌝⦄ runExecute cfg
    ⦃post⟨fun o w => ⌜Inv cfg (.out o) w⌝, fun e w => ⌜Inv cfg (.exn e) w⌝⟩⦄ := by
  apply triple_of_run
  intro w hw
  have := adequacy (runExecute_spec cfg) w hw
  split <;> simp_all
  · exact this
  · exact excV_of_exc cfg _ _ this

theorem checkBreaker_pre  :
    ⦃fun w => ⌜Pre0 cfg w⌝⦄ checkBreaker cfg
    ⦃post⟨fun _ w => ⌜Pre0 cfg w⌝, fun e w => ⌜Inv cfg (.exn e) w⌝⟩⦄ := by
  have h1 := breakerAllow_pre cfg
  have h2 := fun ev st k hev => emitBreakerEvent_pre cfg ev st k hev
  mvcgen [checkBreaker, h1, h2]
  all_goals (clear h1 h2)
  all_goals (try (simp_all; done))
  all_goals (exact inv_exn_of_pre0 cfg _ _ (by assumption) (by simp))

section ladders
variable (cfg : Cfg) (hret : cfg.hasRetry = true) (e : Exn)
include hret

/-- `_handle_abort_call` with a retry component: the cancel is recorded -/
theorem handleAbortCall_p : ⦃fun w => ⌜Inv cfg (.exn e) w⌝⦄ handleAbortCall cfg e ⦃invPost cfg (.exn e)⦄ := by
  have h := recordCancel_p cfg (.exn e)
  unfold handleAbortCall
  simp only [hret, Bool.not_true, Bool.false_eq_true, if_false]
  mvcgen [h]

/-- `_handle_exception_call` with a retry component: the classifier is asked once more, the failure recorded -/
theorem handleExceptionCall_p (b : Bool) (hex : e.isExhausted = false) :
    ⦃fun w => ⌜Inv cfg (.exn e) w⌝⦄ handleExceptionCall cfg e b ⦃invPost cfg (.exn e)⦄ := by
  have h1 := callClassifier_p cfg e e hex
  have h2 := recordFailure_p cfg (.exn e)
  unfold handleExceptionCall classifyForBreaker
  simp only [hret, Bool.not_true, Bool.false_and, Bool.false_eq_true, if_false, if_true]
  mvcgen [h1, h2]

theorem callLadder_p : ⦃fun w => ⌜Inv cfg (.exn e) w⌝⦄ callLadder cfg e ⦃invPost cfg .ret⦄ :=
  callLadder_rule (E := fun e => Inv cfg (.exn e)) e (fun _ => recordCancel_p cfg _)
    (fun _ => handleAbortCall_p cfg hret e) (fun _ => handleExhaustedCall_p cfg _ e)
    (fun _ _ => handleExceptionCall_p cfg hret e true) (fun _ _ h => h)

theorem executeLadder_p :
    ⦃fun w => ⌜Inv cfg (.exn e) w⌝⦄ executeLadder cfg e ⦃exits (fun o => Inv cfg (.out o)) fun e => Inv cfg (.exn e)⦄ :=
  executeLadder_rule (E := fun e => Inv cfg (.exn e)) e (fun _ => handleExhaustedCall_p cfg _ e)
    (fun _ => recordCancel_p cfg _) (fun _ _ => handleExceptionCall_p cfg hret e false) (fun _ _ h => h)

end ladders

/-- `Policy.call` with a retry component -/
theorem call_retry_spec (hret : cfg.hasRetry = true) :
    ⦃fun w => ⌜Pre0 cfg w⌝⦄ Policy.call cfg ⦃invPost cfg .ret⦄ :=
  settled_rule (P := Pre0 cfg) (E := fun e => Inv cfg (.exn e)) (fun _ h => h)
    (callAdmitted_retry_rule hret (checkBreaker_pre cfg) (runCall_p cfg) (fun _ => recordSuccess_p cfg .ret)
      (callLadder_p cfg hret))
    (fun _ => recordCancel_p cfg .ret) (fun e => recordCancel_p cfg (.exn e))

/-- `Policy.execute` with a retry component: a rejected call returns an outcome without a stop reason -/
theorem execute_retry_spec (hret : cfg.hasRetry = true) :
    ⦃fun w => ⌜Pre0 cfg w⌝⦄ Policy.execute cfg
    ⦃post⟨fun o w => ⌜Inv cfg (.out o) w⌝, fun e w => ⌜Inv cfg (.exn e) w⌝⟩⦄ :=
  settled_rule (P := Pre0 cfg) (E := fun e => Inv cfg (.exn e)) (fun _ h => h)
    (executeAdmitted_rule (Pd := fun _ => Pre0 cfg) (breakerAllow_pre cfg)
      (fun d => triple_pure fun hev => emitBreakerEvent_pre cfg d.2.2 d.2.1 none hev)
      (fun _ _ _ h => h) (fun _ w _ h => inv_out_of_pre0 cfg w _ h rfl)
      (executeAdmitted2_retry_rule hret (runExecute_p cfg) (executeLadder_p cfg hret)
        (fun o => recordSuccess_p cfg (.out o)) (fun o k => recordFailure_p cfg (.out o) k)
        (fun o => recordCancel_p cfg (.out o))))
    (fun o => recordCancel_p cfg (.out o)) (fun e => recordCancel_p cfg (.exn e))

def verdict (cfg : Cfg) (t : Trace) (s : St) (r : Res) : Bool :=
  !s.bad && stopSound cfg t s r && !s.mustOp && giveUpOk cfg t s r && grantOk cfg t s r

theorem ok_eq (e : Entry) (tr : List (Req × Ans)) (r : Res) :
    Mon.C03.ok cfg e tr.reverse r =
      if hasLoop cfg e && !flt tr then verdict cfg tr.reverse (cur cfg tr) r else true := by
  simp only [Mon.C03.ok, verdict, run_reverse, fault_reverse]

theorem verdict_ret (w : World) (v : Nat) (h : RetV cfg w) (hf : flt w.trace = false) :
    verdict cfg w.trace.reverse (cur cfg w.trace) (.ret v) = true := by
  obtain ⟨h1, h2, h3, h4⟩ := h hf
  simp only [verdict, stopSound, stopOf, giveUpOk, grantOk, h1, h2, h4]
  by_cases ho : (cur cfg w.trace).ops = 0
  · simp [ho]
  · have := h3 (by omega)
    simp [this]

theorem stopOf_cases (t : Trace) (e : Exn) :
    stopOf t (.raised e) = none ∨
    ∃ f, e = .libExhausted f ∧ raisedBy (fun _ => true) t e = false ∧ stopOf t (.raised e) = some f.stop := by
  cases e <;> simp [stopOf]

theorem verdict_exn (w : World) (e : Exn) (h : ExcV cfg e w) (hf : flt w.trace = false) :
    verdict cfg w.trace.reverse (cur cfg w.trace) (.raised e) = true := by
  have hc := h hf
  have hstop : stopSound cfg w.trace.reverse (cur cfg w.trace) (.raised e) = true := by
    rcases stopOf_cases w.trace.reverse e with h | ⟨f, he, hnr, hs⟩
    · simp [stopSound, h]
    · simp only [stopSound, hs, elapsedOf_reverse]
      rw [raisedBy_reverse] at hnr
      rcases hc.stop f he with h | h
      · rw [h] at hnr; cases hnr
      · exact h
  have hgive : giveUpOk cfg w.trace.reverse (cur cfg w.trace) (.raised e) = true := by
    simp only [giveUpOk, raisedBy_reverse, elapsedOf_reverse]
    by_cases h0 : ((cur cfg w.trace).ops == 0 || (cur cfg w.trace).done) = true
    · simp [h0]
    · by_cases hx : (!e.isException || e.isAbort || e.isExhausted) = true
      · simp [hx]
      · simp only [h0, hx, Bool.false_eq_true, if_false]
        simp only [Bool.or_eq_true, beq_iff_eq, not_or, Bool.not_eq_true] at h0
        simp only [Bool.or_eq_true, Bool.not_eq_eq_eq_not, Bool.not_true, not_or, Bool.not_eq_true,
          Bool.not_eq_false] at hx
        rcases hc.give (by omega) h0.2 hx.1.1 hx.1.2 hx.2 with g | g | g
        · simp [g]
        · simp [g.1, g.2]
        · simp [g.1, g.2.1, g.2.2]
  have hgrant : grantOk cfg w.trace.reverse (cur cfg w.trace) (.raised e) = true := by
    simp only [grantOk]
    by_cases hg : (cur cfg w.trace).granted = true
    · obtain ⟨g1, g2⟩ := hc.grant hg
      have g1' : (!cfg.metric || (cur cfg w.trace).retryEv) = true := by
        cases hm : cfg.metric <;> simp_all
      simp only [hg, Bool.not_true, Bool.false_or, g1', Bool.true_and]
      rcases g2 with g | g | g
      · simp [g]
      · simp [g]
      · rcases stopOf_cases w.trace.reverse e with h | ⟨f, he, hnr, hs⟩
        · simp [h]
        · rw [raisedBy_reverse] at hnr
          rcases g f he with g | g
          · rw [g] at hnr; cases hnr
          · simp [hs, g]
    · simp [hg]
  simp [verdict, hc.bad, hc.must, hstop, hgive, hgrant]

theorem verdict_out (w : World) (o : Outcome) (tl : List TimelineEv) (h : OutOK cfg o w)
    (hf : flt w.trace = false) :
    verdict cfg w.trace.reverse (cur cfg w.trace) (.outcome o tl) = true := by
  have hc := h hf
  have hstop : stopSound cfg w.trace.reverse (cur cfg w.trace) (.outcome o tl) = true := by
    simp only [stopSound, stopOf, elapsedOf_reverse]
    cases hs : o.stop with
    | none => rfl
    | some r => exact hc.stop r hs
  have hgive : giveUpOk cfg w.trace.reverse (cur cfg w.trace) (.outcome o tl) = true := by
    simp only [giveUpOk]
    by_cases h0 : ((cur cfg w.trace).ops == 0 || (cur cfg w.trace).done) = true
    · simp [h0]
    · simp only [h0, Bool.false_eq_true, if_false]
      simp only [Bool.or_eq_true, beq_iff_eq, not_or, Bool.not_eq_true] at h0
      obtain ⟨g1, g2⟩ := hc.give (by omega) h0.2
      simp [g1, g2]
  have hgrant : grantOk cfg w.trace.reverse (cur cfg w.trace) (.outcome o tl) = true := by
    simp only [grantOk, stopOf]
    by_cases hg : (cur cfg w.trace).granted = true
    · obtain ⟨g1, g2⟩ := hc.grant hg
      have g1' : (!cfg.metric || (cur cfg w.trace).retryEv) = true := by
        cases hm : cfg.metric <;> simp_all
      simp only [hg, Bool.not_true, Bool.false_or, g1', Bool.true_and]
      rcases g2 with g | g | g | g <;> simp [g]
    · simp [hg]
  simp [verdict, hc.bad, hc.must, hstop, hgive, hgrant]

theorem pre0_start (w : World) : Pre0 cfg (startWorld w) := ⟨rfl, rfl, rfl⟩

def ResOK (cfg : Cfg) (r : Res) (w : World) : Prop :=
  match r with
  | .ret _ => Inv cfg .ret w
  | .raised x => Inv cfg (.exn x) w
  | .outcome o _ => Inv cfg (.out o) w

theorem ok_of_inv (e : Entry) (w : World) (r : Res) (h : ResOK cfg r w) :
    Mon.C03.ok cfg e w.trace.reverse r = true := by
  rw [ok_eq]
  split
  · rename_i hg
    have hf : flt w.trace = false := by
      have := (Bool.and_eq_true _ _ ▸ hg).2
      simpa using this
    cases r with
    | ret v => exact verdict_ret cfg w v h hf
    | raised x => exact verdict_exn cfg w x h hf
    | outcome o tl => exact verdict_out cfg w o tl h hf
  · rfl

/--
**C03.**  For every configuration, every entry point (`Retry`/`Policy` × `call`/`execute`) and every world
— every answer stream, clock value and state of a shared budget or breaker — the run satisfies the
"retry exactly when permitted" monitor (`Mon.C03.ok`; each clause is restated below).
-/
theorem permitted_holds (cfg : Cfg) (e : Entry) (w : World) :
    Mon.C03.ok cfg e (runEntry cfg e w).2.trace.reverse (runEntry cfg e w).1 = true := by
  cases e with
  | call =>
    exact ok_of_inv cfg .call _ _ (toRes_of_triple (Q := ResOK cfg) (runCall_p cfg) _ (pre0_start cfg w))
  | execute =>
    exact ok_of_inv cfg .execute _ _
      (toResO_of_triple (Q := ResOK cfg) cfg.timeline (runExecute_p cfg) _ (pre0_start cfg w))
  | pcall =>
    cases hret : cfg.hasRetry with
    | true =>
      exact ok_of_inv cfg .pcall _ _
        (toRes_of_triple (Q := ResOK cfg) (call_retry_spec cfg hret) _ (pre0_start cfg w))
    | false => simp [Mon.C03.ok, hasLoop, hret, Entry.isPolicy]
  | pexecute =>
    cases hret : cfg.hasRetry with
    | true =>
      exact ok_of_inv cfg .pexecute _ _
        (toResO_of_triple (Q := ResOK cfg) (cfg.timeline && cfg.hasRetry) (execute_retry_spec cfg hret) _
          (pre0_start cfg w))
    | false => simp [Mon.C03.ok, hasLoop, hret, Entry.isPolicy]

/-- …and therefore of every call in every script of calls and clock advances on ONE policy object -/
theorem permitted_holds_script (cfg : Cfg) : ∀ (steps : List Step) (w : World),
    ∀ l ∈ (runScript cfg steps w).1, Mon.C03.ok cfg l.entry l.trace l.res = true :=
  forall_script (P := fun e t r => Mon.C03.ok cfg e t r = true) cfg (permitted_holds cfg)

/-! ### the clauses of the monitor, one by one

The monitor's flag `bad` is sticky, so `permitted_holds` says of EVERY exchange of a run what the flag
checks when that exchange is processed.  `at cfg t p x` = "`x` is the exchange that follows the prefix `p`
of the log `t`". -/

def stepP (cfg : Cfg) (acc : St × Clock) (x : Req × Ans) : St × Clock :=
  (step cfg acc.1 x (acc.2.tick x).el, acc.2.tick x)

theorem run_eq (cfg : Cfg) (t : Trace) : run cfg t = (t.foldl (stepP cfg) ({}, {})).1 := rfl

theorem classify_bad (s : St) (k : EClass) : (classify s k).bad = s.bad := by
  unfold classify
  split <;> rfl

theorem step_bad_mono (s : St) (x : Req × Ans) (el : Nat) (h : (step cfg s x el).bad = false) :
    s.bad = false := by
  cases hb : s.bad with
  | false => rfl
  | true =>
    -- every branch of `step` leaves `bad` alone or sets it to `s.bad || …`
    revert h
    unfold step
    split
    · split <;> simp [hb]
    all_goals simp [classify_bad, hb]

theorem unflagged (p rest : Trace) (x : Req × Ans) (h : (run cfg (p ++ x :: rest)).bad = false) :
    (step cfg (run cfg p) x (elapsedOf (p ++ [x]))).bad = false := by
  simp only [run_eq, List.foldl_append, List.foldl_cons] at h
  have := foldl_flag (stepP cfg) (fun acc => acc.1.bad) (fun acc x => step_bad_mono cfg _ x _) rest _ h
  have hclk : ∀ (t : Trace) (acc : St × Clock), (t.foldl (stepP cfg) acc).2 = t.foldl Clock.tick acc.2 := by
    intro t
    induction t with
    | nil => intro acc; rfl
    | cons y t ih => intro acc; simp [List.foldl, ih, stepP]
  simp only [stepP] at this
  rw [hclk] at this
  simpa [run_eq, elapsedOf, List.foldl_append] using this

theorem isOp_iff (r : Req) : isOp r = true ↔ ∃ k, r = .op k := by cases r <;> simp [isOp]

theorem isSleeper_iff (r : Req) : isSleeper r = true ↔ ∃ l d, r = .sleeper l d := by
  cases r <;> simp [isSleeper]

section flags
variable {cfg : Cfg} {s : St} {a : Ans} {el : Nat}

theorem flag_op {k : Nat} (h : (step cfg s (.op k, a) el).bad = false) :
    s.bad = false ∧ s.done = false ∧ (1 ≤ s.ops → s.slept = true) := by
  cases a <;> simpa [step, and_assoc] using h

theorem flag_strategy {k : SKey} {kd : SKind} {c : BackoffCtx}
    (h : (step cfg s (.strategy k kd c, a) el).bad = false) :
    s.bad = false ∧ s.done = false ∧ s.ops < cfg.maxAttempts ∧ s.classified = true ∧ classStop cfg s = false ∧
      ¬ cfg.deadline ≤ el - a.dur := by
  simpa [step, and_assoc, classStop_sawAbort] using h

theorem flag_budget {g : Bool} (h : (step cfg s (.budgetConsume, .granted g) el).bad = false) :
    s.bad = false ∧ s.done = false ∧ s.ops < cfg.maxAttempts ∧ s.granted = false ∧ s.refused = false ∧
      s.strat = true := by
  simpa [step, and_assoc] using h

theorem flag_retryEv {n d : Nat} {tg : Tags} (h : (step cfg s (.metric .retry n d tg, a) el).bad = false) :
    s.bad = false ∧ s.done = false ∧ s.ops < cfg.maxAttempts ∧ s.strat = true ∧
      (cfg.budget.isSome = true → s.granted = true) := by
  simpa [step, and_assoc] using h

theorem flag_sleeper {l : Lvl} {d : Nat} (h : (step cfg s (.sleeper l d, a) el).bad = false) :
    s.bad = false ∧ s.done = false ∧ s.ops < cfg.maxAttempts ∧
      (s.strat = true ∧ (cfg.budget.isSome = true → s.granted = true) ∧ (cfg.metric = true → s.retryEv = true) ∧
       (cfg.abortIf = true → s.pollFalse = true) ∧ (cfg.handler.isSome = true → s.decision = some .sleep)) ∧
      s.slept = false := by
  simpa [step, and_assoc] using h

end flags

/-- the guards of the monitor: an entry point with a retry loop, and no attempt hook / abort predicate raised -/
def Guarded (cfg : Cfg) (e : Entry) (t : Trace) : Prop := hasLoop cfg e = true ∧ attemptHookFault t = false

theorem clauses (cfg : Cfg) (e : Entry) (w : World)
    (hg : Guarded cfg e (runEntry cfg e w).2.trace.reverse) :
    let t := (runEntry cfg e w).2.trace.reverse
    let r := (runEntry cfg e w).1
    (run cfg t).bad = false ∧ stopSound cfg t (run cfg t) r = true ∧ (run cfg t).mustOp = false ∧
      giveUpOk cfg t (run cfg t) r = true ∧ grantOk cfg t (run cfg t) r = true := by
  have h := permitted_holds cfg e w
  simp only [Mon.C03.ok, hg.1, hg.2, Bool.not_false, Bool.and_self, if_true, Bool.and_eq_true,
    Bool.not_eq_true'] at h
  exact ⟨h.1.1.1.1, h.1.1.1.2, h.1.1.2, h.1.2, h.2⟩

section conjuncts
variable (cfg : Cfg) (e : Entry) (w : World)
  (hg : Guarded cfg e (runEntry cfg e w).2.trace.reverse)
  (p rest : Trace) (x : Req × Ans) (ht : (runEntry cfg e w).2.trace.reverse = p ++ x :: rest)
include hg ht

theorem unflagged_at : (step cfg (run cfg p) x (elapsedOf (p ++ [x]))).bad = false :=
  unflagged cfg p rest x (ht ▸ (clauses cfg e w hg).1)

/-- **A successful attempt ends the run at once**: once a success is confirmed (the operation returned and
    the result classifier, if any, accepted the value) the operation is not invoked again, no strategy is
    asked, no budget token spent, no `retry` reported, no sleep requested. -/
theorem success_ends_run
    (hx : isOp x.1 = true ∨ isSleeper x.1 = true ∨ (∃ g, x = (.budgetConsume, .granted g)) ∨
          (∃ k kd c, x.1 = .strategy k kd c) ∨ (∃ a s tg, x.1 = .metric .retry a s tg)) :
    (run cfg p).done = false := by
  have := unflagged_at cfg e w hg p rest x ht
  obtain ⟨r, a⟩ := x
  rcases hx with h | h | ⟨g, h⟩ | ⟨k, kd, c, h⟩ | ⟨a', s', tg, h⟩
  · obtain ⟨k, rfl⟩ := (isOp_iff r).mp h; exact (flag_op this).2.1
  · obtain ⟨l, d, rfl⟩ := (isSleeper_iff r).mp h; exact (flag_sleeper this).2.1
  · cases h; exact (flag_budget this).2.1
  · subst h; exact (flag_strategy this).2.1
  · subst h; exact (flag_retryEv this).2.1

/-- **No wasted backoff** (the F1 regression theorem): after the last permitted attempt — `max_attempts`
    invocations of the operation — no strategy is asked, no budget token is spent, no `retry` event is
    reported and no sleep is requested. -/
theorem no_backoff_after_last
    (hx : isSleeper x.1 = true ∨ (∃ g, x = (.budgetConsume, .granted g)) ∨
          (∃ k kd c, x.1 = .strategy k kd c) ∨ (∃ a s tg, x.1 = .metric .retry a s tg)) :
    (run cfg p).ops < cfg.maxAttempts := by
  have := unflagged_at cfg e w hg p rest x ht
  obtain ⟨r, a⟩ := x
  rcases hx with h | ⟨g, h⟩ | ⟨k, kd, c, h⟩ | ⟨a', s', tg, h⟩
  · obtain ⟨l, d, rfl⟩ := (isSleeper_iff r).mp h; exact (flag_sleeper this).2.2.1
  · cases h; exact (flag_budget this).2.2.1
  · subst h; exact (flag_strategy this).2.2.1
  · subst h; exact (flag_retryEv this).2.2.1

/-- **Sleep only if permitted**: a backoff sleep is requested only after, within the same attempt, the
    strategy was asked, the budget (if configured) granted a token, the `retry` event was reported (if a
    metric hook is configured), the abort predicate (if configured) answered False after the grant, and the
    sleep handler (if configured) said SLEEP; and at most once per attempt. -/
theorem sleep_only_if_permitted (hx : isSleeper x.1 = true) :
    (run cfg p).strat = true ∧ (cfg.budget.isSome = true → (run cfg p).granted = true) ∧
    (cfg.metric = true → (run cfg p).retryEv = true) ∧ (cfg.abortIf = true → (run cfg p).pollFalse = true) ∧
    (cfg.handler.isSome = true → (run cfg p).decision = some .sleep) ∧ (run cfg p).slept = false := by
  have := unflagged_at cfg e w hg p rest x ht
  obtain ⟨r, a⟩ := x
  obtain ⟨l, d, rfl⟩ := (isSleeper_iff r).mp hx
  obtain ⟨_, _, _, ⟨h1, h2, h3, h4, h5⟩, h6⟩ := flag_sleeper this
  exact ⟨h1, h2, h3, h4, h5, h6⟩

/-- **The next attempt only after a sleep**: every invocation of the operation but the first follows a
    backoff sleep requested in the attempt before. -/
theorem next_attempt_only_after_sleep (hx : isOp x.1 = true) (h1 : 1 ≤ (run cfg p).ops) :
    (run cfg p).slept = true := by
  have := unflagged_at cfg e w hg p rest x ht
  obtain ⟨r, a⟩ := x
  obtain ⟨k, rfl⟩ := (isOp_iff r).mp hx
  exact (flag_op this).2.2 h1

/-- **A delay is computed only if the failure permits a retry**: the strategy is asked only after the
    failure of the attempt was classified, its class is retryable and has a strategy, the per-class and
    UNKNOWN caps are not exceeded, and the deadline has not passed. -/
theorem strategy_only_if_class_permits (hx : ∃ k kd c, x.1 = .strategy k kd c) :
    (run cfg p).classified = true ∧ classStop cfg (run cfg p) = false ∧
    ¬ cfg.deadline ≤ elapsedOf (p ++ [x]) - x.2.dur := by
  have := unflagged_at cfg e w hg p rest x ht
  obtain ⟨r, a⟩ := x
  obtain ⟨k, kd, c, h⟩ := hx
  subst h
  exact (flag_strategy this).2.2.2

/-- **The budget is consulted at most once per attempt, after the strategy** (C10, policy level). -/
theorem budget_once_after_strategy (hx : ∃ g, x = (.budgetConsume, .granted g)) :
    (run cfg p).strat = true ∧ (run cfg p).granted = false ∧ (run cfg p).refused = false := by
  have := unflagged_at cfg e w hg p rest x ht
  obtain ⟨g, rfl⟩ := hx
  obtain ⟨_, _, _, h1, h2, h3⟩ := flag_budget this
  exact ⟨h3, h1, h2⟩

/-- **`retry` is reported only for a granted retry; `budget_exhausted` only after a refusal.** -/
theorem retry_event_only_if_granted (hx : ∃ a s tg, x.1 = .metric .retry a s tg) :
    (run cfg p).strat = true ∧ (cfg.budget.isSome = true → (run cfg p).granted = true) := by
  have := unflagged_at cfg e w hg p rest x ht
  obtain ⟨r, a⟩ := x
  obtain ⟨a', s', tg, h⟩ := hx
  subst h
  exact (flag_retryEv this).2.2.2

end conjuncts

/-- **Each reported stop reason implies its condition** (`Mon.C03.stopCond`): MAX_ATTEMPTS_GLOBAL ⇒
    `max_attempts` invocations were made; BUDGET_EXHAUSTED ⇒ the budget refused in the last attempt;
    DEADLINE_EXCEEDED ⇒ the elapsed time reached the deadline; NON_RETRYABLE_CLASS / NO_STRATEGY /
    MAX_ATTEMPTS_PER_CLASS / MAX_UNKNOWN_ATTEMPTS ⇒ the condition holds of the class of the last failure and
    the number of failures of that class; ABORTED ⇒ an abort was requested; SCHEDULED ⇒ a handler said DEFER. -/
theorem stop_reason_sound (cfg : Cfg) (e : Entry) (w : World)
    (hg : Guarded cfg e (runEntry cfg e w).2.trace.reverse) (r : StopReason)
    (hr : stopOf (runEntry cfg e w).2.trace.reverse (runEntry cfg e w).1 = some r) :
    stopCond cfg (run cfg (runEntry cfg e w).2.trace.reverse)
      (elapsedOf (runEntry cfg e w).2.trace.reverse) r = true := by
  have := (clauses cfg e w hg).2.1
  simpa [stopSound, hr] using this

/-- **No premature give-up.**  (i) If the last backoff sleep returned with the deadline not passed and fewer
    than `max_attempts` invocations made, the operation is invoked again (unless the loop-top poll answers
    True).  (ii) A run that made an attempt and did not end in a confirmed success reports a stop reason, or
    ends with an exception that is not an attempt failure or that a callback raised; `call()` re-raises the
    operation's own exception only after the failure was classified and some stop condition holds. -/
theorem no_premature_give_up (cfg : Cfg) (e : Entry) (w : World)
    (hg : Guarded cfg e (runEntry cfg e w).2.trace.reverse) :
    (run cfg (runEntry cfg e w).2.trace.reverse).mustOp = false ∧
    giveUpOk cfg (runEntry cfg e w).2.trace.reverse (run cfg (runEntry cfg e w).2.trace.reverse)
      (runEntry cfg e w).1 = true :=
  ⟨(clauses cfg e w hg).2.2.1, (clauses cfg e w hg).2.2.2.1⟩

/-- **No wasted token**: a token granted in the last attempt was reported and the backoff at least begun,
    unless the run was aborted or ended with an exception. -/
theorem token_not_wasted (cfg : Cfg) (e : Entry) (w : World)
    (hg : Guarded cfg e (runEntry cfg e w).2.trace.reverse) :
    grantOk cfg (runEntry cfg e w).2.trace.reverse (run cfg (runEntry cfg e w).2.trace.reverse)
      (runEntry cfg e w).1 = true :=
  (clauses cfg e w hg).2.2.2.2

/-- the guards are satisfiable on a non-empty log (non-vacuity of the hypotheses above) -/
example : Guarded {} .call [(.op 1, .raise (.ordinary 1 .transient) 0), (.classify "o1", .klass ⟨.transient, none⟩ 0)] :=
  ⟨rfl, rfl⟩

end Redress.Props.C03
