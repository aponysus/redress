/-
  Redress.Props.C06 — "Breaker opens exactly when counted failures reach a threshold in the window".

  All theorems are about `Redress.Model.Breaker` (the model of `redress/circuit.py`) for ALL
  configurations with `window > 0` (the constructor rejects the others; no other well-formedness
  condition is needed) and ALL histories of allow / record_success / record_failure(class) /
  record_cancel whose clock values are non-decreasing (`Mono`, explicit hypothesis).

  The theorems go through the refinement invariant `Inv` (`Lemmas/BreakerLemmas`) between the model
  state and the state `absOf c H` that the history alone determines.
-/
import Redress.Lemmas.BreakerLemmas

namespace Redress.Breaker
open List

theorem opensLog_eq_py (c : Cfg) (log : List (EClass × Nat)) (k : EClass) (now : Nat) :
    opensLog c log k now = opensLogPy c log k now := by
  unfold opensLog opensLogPy
  cases c.tripOn k <;> cases c.classThreshold k with
  | none => simp
  | some th =>
    by_cases h : th ≤ inWindow c.window now (timesOf k log) + 1 <;> simp [h]

/-- the model's `_note_failure` (class bucket first, early `True`) computes the disjunction -/
theorem noteFailure_verdict (c : Cfg) (s : St) (k : EClass) (now : Nat) :
    (noteFailure c s k now).1 =
      (decide (c.failureThreshold ≤ (prune c.window now s.failures ++ [now]).length) ||
        match c.classThreshold k with
        | some th => decide (th ≤ (prune c.window now (s.classFailures k) ++ [now]).length)
        | none => false) :=
  congrArg Prod.fst (noteFailure_eq c s k now)

theorem specOpens_of_abs {c : Cfg} {H : List Op} {log : List (EClass × Nat)}
    (h : absOf c H = .closed log) (k : EClass) (now : Nat) :
    specOpens c H k now = opensLog c log k now := by
  simp [specOpens, counted, countedOfClass, h, opensLog]

theorem inv_holds (c : Cfg) (hw : 0 < c.window) (H : List Op) (hm : Mono H) :
    Inv c (lastTime 0 H) (mrun c .init H).2 (absOf c H) :=
  (run_refines c hw H St.init Abs.init 0 (inv_init c) hm).2

theorem inv_closed (c : Cfg) (hw : 0 < c.window) (H : List Op) (hm : Mono H)
    (hclosed : (mrun c .init H).2.state = .closed) :
    ∃ log, absOf c H = .closed log ∧ Inv c (lastTime 0 H) (mrun c .init H).2 (.closed log) := by
  have hinv := inv_holds c hw H hm
  have hmode := hinv.state.symm.trans hclosed
  cases habs : absOf c H with
  | closed log => exact ⟨log, rfl, habs ▸ hinv⟩
  | opened t0 => simp [habs, Abs.mode] at hmode
  | halfOpen p => simp [habs, Abs.mode] at hmode

/-- **End-to-end refinement**: for every monotone history the model returns, at every operation,
exactly the decision / event the history-based specification prescribes, and is in the state the
history determines. -/
theorem model_refines_spec (c : Cfg) (hw : 0 < c.window) (H : List Op) (hm : Mono H) :
    (mrun c .init H).1 = specOutputs c H ∧ (mrun c .init H).2.state = stateOf c H :=
  ⟨(run_refines c hw H St.init Abs.init 0 (inv_init c) hm).1, (inv_holds c hw H hm).state⟩

/-- … and therefore the executable monitor accepts the model's own records on every monotone
history (`historyOk` is what the driver evaluates on the implementation's records). -/
theorem historyOk_model (c : Cfg) (hw : 0 < c.window) (H : List Op) (hm : Mono H) :
    historyOk c (mrecs c .init H) = .ok :=
  checkFrom_model c hw H St.init Abs.init 0 0 (inv_init c) hm

/-- `Inv` spelled out for a CLOSED breaker: the deque and every class bucket are sorted and are
exactly the history-defined counted lists restricted to what the last prune kept; nothing else
is remembered; flag and `opened_at` are clear. -/
theorem closed_state_matches_history (c : Cfg) (hw : 0 < c.window) (H : List Op) (hm : Mono H)
    (hclosed : (mrun c .init H).2.state = .closed) :
    let s := (mrun c .init H).2
    s.failures = kept c.window (counted c H) ∧
    (∀ k, s.classFailures k =
      if (c.classThreshold k).isSome then kept c.window (countedOfClass c H k) else []) ∧
    s.failures.Pairwise (· ≤ ·) ∧ (∀ k, (s.classFailures k).Pairwise (· ≤ ·)) ∧
    (counted c H).Pairwise (· ≤ ·) ∧ (∀ x ∈ counted c H, x ≤ lastTime 0 H) ∧
    s.openedAt = none ∧ s.probe = false := by
  obtain ⟨log, habs, hst, hoa, hp, hsorted, hbound, hf, hcf⟩ := inv_closed c hw H hm hclosed
  simp only [counted, countedOfClass, habs]
  refine ⟨hf, hcf, hf ▸ kept_pairwise _ _ hsorted, fun k => ?_, hsorted, hbound, hoa, hp⟩
  rw [hcf k]
  split
  · exact kept_pairwise _ _ (timesOf_pairwise k log hsorted)
  · exact .nil

/-- `Inv` spelled out outside CLOSED: OPEN ⇒ `opened_at = some t` (the history's opening instant)
and no probe flag; the flag can only be set in HALF_OPEN; no failure history at all. -/
theorem non_closed_state_matches_history (c : Cfg) (hw : 0 < c.window) (H : List Op)
    (hm : Mono H) :
    let s := (mrun c .init H).2
    (s.state = .opened → ∃ t0, s.openedAt = some t0 ∧ openedAtOf c H = some t0 ∧
        t0 ≤ lastTime 0 H ∧ s = St.openedAtTime t0) ∧
    (s.probe = true → s.state = .halfOpen) ∧
    (s.state ≠ .closed → s.failures = [] ∧ ∀ k, s.classFailures k = []) := by
  have hinv := inv_holds c hw H hm
  cases habs : absOf c H with
  | closed log =>
    rw [habs] at hinv
    obtain ⟨hst, hoa, hp, -⟩ := hinv
    simp [hst, hp]
  | opened t0 =>
    rw [habs] at hinv
    exact ⟨fun _ => ⟨t0, hinv.2.1, by simp [openedAtOf, habs], hinv.2.2.2.2.2, hinv.eq_opened⟩,
      by simp [hinv.2.2.1], fun _ => hinv.cleared nofun⟩
  | halfOpen p =>
    rw [habs] at hinv
    exact ⟨by simp [hinv.1], fun _ => hinv.1, fun _ => hinv.cleared nofun⟩

/-- The specification enters CLOSED from another state only with an empty log. -/
theorem step_closed_fresh {c : Cfg} {a : Abs} {op : Op} {log : List (EClass × Nat)}
    (h : (step c a op).2 = .closed log) (hne : a.mode ≠ .closed) : log = [] := by
  cases a with
  | closed _ => exact absurd rfl hne
  | opened t0 =>
    cases op with
    | allow now => rw [step_opened_allow] at h; split at h <;> cases h
    | _ => cases h
  | halfOpen p => cases p <;> cases op <;> cases h <;> rfl

/-- **History cleared on every transition**: whenever an operation changes the breaker state the
failure history is empty afterwards. -/
theorem history_cleared_on_transition (c : Cfg) (hw : 0 < c.window) (H : List Op) (op : Op)
    (hm : Mono (H ++ [op]))
    (hchg : (mrun c .init (H ++ [op])).2.state ≠ (mrun c .init H).2.state) :
    (mrun c .init (H ++ [op])).2.failures = [] ∧
    ∀ k, (mrun c .init (H ++ [op])).2.classFailures k = [] := by
  have h1 := inv_holds c hw H (mono_concat hm).1
  have h2 := inv_holds c hw (H ++ [op]) hm
  rw [h1.state, h2.state] at hchg
  rw [show absOf c (H ++ [op]) = (step c (absOf c H) op).2 by simp [absOf, srun_append, srun]]
    at h2 hchg
  exact h2.cleared fun log hl => step_closed_fresh hl fun hc => hchg (by rw [hl, hc]; rfl)


/-- State-level form: on a state that refines `closed log`, at a clock value not in the past. -/
theorem opens_iff_inv (c : Cfg) (hw : 0 < c.window) (s : St) (log : List (EClass × Nat))
    (clk now : Nat) (k : EClass) (hinv : Inv c clk s (.closed log)) (hnow : clk ≤ now) :
    ((recordFailure c s k now).1 = some .circuitOpened ↔ opensLog c log k now = true) ∧
    (opensLog c log k now = true → (recordFailure c s k now).2 = St.openedAtTime now) ∧
    (opensLog c log k now = false →
      (recordFailure c s k now).1 = none ∧ (recordFailure c s k now).2.state = .closed) := by
  obtain ⟨h1, h2⟩ := noteFailure_refines c hw s log clk now k hinv hnow
  have hp : ({ St.openedAtTime now with probe := s.probe } : St) = St.openedAtTime now := by
    rw [hinv.2.2.1]; rfl
  rw [recordFailure_closed c hinv.1, h1, ← opensLog_eq, hp]
  rcases Bool.eq_false_or_eq_true (opensLog c log k now) with ho | ho
  · simp [ho]
  · cases c.tripOn k <;> simp [ho, h2.1, hinv.1]

/-- **opens_iff** — after any history with a non-decreasing clock that leaves the breaker
CLOSED, `record_failure(k)` at `now` returns `circuit_opened` *iff* the rule `specOpens` holds of
the history; in that case the breaker is OPEN with `opened_at = now` and an empty history (and no
probe flag); otherwise it returns nothing and stays CLOSED. -/
theorem opens_iff (c : Cfg) (hw : 0 < c.window) (H : List Op) (k : EClass) (now : Nat)
    (hm : Mono (H ++ [.failure k now]))
    (hclosed : (mrun c .init H).2.state = .closed) :
    let s := (mrun c .init H).2
    ((recordFailure c s k now).1 = some .circuitOpened ↔ specOpens c H k now = true) ∧
    (specOpens c H k now = true → (recordFailure c s k now).2 = St.openedAtTime now) ∧
    (specOpens c H k now = false →
      (recordFailure c s k now).1 = none ∧ (recordFailure c s k now).2.state = .closed) := by
  obtain ⟨hm1, hm2⟩ := mono_concat hm
  obtain ⟨log, habs, hinv⟩ := inv_closed c hw H hm1 hclosed
  simp only [specOpens_of_abs habs]
  exact opens_iff_inv c hw _ log _ now k hinv (hm2 now rfl)

def exCfg : Cfg :=
  { failureThreshold := 3, window := 10, recovery := 5,
    tripOn := fun k => k == .transient || k == .serverError || k == .rateLimit,
    classThreshold := fun k => if k == .rateLimit then some 2 else none }

-- non-vacuity of `opens_iff`: a history satisfying its hypotheses on which the rule fires through
-- the class threshold while the global count is still below its threshold, and one on which it
-- does not fire
example : Mono ([.allow 0, .failure .rateLimit 3, .success] ++ [.failure .rateLimit 12]) ∧
    (mrun exCfg .init [.allow 0, .failure .rateLimit 3, .success]).2.state = .closed ∧
    specOpens exCfg [.allow 0, .failure .rateLimit 3, .success] .rateLimit 12 = true ∧
    specOpens exCfg [.allow 0, .failure .rateLimit 3, .success] .rateLimit 13 = false ∧
    specOpens exCfg [.allow 0, .failure .rateLimit 3, .success] .transient 12 = false := by
  decide

/-- **only_failures_open** — on a CLOSED breaker (any state whatsoever, reachable or not)
`allow`, `record_success`, `record_cancel` and `record_failure` of a class outside `trip_on`
return no event, admit (for `allow`), and leave the *whole* state unchanged. -/
theorem only_failures_open (c : Cfg) (s : St) (hclosed : s.state = .closed) :
    (∀ now, allow c s now = ((true, .closed, none), s)) ∧
    recordSuccess s = (none, s) ∧
    recordCancel s = s ∧
    (∀ k now, c.tripOn k = false → recordFailure c s k now = (none, s)) := by
  have hne : s.state ≠ .halfOpen := by simp [hclosed]
  exact ⟨allow_closed c hclosed, recordSuccess_of_ne hne, recordCancel_of_ne hne,
    fun k now h => by simp [recordFailure_closed c hclosed, h]⟩

/-- … and conversely the only way out of CLOSED is a `record_failure` of a class in `trip_on`
that returns `circuit_opened` (any state, any clock); no other operation returns an opening
event on a CLOSED breaker. -/
theorem closed_left_only_by_counted_failure (c : Cfg) (s : St) (op : Op)
    (hclosed : s.state = .closed)
    (h : (mstep c s op).2.state ≠ .closed ∨ (mstep c s op).1 = .event (some .circuitOpened)) :
    ∃ k now, op = .failure k now ∧ c.tripOn k = true ∧
      (mstep c s op).1 = .event (some .circuitOpened) ∧ (mstep c s op).2.state = .opened ∧
      (mstep c s op).2.openedAt = some now := by
  obtain ⟨hal, hsu, hca, hfa⟩ := only_failures_open c s hclosed
  cases op with
  | allow now => simp [mstep, hal, hclosed] at h
  | success => simp [mstep, hsu, hclosed] at h
  | cancel => simp [mstep, hca, hclosed] at h
  | failure k now =>
    rcases recordFailure_cases c s k now with ⟨h1, h2, h3⟩ | ⟨h1, h2⟩
    · refine ⟨k, now, rfl, ?_, by simp [mstep, h1], h2, h3⟩
      cases htr : c.tripOn k with
      | true => rfl
      | false => simp [hfa k now htr] at h1
    · simp [mstep, h1, h2, hclosed] at h

/-- a `record_success` on a CLOSED breaker can be dropped from the front of any history: it
returns no event and the rest runs as it would without it -/
theorem success_while_closed_is_noop (c : Cfg) (s : St) (hclosed : s.state = .closed)
    (H : List Op) :
    mrun c s (.success :: H) = (.event none :: (mrun c s H).1, (mrun c s H).2) := by
  simp [mrun, mstep, (only_failures_open c s hclosed).2.1]

theorem inWindow_cons_old (w now x : Nat) (l : List Nat) (h : x + w ≤ now) :
    inWindow w now (x :: l) = inWindow w now l := by
  have : ¬ now < x + w := by omega
  simp [inWindow, this]

theorem inWindow_cons_recent (w now x : Nat) (l : List Nat) (h : now < x + w) :
    inWindow w now (x :: l) = inWindow w now l + 1 := by
  simp [inWindow, h]

/-- entries of age `≥ window` contribute nothing to the count -/
theorem inWindow_append_old (w now : Nat) (old recent : List Nat) (h : ∀ x ∈ old, x + w ≤ now) :
    inWindow w now (old ++ recent) = inWindow w now recent := by
  induction old with
  | nil => rfl
  | cons x xs ih =>
    rw [List.cons_append, inWindow_cons_old w now x _ (h x (by simp))]
    exact ih (fun y hy => h y (by simp [hy]))

/-- exact boundary: age == window is NOT counted, age == window − 1 is. -/
theorem inWindow_boundary (w x : Nat) (hw : 0 < w) :
    inWindow w (x + w) [x] = 0 ∧ inWindow w (x + w - 1) [x] = 1 :=
  ⟨inWindow_cons_old w _ x [] (Nat.le_refl _), inWindow_cons_recent w _ x [] (by omega)⟩

/-- **old_failures_do_not_count** — whether `record_failure(k)` at `now` opens a CLOSED breaker
depends only on the counted failures `x` with `now − x < window`: `opens_iff` with the count
written as the length of the in-window sub-list. -/
theorem old_failures_do_not_count (c : Cfg) (hw : 0 < c.window) (H : List Op) (k : EClass)
    (now : Nat) (hm : Mono (H ++ [.failure k now]))
    (hclosed : (mrun c .init H).2.state = .closed) :
    ((recordFailure c (mrun c .init H).2 k now).1 = some .circuitOpened ↔
      c.tripOn k = true ∧
      (c.failureThreshold ≤ ((counted c H).filter (fun x => decide (now < x + c.window))).length + 1 ∨
        ∃ th, c.classThreshold k = some th ∧
          th ≤ ((countedOfClass c H k).filter (fun x => decide (now < x + c.window))).length + 1)) := by
  rw [(opens_iff c hw H k now hm hclosed).1]
  simp only [specOpens, length_filter_window, Bool.and_eq_true, Bool.or_eq_true, decide_eq_true_eq]
  cases c.classThreshold k <;> simp

/-- The model on a two-failure history is what the specification computes on it. -/
theorem two_failures (c : Cfg) (hw : 0 < c.window) (k : EClass) {t t' : Nat} (hle : t ≤ t') :
    (mrun c .init [.failure k t, .failure k t']).1 = (srun c .init [.failure k t, .failure k t']).1 ∧
    Inv c t' (mrun c .init [.failure k t, .failure k t']).2
      (srun c .init [.failure k t, .failure k t']).2 :=
  run_refines c hw _ _ _ 0 (inv_init c) (by simp [MonoFrom, Op.time, hle])

/-- the boundary as executed by the model, at every instant `t` and for every window: with
`failure_threshold = 2` and no class threshold for `k`, a second counted failure exactly
`window` after the first does NOT open … -/
theorem age_eq_window_not_counted (c : Cfg) (hw : 0 < c.window) (k : EClass)
    (htr : c.tripOn k = true) (hth : c.classThreshold k = none) (hft : c.failureThreshold = 2)
    (t : Nat) :
    (mrun c .init [.failure k t, .failure k (t + c.window)]).1 = [.event none, .event none] ∧
    (mrun c .init [.failure k t, .failure k (t + c.window)]).2.state = .closed := by
  obtain ⟨h1, h2⟩ := two_failures c hw k (Nat.le_add_right t c.window)
  have hs : srun c .init [.failure k t, .failure k (t + c.window)] =
      ([.event none, .event none], .closed [(k, t), (k, t + c.window)]) := by
    simp [srun, step, opensLog, Abs.init, htr, hth, hft, inWindow, times]
  rw [hs] at h1 h2
  exact ⟨h1, h2.1⟩

/-- … and one tick earlier (age `window − 1`) it DOES open. -/
theorem age_lt_window_counted (c : Cfg) (hw : 0 < c.window) (k : EClass)
    (htr : c.tripOn k = true) (hth : c.classThreshold k = none) (hft : c.failureThreshold = 2)
    (t : Nat) :
    (mrun c .init [.failure k t, .failure k (t + c.window - 1)]).1 =
      [.event none, .event (some .circuitOpened)] ∧
    (mrun c .init [.failure k t, .failure k (t + c.window - 1)]).2 =
      St.openedAtTime (t + c.window - 1) := by
  obtain ⟨h1, h2⟩ := two_failures c hw k (show t ≤ t + c.window - 1 by omega)
  have hlt : t + c.window - 1 < t + c.window := by omega
  have hs : srun c .init [.failure k t, .failure k (t + c.window - 1)] =
      ([.event none, .event (some .circuitOpened)], .opened (t + c.window - 1)) := by
    simp [srun, step, opensLog, Abs.init, htr, hth, hft, inWindow, times, hlt]
  rw [hs] at h1 h2
  exact ⟨h1, h2.eq_opened⟩

example : (0 : Nat) < ({ exCfg with failureThreshold := 2 } : Cfg).window ∧
    ({ exCfg with failureThreshold := 2 } : Cfg).tripOn .transient = true ∧
    ({ exCfg with failureThreshold := 2 } : Cfg).classThreshold .transient = none ∧
    ({ exCfg with failureThreshold := 2 } : Cfg).failureThreshold = 2 := by decide


/-- whatever the state, the operation that returns `circuit_closed` leaves a breaker that is
indistinguishable from a freshly constructed one -/
theorem state_after_close (c : Cfg) (s : St) (op : Op)
    (h : (mstep c s op).1 = .event (some .circuitClosed)) : (mstep c s op).2 = St.init := by
  cases op with
  | allow now => simp [mstep] at h
  | cancel => simp [mstep] at h
  | success =>
    by_cases hs : s.state = .halfOpen
    · simp [mstep, recordSuccess_halfOpen hs]
    · simp [mstep, recordSuccess_of_ne hs] at h
  | failure k now => rcases recordFailure_cases c s k now with h1 | h1 <;> simp [mstep, h1.1] at h

/-- The specification reports `circuit_opened` only for a `record_failure`, and is OPEN since
that instant afterwards. -/
theorem step_opened {c : Cfg} {a : Abs} {op : Op}
    (h : (step c a op).1 = .event (some .circuitOpened)) :
    ∃ k now, op = .failure k now ∧ (step c a op).2 = .opened now := by
  cases a with
  | closed log =>
    cases op with
    | failure k now =>
      refine ⟨k, now, rfl, ?_⟩
      rw [step_closed_failure] at h ⊢
      by_cases ho : opensLog c log k now = true
      · rw [if_pos ho]
      · rw [if_neg ho] at h
        split at h <;> cases h
    | _ => cases h
  | opened t0 =>
    cases op with
    | allow now => rw [step_opened_allow] at h; split at h <;> cases h
    | _ => cases h
  | halfOpen p =>
    cases op with
    | failure k now => cases p <;> exact ⟨k, now, rfl, rfl⟩
    | _ => cases p <;> cases h

/-- in a reachable state, the operation that returns `circuit_opened` at `now` leaves the one
state `St.openedAtTime now` — nothing of the earlier history survives -/
theorem state_after_open (c : Cfg) (hw : 0 < c.window) (H : List Op) (op : Op)
    (hm : Mono (H ++ [op]))
    (h : (mstep c (mrun c .init H).2 op).1 = .event (some .circuitOpened)) :
    ∃ k now, op = .failure k now ∧ (mstep c (mrun c .init H).2 op).2 = St.openedAtTime now := by
  obtain ⟨hm1, hm2⟩ := mono_concat hm
  obtain ⟨h1, h2⟩ := step_refines c hw _ _ _ op (inv_holds c hw H hm1) hm2
  obtain ⟨k, now, hop, hs⟩ := step_opened (h1 ▸ h)
  exact ⟨k, now, hop, (hs ▸ h2).eq_opened⟩

/-- **pre_transition_failures_do_not_count** — failures recorded before the last transition never
contribute: after an operation that closed the circuit the breaker behaves, on *every*
continuation `H2`, exactly like a fresh breaker; after an operation that opened it at `now`,
exactly like `St.openedAtTime now`.  `H1` (with all its failures) has no influence. -/
theorem pre_transition_failures_do_not_count (c : Cfg) (hw : 0 < c.window)
    (H1 : List Op) (op : Op) (H2 : List Op) (hm : Mono (H1 ++ [op])) :
    ((mstep c (mrun c .init H1).2 op).1 = .event (some .circuitClosed) →
      mrun c .init (H1 ++ op :: H2) =
        ((mrun c .init (H1 ++ [op])).1 ++ (mrun c St.init H2).1, (mrun c St.init H2).2)) ∧
    ((mstep c (mrun c .init H1).2 op).1 = .event (some .circuitOpened) →
      ∃ k now, op = .failure k now ∧
      mrun c .init (H1 ++ op :: H2) =
        ((mrun c .init (H1 ++ [op])).1 ++ (mrun c (St.openedAtTime now) H2).1,
         (mrun c (St.openedAtTime now) H2).2)) := by
  have hsplit : H1 ++ op :: H2 = (H1 ++ [op]) ++ H2 := by simp
  constructor
  · intro h
    rw [hsplit, mrun_append, mrun_concat, state_after_close c _ op h]
  · intro h
    obtain ⟨k, now, hop, hst⟩ := state_after_open c hw H1 op hm h
    exact ⟨k, now, hop, by rw [hsplit, mrun_append, mrun_concat, hst]⟩

/-- The declarative reading of `counted`: over a stretch `H2` of history that starts right after
a transition to CLOSED (or at construction) and during which the breaker stays CLOSED, the
counted failures are exactly the `record_failure`s of `H2` whose class is in `trip_on` —
nothing recorded before that stretch. -/
theorem srun_closed_stretch (c : Cfg) (H2 : List Op) :
    ∀ log, (∀ P, P <+: H2 → ((srun c (.closed log) P).2).mode = .closed) →
      (srun c (.closed log) H2).2 = .closed (log ++ rawCounted c H2) := by
  induction H2 with
  | nil => intro log _; exact congrArg Abs.closed (List.append_nil log).symm
  | cons op r ih =>
    intro log hP
    have h1 : (step c (.closed log) op).2.mode = .closed := hP [op] ⟨r, rfl⟩
    -- one operation that leaves the specification CLOSED appends what `rawCounted` reads off it
    have hstep : (step c (.closed log) op).2 = .closed (log ++ rawCounted c [op]) := by
      cases op with
      | failure k now =>
        rw [step_closed_failure] at h1 ⊢
        by_cases ho : opensLog c log k now = true
        · rw [if_pos ho] at h1; cases h1
        · rw [if_neg ho]
          by_cases htr : c.tripOn k = true <;> simp [rawCounted, htr]
      | _ => exact congrArg Abs.closed (List.append_nil log).symm
    have hr : rawCounted c (op :: r) = rawCounted c [op] ++ rawCounted c r :=
      List.filterMap_append (l := [op]) ..
    rw [srun, hstep, hr, ← List.append_assoc]
    exact ih _ fun P hPr => by
      have := hP (op :: P) ((List.prefix_cons_inj op).mpr hPr)
      rwa [srun, hstep] at this

theorem counted_eq_rawCounted (c : Cfg) (H1 H2 : List Op) (h1 : absOf c H1 = .closed [])
    (hstay : ∀ P, P <+: H2 → stateOf c (H1 ++ P) = .closed) :
    counted c (H1 ++ H2) = times (rawCounted c H2) ∧
    ∀ k, countedOfClass c (H1 ++ H2) k = timesOf k (rawCounted c H2) := by
  have h := srun_closed_stretch c H2 [] (by
    intro P hP
    have := hstay P hP
    simpa [stateOf, absOf, srun_append, ← h1] using this)
  have habs : absOf c (H1 ++ H2) = .closed (rawCounted c H2) := by
    have e : (srun c Abs.init H1).2 = .closed [] := h1
    simp [absOf, srun_append, e, h]
  simp [counted, countedOfClass, habs]

example : absOf exCfg [.failure .transient 1, .failure .transient 2, .failure .transient 3,
      .allow 8, .success] = .closed [] ∧
    counted exCfg ([.failure .transient 1, .failure .transient 2, .failure .transient 3,
      .allow 8, .success] ++ [.failure .auth 9, .failure .transient 9, .allow 9]) = [9] := by
  decide



/-! ## Non-vacuity of the hypotheses `0 < c.window`, `Mono H` and a look at the monitor -/

def exHist : List Op :=
  [.allow 0, .failure .transient 1, .failure .auth 2, .success,
   .failure .transient 11, .failure .rateLimit 11, .failure .transient 12, .allow 13, .allow 17,
   .allow 17, .cancel, .allow 18, .failure .unknown 20, .allow 25, .success, .failure .rateLimit 26,
   .failure .rateLimit 36, .failure .rateLimit 45]

example : 0 < exCfg.window ∧ Mono exHist := by decide

/-- the example history visits all three states, opens through the global and through the class
threshold, and exercises the boundary age == window (t = 1 → 11 and 26 → 36) -/
example : specOutputs exCfg exHist =
    [.decision true .closed none, .event none, .event none, .event none,
     .event none, .event none, .event (some .circuitOpened),
     .decision false .opened (some .circuitRejected),
     .decision true .halfOpen (some .circuitHalfOpen),
     .decision false .halfOpen (some .circuitRejected), .event none,
     .decision true .halfOpen none, .event (some .circuitOpened),
     .decision true .halfOpen (some .circuitHalfOpen), .event (some .circuitClosed),
     .event none, .event none, .event (some .circuitOpened)] := rfl

example : historyOk exCfg (mrecs exCfg .init exHist) = .ok := rfl

/-- the monitor has teeth: flipping one returned event is reported with predicate and index -/
example : historyOk exCfg
    [⟨.failure .transient 1, .event (some .circuitOpened), (St.openedAtTime 1).obs⟩] =
    .bad "C06.opens_iff" 0 "output expected[event=-] got[event=circuit_opened]" := rfl

end Redress.Breaker
