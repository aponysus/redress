/-
  C05 — Backoff delay = the failure class's strategy output, sanitised and capped.

  Theorems are about `Mon.C05.ok` and its five conjuncts (`selectedOk`, `argsAreOk`, `countOk`,
  `sleeperOk`, `flowOk`), the monitors the driver also evaluates on implementation traces: for EVERY
  configuration, EVERY answer stream (outcome sequences, strategy outputs incl. nan/±inf/negatives,
  durations, callback faults — attempt hooks included) and every entry point, the monitor accepts the
  model's run.  No hypotheses.

  Structure: the monitor as a fold over the world's log (`cur`, with the breaker-admission prelude
  dropped); a view (`view`: monitor minus its clock, clock offset, `start`, `prev_sleep`, `last_exc`).
  Procedures that leave the view alone get their spec from the request-level footprints of
  `Lemmas/Footprint.lean` (`same_of_fx`); the five that move the monitor (`invokeOp`, the two classifiers,
  `callStrategy`, `budgetConsume`) from what one exchange does to the view (`view_exchanged`) and the
  equations of `step` for their request.  The
  invariants `Top` / `Rel` / `PC` / `Granted` / `Failed` follow an attempt through `_handle_failure`; the
  four failure paths share their end (`attemptTail`).  Around the loop the policy shell keeps every
  `Stable` predicate.  Every spec is used at a fixed view, so that mvcgen discharges the frame
  conditions by assumption and the remaining VCs are the steps where the view changes.
-/
import Redress.Lemmas.PolicyFrame
import Redress.Monitors

open Std.Do

namespace Redress.Props.C05
open Redress Redress.Retry Redress.Mon Redress.Mon.C05 Redress.FX

variable (cfg : Cfg)

/-- `step`, preceded by "drop the breaker-admission prelude": the flag says whether the retry clock runs -/
def stepF (cfg : Cfg) (p : Bool × St) (x : Req × Ans) : Bool × St :=
  if !p.1 && isPrelude x.1 then p else (true, step cfg p.2 x)

def cur (cfg : Cfg) (tr : List (Req × Ans)) : Bool × St := tr.foldr (fun x p => stepF cfg p x) (false, {})

@[simp] theorem cur_cons (cfg : Cfg) (x : Req × Ans) (t : List (Req × Ans)) :
    cur cfg (x :: t) = stepF cfg (cur cfg t) x := rfl

theorem foldl_stepF_started (t : List (Req × Ans)) (s : St) :
    t.foldl (stepF cfg) (true, s) = (true, t.foldl (step cfg) s) := by
  induction t generalizing s with
  | nil => rfl
  | cons x t ih => simp [List.foldl, stepF, ih]

theorem foldl_stepF_retryTrace (t : List (Req × Ans)) :
    (t.foldl (stepF cfg) (false, {})).2 = run cfg (retryTrace t) := by
  induction t with
  | nil => rfl
  | cons x t ih =>
    by_cases hp : isPrelude x.1 = true
    · simp [List.foldl, stepF, hp, retryTrace, List.dropWhile] at ih ⊢
      exact ih
    · simp [List.foldl, stepF, hp, retryTrace, List.dropWhile, foldl_stepF_started, run]

theorem run_retryTrace (t : List (Req × Ans)) :
    run cfg (retryTrace t.reverse) = (cur cfg t).2 := by
  rw [← foldl_stepF_retryTrace, List.foldl_reverse]
  rfl

theorem stepF_of_not_prelude (p : Bool × St) (x : Req × Ans) (h : isPrelude x.1 = false) :
    stepF cfg p x = (true, step cfg p.2 x) := by
  simp [stepF, h]

/-- Requests that leave the monitor alone but for its clock, while the sanitised delay of the current
    attempt is `d` and `one` says that exactly one strategy call was made in it. -/
def inert (d : Option Nat) (one : Bool) : Req → Bool
  | .op _ | .classify _ | .resultClassify _ | .strategy .. | .budgetConsume | .breakerAllow => false
  | .metric ev _ sl _ => !isBreakerEv ev && (ev != .retry || (d == some sl && one))
  | .log ev _ sl _ _ => !isBreakerEv ev && (ev != .retry || (d == some sl && one))
  | .sleepHandler _ _ x => d == some x && one
  | .beforeSleep _ _ x => d == some x && one
  | .sleeper _ x => d == some x && one
  | _ => true

theorem inert_not_prelude {d : Option Nat} {one : Bool} {r : Req} (h : inert d one r = true) :
    isPrelude r = false := by
  cases r <;> first
    | rfl
    | cases h
    | (simp only [inert, Bool.and_eq_true, Bool.not_eq_true'] at h; exact h.1)

theorem consume_fresh (s : St) (d : Nat) (hd : s.delay = some d) (h1 : s.strats = 1) : consume s d = s := by
  cases s
  simp_all [consume]

theorem step_inert (s : St) (x : Req × Ans) (h : inert s.delay (s.strats == 1) x.1 = true) :
    step cfg s x = { s with now := s.now + x.2.dur } := by
  obtain ⟨r, a⟩ := x
  cases r <;> simp_all [inert, step, consume]
  all_goals (intro he; rcases h.2 with h2 | h2 <;> simp_all)

theorem cur_append_inert (δ t : List (Req × Ans)) (d : Option Nat) (one : Bool)
    (hd : (cur cfg t).2.delay = d) (h1 : ((cur cfg t).2.strats == 1) = one)
    (h : ∀ x ∈ δ, inert d one x.1 = true) (hne : δ ≠ [] ∨ (cur cfg t).1 = true) :
    cur cfg (δ ++ t) = (true, { (cur cfg t).2 with now := (cur cfg t).2.now + durSum δ }) := by
  induction δ with
  | nil =>
    rcases hne with hne | hne
    · exact absurd rfl hne
    · simp [durSum, ← hne]
  | cons x δ ih =>
    have hx := h x (by simp)
    have hδ : ∀ y ∈ δ, inert d one y.1 = true := fun y hy => h y (by simp [hy])
    simp only [List.cons_append, cur_cons]
    rw [stepF_of_not_prelude _ _ _ (inert_not_prelude hx)]
    by_cases hnil : δ = []
    · subst hnil
      simp only [List.nil_append]
      rw [step_inert _ _ _ (by rw [hd, h1]; exact hx)]
      simp [durSum]
    · rw [ih hδ (Or.inl hnil)]
      simp only
      rw [step_inert _ _ _ (by simp only; rw [hd, h1]; exact hx)]
      simp [durSum]; omega

/-- what the C05 argument looks at: the monitor with its clock factored out, the offset between the
    world's clock and the monitor's, and three fields of `_RetryState` -/
structure View where
  mon : St
  off : Int
  start : Nat
  prev : Option Nat
  lastExc : Option Exn

def mon (cfg : Cfg) (w : World) : St := (cur cfg w.trace).2

def view (cfg : Cfg) (w : World) : View :=
  ⟨{ mon cfg w with now := 0 }, (w.now : Int) - (mon cfg w).now, w.rs.start, w.rs.prevSleep, w.rs.lastExc⟩

abbrev inertV (v : View) : Req → Bool := inert v.mon.delay (v.mon.strats == 1)

theorem view_fx (w w' : World) (v : View) (hv : view cfg w = v)
    (h : FootXS (inertV v) w w') : view cfg w' = v := by
  obtain ⟨δ, e, k, t⟩ := h.trace
  subst hv
  have h1 : w'.rs.start = w.rs.start := by have := congrArg RState.start h.rs; simpa using this
  have h2 : w'.rs.prevSleep = w.rs.prevSleep := by have := congrArg RState.prevSleep h.rs; simpa using this
  have h3 : w'.rs.lastExc = w.rs.lastExc := by have := congrArg RState.lastExc h.rs; simpa using this
  by_cases hnil : δ = []
  · subst hnil
    simp only [view, mon, e, List.nil_append, h1, h2, h3, t, durSum]
    simp
  · have := cur_append_inert cfg δ w.trace _ _ rfl rfl (by simpa [inertV, view, mon] using k) (Or.inl hnil)
    simp only [view, mon, e, this, h1, h2, h3, t]
    simp
    omega

abbrev raisedAny (tr : List (Req × Ans)) (e : Exn) : Bool := Mon.raisedBy (fun _ => true) tr e

/-- a `RetryExhaustedError` object that does not come from the library's own `raise` statements was
    raised by a callback -/
def srcOk (e : Exn) (tr : List (Req × Ans)) : Bool :=
  match e with
  | .libExhausted _ => raisedAny tr e
  | _ => true

theorem raisedAny_append (δ t : List (Req × Ans)) (e : Exn) (h : raisedAny t e = true) :
    raisedAny (δ ++ t) e = true := by
  simp only [raisedAny, raisedBy, List.any_append, Bool.or_eq_true] at h ⊢
  exact Or.inr h

theorem raisedAny_of_raisedIn {δ : List (Req × Ans)} {e : Exn} (t : List (Req × Ans)) (h : raisedIn e δ) :
    raisedAny (δ ++ t) e = true := by
  obtain ⟨r, d, hm, _⟩ := h
  simp only [raisedAny, raisedBy, List.any_append, Bool.or_eq_true, List.any_eq_true]
  exact Or.inl ⟨(r, Ans.raise e d), hm, by simp⟩

theorem srcOk_append (δ t : List (Req × Ans)) (e : Exn) (h : srcOk e t = true) : srcOk e (δ ++ t) = true := by
  cases e <;> simp_all [srcOk]
  exact raisedAny_append _ _ _ h

theorem srcOk_of_prov {e : Exn} {w w' : World} (h : Prov e w w') : srcOk e w'.trace = true := by
  rcases h with rfl | ⟨δ, e₁, hr⟩
  · rfl
  · cases e <;> simp [srcOk]
    rw [e₁]
    exact raisedAny_of_raisedIn _ hr

/-- errors that are not `RetryExhaustedError`s made by the library -/
def notExh (e : Exn) : Prop := srcOk e [] = true

theorem srcOk_of_notExh {e : Exn} (h : notExh e) (tr : List (Req × Ans)) : srcOk e tr = true := by
  cases e <;> simp_all [notExh, srcOk, raisedAny, raisedBy]

/-- what a reported `next_sleep_s` must be, for an exception leaving the run -/
def excOk (m : St) (e : Exn) (tr : List (Req × Ans)) : Bool :=
  match e with
  | .libExhausted f => raisedAny tr e || nsOk m f.nextSleep
  | _ => true

theorem excOk_of_srcOk {m : St} {e : Exn} {tr : List (Req × Ans)} (h : srcOk e tr = true) : excOk m e tr = true := by
  cases e <;> simp_all [excOk, srcOk]

theorem excOk_of_kise {m : St} {e : Exn} (tr : List (Req × Ans)) (h : e.isKiSe = true) : excOk m e tr = true := by
  cases e <;> simp_all [excOk, Exn.isKiSe]

theorem excOk_of_notExh {m : St} {e : Exn} (tr : List (Req × Ans)) (h : e.isExhausted = false) :
    excOk m e tr = true := by
  cases e <;> simp_all [excOk, Exn.isExhausted]

abbrev same (cfg : Cfg) (v : View) : PostCond α (.except Exn (.arg World .pure)) :=
  post⟨fun _ w => ⌜view cfg w = v⌝, fun e w => ⌜view cfg w = v ∧ srcOk e w.trace = true⌝⟩

abbrev sameR (v : View) (R : α → World → Prop) : PostCond α (.except Exn (.arg World .pure)) :=
  post⟨fun a w => ⌜R a w ∧ view cfg w = v⌝, fun e w => ⌜view cfg w = v ∧ srcOk e w.trace = true⌝⟩

theorem srcOk_of_src {Own : Exn → Prop} {e : Exn} {w w' : World} (hown : ∀ e, Own e → notExh e)
    (h : Own e ∨ Prov e w w') : srcOk e w'.trace = true :=
  h.elim (fun ho => srcOk_of_notExh (hown e ho) _) srcOk_of_prov

theorem same_of_fxs' {x : M α} (v : View) {Own : Exn → Prop} {R : α → World → Prop}
    (hx : ∀ w0, ⦃fun w => ⌜FootXS (inertV v) w0 w⌝⦄ x
      ⦃post⟨fun a w => ⌜R a w ∧ FootXS (inertV v) w0 w⌝, fun e w => ⌜ExcS (inertV v) Own w0 w e⌝⟩⦄)
    (hown : ∀ e, Own e → notExh e) :
    ⦃fun w => ⌜view cfg w = v⌝⦄ x ⦃sameR cfg v R⦄ :=
  triple_of_rel hx FootXS.refl (fun _ _ _ hw h => ⟨h.1, view_fx cfg _ _ v hw h.2⟩)
    (fun _ _ _ hw h => ⟨view_fx cfg _ _ v hw h.foot, srcOk_of_src hown h.src⟩)

theorem same_drop {x : M α} {cfg : Cfg} {v : View} {R : α → World → Prop}
    (h : ⦃fun w => ⌜view cfg w = v⌝⦄ x ⦃sameR cfg v R⦄) :
    ⦃fun w => ⌜view cfg w = v⌝⦄ x ⦃same cfg v⦄ :=
  triple_mono h (fun _ h => h) (fun _ _ h => h.2) (fun _ _ h => h)

theorem same_of_fxs {x : M α} (v : View) {Own : Exn → Prop}
    (hx : ∀ w0, ⦃fun w => ⌜FootXS (inertV v) w0 w⌝⦄ x ⦃fxsPost (inertV v) w0 Own⦄)
    (hown : ∀ e, Own e → notExh e) :
    ⦃fun w => ⌜view cfg w = v⌝⦄ x ⦃same cfg v⦄ :=
  same_drop (same_of_fxs' (R := fun _ _ => True) cfg v
    (fun w0 => triple_mono (hx w0) (fun _ h => h) (fun _ _ h => ⟨trivial, h⟩) (fun _ _ h => h)) hown)

theorem same_of_fx' {x : M α} (v : View) {R : α → World → Prop}
    (hx : ∀ w0, ⦃fun w => ⌜FootX (inertV v) w0 w⌝⦄ x
      ⦃post⟨fun a w => ⌜R a w ∧ FootX (inertV v) w0 w⌝, fun e w => ⌜ExcX (inertV v) noOwn w0 w e⌝⟩⦄) :
    ⦃fun w => ⌜view cfg w = v⌝⦄ x ⦃sameR cfg v R⦄ :=
  same_of_fxs' cfg v (fun _ => fxs_of_fx _ _ hx) fun _ h => h.elim

theorem same_of_fx {x : M α} (v : View)
    (hx : ∀ w0, ⦃fun w => ⌜FootX (inertV v) w0 w⌝⦄ x ⦃fxPost (inertV v) w0⦄) :
    ⦃fun w => ⌜view cfg w = v⌝⦄ x ⦃same cfg v⦄ :=
  same_of_fxs cfg v (fun _ => fxs_of_fx' _ _ hx) fun _ h => h.elim

section leaves
variable (v : View) (tl : Bool)

theorem inert_metric {d : Option Nat} {one : Bool} (ev : Event) (a s : Nat) (t : Tags)
    (hb : isBreakerEv ev = false) (hr : ev ≠ .retry ∨ (d = some s ∧ one = true)) :
    inert d one (.metric ev a s t) = true := by
  rcases hr with hr | ⟨rfl, rfl⟩ <;> simp_all [inert]

theorem inert_log {d : Option Nat} {one : Bool} (ev : Event) (a s : Nat) (t : Tags) (ra : Option Int)
    (hb : isBreakerEv ev = false) (hr : ev ≠ .retry ∨ (d = some s ∧ one = true)) :
    inert d one (.log ev a s t ra) = true := by
  rcases hr with hr | ⟨rfl, rfl⟩ <;> simp_all [inert]

def Fresh (v : View) (s : Nat) : Prop := v.mon.delay = some s ∧ v.mon.strats = 1

theorem emit_v (ev : Event) (a s : Nat) (k : Option EClass) (e : Option Exn) (st : Option StopReason)
    (c : Option Cause) (cl : Option Classification) (hb : isBreakerEv ev = false)
    (hr : ev ≠ .retry ∨ Fresh v s) :
    ⦃fun w => ⌜view cfg w = v⌝⦄ emit cfg tl ev a s k e st c cl ⦃same cfg v⦄ :=
  same_of_fx cfg v (fun w0 => emit_fx _ w0 cfg tl ev a s k e st c cl
    (fun t => inert_metric ev a s t hb (by simpa [Fresh] using hr))
    (fun t ra => inert_log ev a s t ra hb (by simpa [Fresh] using hr)))

theorem checkAbort_v (a : Nat) : ⦃fun w => ⌜view cfg w = v⌝⦄ checkAbort cfg tl a ⦃same cfg v⦄ :=
  same_of_fxs cfg v (fun w0 => checkAbort_fx _ w0 cfg tl a rfl (fun _ => rfl) (fun _ _ => rfl))
    (fun e h => by subst h; rfl)

theorem recordStrategySuccess_v : ⦃fun w => ⌜view cfg w = v⌝⦄ recordStrategySuccess cfg ⦃same cfg v⦄ :=
  same_of_fx cfg v (fun w0 => recordStrategySuccess_fx _ w0 cfg (fun _ => rfl))

theorem callAttemptStart_v (a : Nat) : ⦃fun w => ⌜view cfg w = v⌝⦄ callAttemptStart cfg a ⦃same cfg v⦄ :=
  same_of_fx cfg v (fun w0 => callAttemptStart_fx _ w0 cfg a (fun _ => rfl))

theorem buildOutcome_v (ok : Bool) (value : Option Nat) (n : Nat) (ns : Option Nat) :
    ⦃fun w => ⌜view cfg w = v⌝⦄ buildOutcome ok value n ns ⦃sameR cfg v fun o _ => o.nextSleep = ns⦄ :=
  triple_mono (same_of_fx' cfg v fun w0 => buildOutcome_fx (inertV v) w0 ok value n ns) (fun _ h => h)
    (fun _ _ h => ⟨h.1.2.1, h.2⟩) (fun _ _ h => h)

theorem abortOutcome_v (a : Nat) :
    ⦃fun w => ⌜view cfg w = v⌝⦄ abortOutcome cfg tl a ⦃sameR cfg v fun o _ => o.nextSleep = none⦄ :=
  triple_mono (same_of_fxs' cfg v (fun w0 => abortOutcome_fx (inertV v) w0 cfg tl a (fun _ => rfl) (fun _ _ => rfl))
    fun _ h => h.elim) (fun _ h => h) (fun _ _ h => ⟨h.1.2.1, h.2⟩) (fun _ _ h => h)

theorem handleSuccessAttemptEnd_v (a x : Nat) :
    ⦃fun w => ⌜view cfg w = v⌝⦄ handleSuccessAttemptEnd cfg tl a x ⦃same cfg v⦄ :=
  same_of_fx cfg v (fun w0 => handleSuccessAttemptEnd_fx _ w0 cfg tl a x (fun _ => rfl) (fun _ _ => rfl)
    (fun _ => rfl) (fun _ => rfl))

theorem handleAbortAttemptEnd_v (a : Nat) (e : Exn) :
    ⦃fun w => ⌜view cfg w = v⌝⦄ handleAbortAttemptEnd cfg a e ⦃same cfg v⦄ :=
  same_of_fx cfg v (fun w0 => handleAbortAttemptEnd_fx _ w0 cfg a e (fun _ => rfl))

end leaves

theorem step_now (s : St) (x : Req × Ans) : (step cfg s x).now = s.now + x.2.dur := by
  obtain ⟨r, a⟩ := x
  cases r <;> first
    | rfl
    | (simp only [step, clsStep]; (repeat' split) <;> rfl)

def opStep (m : St) : St := { m with att := m.att + 1, opSince := true, strats := 0 }

def viewOf (cfg : Cfg) (tr : List (Req × Ans)) (now : Nat) (rs : RState) : View :=
  ⟨{ (cur cfg tr).2 with now := 0 }, (now : Int) - (cur cfg tr).2.now, rs.start, rs.prevSleep, rs.lastExc⟩

theorem view_eq_viewOf (cfg : Cfg) (w : World) : view cfg w = viewOf cfg w.trace w.now w.rs := rfl

theorem view_exchanged (w : World) (x : Req × Ans) (hnp : isPrelude x.1 = false) :
    view cfg (exchanged w x) = { view cfg w with mon := { step cfg (mon cfg w) x with now := 0 } } := by
  simp only [view, mon, exchanged, cur_cons, stepF_of_not_prelude cfg _ x hnp, step_now]
  simp
  omega

theorem srcOk_cons_raise (r : Req) (e : Exn) (d : Nat) (tr : List (Req × Ans)) :
    srcOk e ((r, Ans.raise e d) :: tr) = true := by
  cases e <;> simp [srcOk, raisedAny, raisedBy]

theorem step_op_z (m : St) (n : Nat) (a : Ans) :
    { step cfg m (.op n, a) with now := 0 } = opStep { m with now := 0 } := by
  simp [step, opStep]

theorem view_op (w : World) (n : Nat) (a : Ans) :
    view cfg (exchanged w (.op n, a)) = { view cfg w with mon := opStep (view cfg w).mon } :=
  (view_exchanged cfg w _ rfl).trans (by rw [step_op_z]; rfl)

theorem invokeOp_spec (v : View) (a : Nat) :
    ⦃fun w => ⌜view cfg w = v⌝⦄ invokeOp a
    ⦃post⟨fun _ w => ⌜view cfg w = { v with mon := opStep v.mon }⌝,
          fun e w => ⌜view cfg w = { v with mon := opStep v.mon } ∧ srcOk e w.trace = true⌝⟩⦄ := by
  mvcgen [invokeOp, ask_exchanged]
  all_goals subst_vars
  · obtain ⟨_, rfl⟩ := ‹_ ∧ _›
    exact view_op cfg _ _ _
  · obtain ⟨_, rfl⟩ := ‹_ ∧ _›
    exact ⟨view_op cfg _ _ _, rfl⟩
  · rintro ⟨d, rfl⟩
    exact ⟨view_op cfg _ _ _, srcOk_cons_raise _ _ _ _⟩

def clsOut (m : St) (a : Ans) (cause : Cause) : St :=
  match a with
  | .klass c _ => clsStep m c cause
  | _ => m

theorem clsOut_other {a : Ans} (m : St) (cause : Cause) (h : ∀ c d, a ≠ .klass c d) : clsOut m a cause = m := by
  cases a <;> first | rfl | exact absurd rfl (h _ _)

theorem step_classify_z (m : St) (x : String) (a : Ans) :
    { step cfg m (.classify x, a) with now := 0 } = clsOut { m with now := 0 } a .exception := by
  cases a <;> first | rfl | (simp only [step, clsStep, clsOut]; split <;> rfl)

theorem step_resultClassify_z (m : St) (x : Nat) (a : Ans) :
    { step cfg m (.resultClassify x, a) with now := 0 } = clsOut { m with now := 0 } a .result := by
  cases a <;> first | rfl | (simp only [step, clsStep, clsOut]; split <;> rfl)

theorem view_classify (w : World) (x : String) (a : Ans) :
    view cfg (exchanged w (.classify x, a)) = { view cfg w with mon := clsOut (view cfg w).mon a .exception } :=
  (view_exchanged cfg w _ rfl).trans (by rw [step_classify_z]; rfl)

theorem view_resultClassify (w : World) (x : Nat) (a : Ans) :
    view cfg (exchanged w (.resultClassify x, a)) = { view cfg w with mon := clsOut (view cfg w).mon a .result } :=
  (view_exchanged cfg w _ rfl).trans (by rw [step_resultClassify_z]; rfl)

theorem callClassifier_spec (v : View) (e : Exn) :
    ⦃fun w => ⌜view cfg w = v⌝⦄ callClassifier e
    ⦃post⟨fun c w => ⌜view cfg w = { v with mon := clsStep v.mon c .exception }⌝,
          fun e' w => ⌜view cfg w = v ∧ srcOk e' w.trace = true⌝⟩⦄ := by
  mvcgen [callClassifier, ask_exchanged]
  all_goals subst_vars
  · obtain ⟨_, rfl⟩ := ‹_ ∧ _›
    exact view_classify cfg _ _ _
  · obtain ⟨_, rfl⟩ := ‹_ ∧ _›
    exact ⟨(view_classify cfg _ _ _).trans (by rw [clsOut_other _ _ ‹_›]), rfl⟩
  · rintro ⟨d, rfl⟩
    exact ⟨view_classify cfg _ _ _, srcOk_cons_raise _ _ _ _⟩

theorem shouldClassifyResult_spec (v : View) (x : Nat) :
    ⦃fun w => ⌜view cfg w = v⌝⦄ shouldClassifyResult cfg x
    ⦃post⟨fun r w => ⌜match r with
                      | none => view cfg w = v
                      | some c => view cfg w = { v with mon := clsStep v.mon c .result }⌝,
          fun e' w => ⌜view cfg w = v ∧ srcOk e' w.trace = true⌝⟩⦄ := by
  mvcgen [shouldClassifyResult, ask_exchanged]
  all_goals subst_vars
  · obtain ⟨_, rfl⟩ := ‹_ ∧ _›
    exact view_resultClassify cfg _ _ _
  · obtain ⟨_, rfl⟩ := ‹_ ∧ _›
    exact view_resultClassify cfg _ _ _
  · obtain ⟨_, rfl⟩ := ‹_ ∧ _›
    exact ⟨(view_resultClassify cfg _ _ _).trans (by rw [clsOut_other _ _ ‹_›]), rfl⟩
  · rintro ⟨d, rfl⟩
    exact ⟨view_resultClassify cfg _ _ _, srcOk_cons_raise _ _ _ _⟩

structure Clean (m : St) : Prop where
  sel : m.badSel = false
  args : m.badArgs = false
  count : m.badCount = false
  sleep : m.badSleep = false
  flow : m.badFlow = false

structure SameFlags (m m' : St) : Prop where
  sel : m'.badSel = m.badSel
  args : m'.badArgs = m.badArgs
  count : m'.badCount = m.badCount
  sleep : m'.badSleep = m.badSleep
  flow : m'.badFlow = m.badFlow

theorem SameFlags.trans {a b c : St} (h₁ : SameFlags a b) (h₂ : SameFlags b c) : SameFlags a c :=
  ⟨h₂.sel.trans h₁.sel, h₂.args.trans h₁.args, h₂.count.trans h₁.count, h₂.sleep.trans h₁.sleep,
   h₂.flow.trans h₁.flow⟩

theorem clsStep_flags (m : St) (c : Classification) (cause : Cause) : SameFlags m (clsStep m c cause) := by
  unfold clsStep
  split <;> exact ⟨rfl, rfl, rfl, rfl, rfl⟩

theorem Clean.congr {m m' : St} (hc : Clean m) (h : SameFlags m m') : Clean m' :=
  ⟨h.sel.trans hc.sel, h.args.trans hc.args, h.count.trans hc.count, h.sleep.trans hc.sleep, h.flow.trans hc.flow⟩

/-- what holds at every point of the loop: the monitor's clock is the runner's (`state.elapsed()`),
    its "previously applied delay" is `state.prev_sleep`, and the stored last exception is not a
    `RetryExhaustedError` -/
structure Core (v : View) : Prop where
  clean : Clean v.mon
  time : v.off = v.start
  prev : v.mon.prev = v.prev
  exc : ∀ e, v.lastExc = some e → e.isExhausted = false

theorem Core.congr {v : View} {m : St} (hc : Core v) (hf : SameFlags v.mon m) (hp : m.prev = v.prev) :
    Core { v with mon := m } :=
  ⟨hc.clean.congr hf, hc.time, hp, hc.exc⟩

structure Top (a : Nat) (v : View) : Prop where
  core : Core v
  att : v.mon.att + 1 = a
  ops : v.mon.opSince = false

/-- the number the current attempt has / will get at its failure classification -/
def attNext (m : St) : Nat := if m.opSince then m.att else m.att + 1

/-- inside iteration `a`, before the failure (if any) is classified -/
structure Rel (a : Nat) (v : View) : Prop where
  core : Core v
  next : attNext v.mon = a
  fresh : v.mon.opSince = true → v.mon.strats = 0

/-- after the failure of attempt `a` was classified as `c` -/
structure PC (a : Nat) (c : Classification) (cause : Cause) (v : View) : Prop where
  core : Core v
  att : v.mon.att = a
  ops : v.mon.opSince = false
  strats : v.mon.strats = 0
  cls : v.mon.lastCls = some c
  cause : v.mon.lastCause = cause

structure Granted (a s : Nat) (v : View) : Prop where
  core : Core v
  att : v.mon.att = a
  ops : v.mon.opSince = false
  fresh : Fresh v s

theorem Top.rel {a : Nat} {v : View} (h : Top a v) : Rel a v :=
  ⟨h.core, by simp [attNext, h.ops, h.att], by simp [h.ops]⟩

theorem Top.op {a : Nat} {v : View} (h : Top a v) : Rel a { v with mon := opStep v.mon } :=
  ⟨h.core.congr ⟨rfl, rfl, rfl, rfl, rfl⟩ h.core.prev, by simp [attNext, opStep, h.att], by simp [opStep]⟩

theorem Rel.cls {a : Nat} {v : View} (h : Rel a v) (c : Classification) (cause : Cause) :
    PC a c cause { v with mon := clsStep v.mon c cause } := by
  have hn := h.next
  have hc := h.core
  unfold attNext at hn
  unfold clsStep
  split <;> rename_i ho
  · rw [if_pos ho] at hn
    exact ⟨hc.congr ⟨rfl, rfl, rfl, rfl, rfl⟩ hc.prev, hn, rfl, h.fresh ho, rfl, rfl⟩
  · rw [if_neg ho] at hn
    exact ⟨hc.congr ⟨rfl, rfl, rfl, rfl, rfl⟩ hc.prev, hn, Bool.eq_false_iff.mpr ho, rfl, rfl, rfl⟩

theorem Granted.top {a s : Nat} {v : View} (h : Granted a s v) : Top (a + 1) v :=
  ⟨h.core, by rw [h.att], h.ops⟩

def delayOf (a : Ans) (rem : Nat) : Option Nat :=
  match a with
  | .delay out _ => some (Retry.sanitize out rem)
  | _ => none

/-- the monitor after a strategy call that was asked exactly what the property says and made the delay `d` -/
def stratOut (cfg : Cfg) (m : St) (d : Option Nat) : St :=
  { m with strats := 1, delay := d, prev := if cfg.budget.isNone && d.isSome then d else m.prev }

theorem step_strategy_ok (m : St) (key : SKey) (kind : SKind) (ans : Ans) (a : Nat)
    (c : Classification) (cause : Cause) (rem : Nat)
    (hatt : m.att = a) (hcls : m.lastCls = some c) (hcause : m.lastCause = cause) (hstr : m.strats = 0)
    (hsel : cfg.selectStrategy c.klass = some (key, kind)) (ht : rem + m.now = cfg.deadline) (hpos : 0 < rem)
    (hsel' : m.badSel = false) (hargs : m.badArgs = false) (hcount : m.badCount = false) :
    { step cfg m (.strategy key kind { attempt := a, klass := c.klass, retryAfter := c.retryAfter, prev := m.prev,
                                         remaining := rem, cause := cause }, ans) with now := 0 }
      = stratOut cfg { m with now := 0 } (delayOf ans rem) := by
  have hrem : cfg.deadline - m.now = rem := by omega
  simp [step, stratStep, stratOut, selOk, argsOk, hatt, hcls, hcause, hstr, hsel, ht, hpos, hrem, delayOf,
    Mon.C05.sanitize, hsel', hargs, hcount]
  cases ans <;> simp

theorem delayOf_other {a : Ans} {rem : Nat} (h : ∀ s d, a ≠ .delay s d) : delayOf a rem = none := by
  cases a <;> first | rfl | exact absurd rfl (h _ _)

theorem view_strategy {cfg : Cfg} {w0 : World} {key : SKey} {kind : SKind} {a : Nat}
    {c : Classification} {cause : Cause} {rem : Nat} (ans : Ans)
    (hp : PC a c cause (view cfg w0)) (hsel : cfg.selectStrategy c.klass = some (key, kind)) (hpos : 0 < rem)
    (ht : w0.now - w0.rs.start + rem = cfg.deadline) :
    view cfg (exchanged w0 (.strategy key kind { attempt := a, klass := c.klass, retryAfter := c.retryAfter,
                                                 prev := (view cfg w0).prev, remaining := rem, cause := cause }, ans))
      = { view cfg w0 with mon := stratOut cfg (view cfg w0).mon (delayOf ans rem) } := by
  have hprev : (view cfg w0).prev = (mon cfg w0).prev := hp.core.prev.symm
  have htime := hp.core.time
  rw [hprev]
  refine (view_exchanged cfg w0 _ rfl).trans ?_
  show ({ view cfg w0 with mon := { step cfg (mon cfg w0) _ with now := 0 } } : View) = _
  rw [step_strategy_ok cfg (mon cfg w0) key kind ans a c cause rem hp.att hp.cls hp.cause hp.strats
    hsel (by simp only [view, mon] at htime ⊢; omega) hpos hp.core.clean.sel hp.core.clean.args hp.core.clean.count]
  rfl

theorem callStrategy_spec (key : SKey) (kind : SKind) (ctx : BackoffCtx) (a : Nat)
    (c : Classification) (cause : Cause) (rem : Nat) (v : View) (hp : PC a c cause v)
    (hsel : cfg.selectStrategy c.klass = some (key, kind)) (hpos : 0 < rem)
    (hctx : ctx = { attempt := a, klass := c.klass, retryAfter := c.retryAfter, prev := v.prev,
                    remaining := rem, cause := cause }) :
    ⦃fun w => ⌜view cfg w = v ∧ w.now - w.rs.start + rem = cfg.deadline⌝⦄
    callStrategy key kind ctx
    ⦃post⟨fun out w => ⌜view cfg w = { v with mon := stratOut cfg v.mon (some (Retry.sanitize out rem)) }⌝,
          fun e' w => ⌜view cfg w = { v with mon := stratOut cfg v.mon none } ∧ srcOk e' w.trace = true⌝⟩⦄ := by
  mvcgen [callStrategy, ask_exchanged]
  all_goals (split_ands; subst_vars)
  · exact view_strategy _ hp hsel hpos ‹_›
  · exact ⟨(view_strategy _ hp hsel hpos ‹_›).trans (by rw [delayOf_other ‹_›]), rfl⟩
  · rintro ⟨d, rfl⟩
    exact ⟨view_strategy _ hp hsel hpos ‹_›, srcOk_cons_raise _ _ _ _⟩

def budStep (cfg : Cfg) (m : St) (g : Bool) : St :=
  if cfg.budget.isSome then
    (if g then { m with prev := m.delay, badCount := m.badCount || !(m.strats == 1) }
     else { m with badCount := m.badCount || !(m.strats == 1) })
  else m

theorem step_budget_z (m : St) (g : Bool) :
    { step cfg m (.budgetConsume, .granted g) with now := 0 } =
      if g then { m with now := 0, prev := m.delay, badCount := m.badCount || !(m.strats == 1) }
      else { m with now := 0, badCount := m.badCount || !(m.strats == 1) } := by
  cases g <;> simp [step, Ans.dur]

theorem budgetConsume_spec (v : View) :
    ⦃fun w => ⌜view cfg w = v⌝⦄ budgetConsume cfg
    ⦃post⟨fun g w => ⌜(cfg.budget = none → g = true) ∧ view cfg w = { v with mon := budStep cfg v.mon g }⌝,
          fun _ _ => ⌜False⌝⟩⦄ := by
  mvcgen [budgetConsume]
  all_goals subst_vars
  · simp_all [budStep]
  · rename_i bc hb s
    refine ⟨by simp [hb], ?_⟩
    refine .trans (view_exchanged cfg s (.budgetConsume, .granted (Budget.consume bc s.budget s.now).1) rfl) ?_
    rw [step_budget_z]
    simp only [budStep, hb]
    cases (Budget.consume bc s.budget s.now).1 <;> rfl

theorem PC.stratNone {cfg : Cfg} {a : Nat} {c : Classification} {cause : Cause} {v : View} (h : PC a c cause v) :
    Core { v with mon := stratOut cfg v.mon none } :=
  h.core.congr ⟨rfl, rfl, rfl, rfl, rfl⟩ (by simpa [stratOut] using h.core.prev)

theorem PC.granted {cfg : Cfg} {a : Nat} {c : Classification} {cause : Cause} {v : View} (h : PC a c cause v)
    (sl : Nat) :
    Granted a sl { v with mon := budStep cfg (stratOut cfg v.mon (some sl)) true, prev := some sl } := by
  have hc := h.core
  unfold budStep stratOut
  split <;> rename_i hs
  · exact ⟨⟨hc.clean.congr ⟨rfl, rfl, by simp, rfl, rfl⟩, hc.time, rfl, hc.exc⟩, h.att, h.ops, rfl, rfl⟩
  · have hn : cfg.budget.isNone = true := by simpa using hs
    exact ⟨⟨hc.clean.congr ⟨rfl, rfl, rfl, rfl, rfl⟩, hc.time, by simp [hn], hc.exc⟩, h.att, h.ops, rfl, rfl⟩

theorem PC.denied {cfg : Cfg} {a : Nat} {c : Classification} {cause : Cause} {v : View} (h : PC a c cause v)
    (sl : Nat) (hb : cfg.budget ≠ none) :
    Core { v with mon := budStep cfg (stratOut cfg v.mon (some sl)) false } := by
  have hc := h.core
  have hs : cfg.budget.isSome = true := Option.isSome_iff_ne_none.mpr hb
  have hn : cfg.budget.isNone = false := by rw [Option.isNone_eq_false_iff, hs]
  unfold budStep stratOut
  rw [if_pos hs, hn]
  exact hc.congr ⟨rfl, rfl, by simp, rfl, rfl⟩ hc.prev

theorem view_setPrev (cfg : Cfg) (w : World) (p : Option Nat) :
    view cfg { w with rs := { w.rs with prevSleep := p } } = { view cfg w with prev := p } := rfl

theorem view_setLastStrategy (cfg : Cfg) (w : World) (k : Option SKey) :
    view cfg { w with rs := { w.rs with lastStrategy := k } } = view cfg w := rfl

theorem view_recordFailure (cfg : Cfg) (w : World) (a : Option EClass) (b : Option Classification)
    (c : Option Cause) (d : Option Exn) (e : Option Nat) :
    view cfg { w with rs := { w.rs with lastClass := a, lastClassification := b, lastCause := c, lastExc := d,
                                        lastResult := e } } = { view cfg w with lastExc := d } := rfl

theorem view_setCounts (cfg : Cfg) (w : World) (f : EClass → Nat) :
    view cfg { w with rs := { w.rs with perClassCounts := f } } = view cfg w := rfl

theorem view_setUnknown (cfg : Cfg) (w : World) (n : Nat) :
    view cfg { w with rs := { w.rs with unknownAttempts := n } } = view cfg w := rfl

theorem view_setAs (cfg : Cfg) (w : World) (x : AState) : view cfg { w with as := x } = view cfg w := rfl

theorem view_mk (cfg : Cfg) (ans : List Ans) (now : Nat) (tr : List (Req × Ans)) (rs : RState) (as : AState)
    (att oc : Nat) (tl : List TimelineEv) (tls : Nat) (bud : Budget.St) (br : Breaker.St) (xc : XCtx)
    (sil : Bool) :
    view cfg ⟨ans, now, tr, rs, as, att, oc, tl, tls, bud, br, xc, sil⟩ = viewOf cfg tr now rs := rfl

theorem viewOf_fold (cfg : Cfg) (w : World) : viewOf cfg w.trace w.now w.rs = view cfg w := rfl

theorem viewOf_rs (cfg : Cfg) (w : World) (p : Option Nat) (le : Option Exn) (lr : Option Nat) (lc : Option EClass)
    (lcn : Option Classification) (lca : Option Cause) (ls : Option StopReason) (ua : Nat) (pc : EClass → Nat)
    (lst : Option SKey) :
    viewOf cfg w.trace w.now ⟨w.rs.start, p, le, lr, lc, lcn, lca, ls, ua, pc, lst⟩
      = { view cfg w with prev := p, lastExc := le } := rfl

theorem view_setAttempts (cfg : Cfg) (w : World) (x : Nat) : view cfg { w with attempts := x } = view cfg w := rfl

theorem view_setAsAttempts (cfg : Cfg) (w : World) (x : AState) (n : Nat) :
    view cfg { w with as := x, attempts := n } = view cfg w := rfl

theorem PC.setExc {a : Nat} {c : Classification} {cause : Cause} {v : View} (h : PC a c cause v)
    (x : Option Exn) (hx : ∀ e, x = some e → e.isExhausted = false) : PC a c cause { v with lastExc := x } :=
  ⟨⟨h.core.clean, h.core.time, h.core.prev, hx⟩, h.att, h.ops, h.strats, h.cls, h.cause⟩

theorem PC.granted_of {cfg : Cfg} {a : Nat} {c : Classification} {cause : Cause} {v v₁ v₂ : View} {sl : Nat}
    (hp : PC a c cause v) (h₁ : v₁ = { v with mon := stratOut cfg v.mon (some sl) })
    (h₂ : v₂ = { v₁ with mon := budStep cfg v₁.mon true }) : Granted a sl { v₂ with prev := some sl } := by
  subst h₁ h₂
  exact hp.granted sl

theorem PC.denied_of {cfg : Cfg} {a : Nat} {c : Classification} {cause : Cause} {v v₁ v₂ : View} {sl : Nat}
    {g : Bool} (hp : PC a c cause v) (h₁ : v₁ = { v with mon := stratOut cfg v.mon (some sl) })
    (hg : ¬ g = true) (hb : cfg.budget = none → g = true) (h₂ : v₂ = { v₁ with mon := budStep cfg v₁.mon g }) : Core v₂ := by
  subst h₁ h₂
  cases g
  · exact hp.denied sl (fun h => hg (hb h))
  · exact absurd rfl hg

theorem attempt_excOk {cfg : Cfg} {v : View} {w : World} {e : Exn} (hc : Core v)
    (h : view cfg w = v ∧ excOk v.mon e w.trace = true) :
    Core (view cfg w) ∧ excOk (view cfg w).mon e w.trace = true := by
  rw [h.1]
  exact ⟨hc, h.2⟩

theorem attempt_exc {cfg : Cfg} {v : View} {w : World} {e : Exn} (hc : Core v)
    (h : view cfg w = v ∧ srcOk e w.trace = true) : Core (view cfg w) ∧ excOk (view cfg w).mon e w.trace = true :=
  attempt_excOk hc ⟨h.1, excOk_of_srcOk h.2⟩

/-- what a failed attempt `a` leaves behind when `_handle_failure` decided `d`: the verdict so far; when a retry
    was granted its delay is the fresh one, and the next iteration can begin -/
structure Failed (a : Nat) (d : Decision) (v : View) : Prop where
  core : Core v
  fresh : ∀ s ctx, d = .retry s ctx → Fresh v s
  top : d ≠ .raise → Top (a + 1) v

theorem Failed.raise {a : Nat} {v : View} (hc : Core v) : Failed a .raise v :=
  ⟨hc, fun _ _ h => (nomatch h), fun h => absurd rfl h⟩

theorem Granted.failed {a s : Nat} {v : View} (h : Granted a s v) (ctx : BackoffCtx) : Failed a (.retry s ctx) v :=
  ⟨h.core, fun _ _ he => by cases he; exact h.fresh, fun _ => h.top⟩

abbrev failPost (a : Nat) : PostCond Decision (.except Exn (.arg World .pure)) :=
  post⟨fun d w => ⌜Failed a d (view cfg w)⌝,
       fun e' w => ⌜Core (view cfg w) ∧ excOk (view cfg w).mon e' w.trace = true⌝⟩

section
variable (v : View) (tl : Bool)

theorem modifyRS_v (f : RState → RState) (hf : ∀ w, view cfg { w with rs := f w.rs } = view cfg w) :
    ⦃fun w => ⌜view cfg w = v⌝⦄ modifyRS f ⦃⇓ _ w => ⌜view cfg w = v⌝⦄ := by
  mvcgen [modifyRS]
  exact (hf _).trans ‹_›

theorem modifyAS_v (f : AState → AState) :
    ⦃fun w => ⌜view cfg w = v⌝⦄ modifyAS f ⦃⇓ _ w => ⌜view cfg w = v⌝⦄ := by
  mvcgen [modifyAS]

theorem getRS_v : ⦃fun w => ⌜view cfg w = v⌝⦄ getRS ⦃⇓ _ w => ⌜view cfg w = v⌝⦄ := by
  mvcgen [getRS]

theorem recordFailure_v (c : Classification) (cause : Cause) (e : Option Exn) (r : Option Nat) :
    ⦃fun w => ⌜view cfg w = v⌝⦄ Retry.recordFailure c cause e r
    ⦃⇓ _ w => ⌜view cfg w = { v with lastExc := if cause = .exception then e else none }⌝⦄ := by
  mvcgen [Retry.recordFailure, modifyRS]
  subst_vars
  rfl

theorem stopWith_spec (sr : StopReason) (ev : Event) (a : Nat) (k : EClass) (e : Option Exn) (c : Cause)
    (hc : Core v) (hev : (isBreakerEv ev || ev == .retry) = false) :
    ⦃fun w => ⌜view cfg w = v⌝⦄ stopWith cfg tl sr ev a k e c ⦃failPost cfg a⦄ :=
  have hb : isBreakerEv ev = false := (Bool.or_eq_false_iff.mp hev).1
  have hr : ev ≠ .retry := ne_of_beq_false (Bool.or_eq_false_iff.mp hev).2
  triple_mono (same_of_fxs' cfg v (fun w0 => stopWith_fx _ w0 cfg tl sr ev a k e c
      (fun t => inert_metric ev a 0 t hb (.inl hr)) (fun t ra => inert_log ev a 0 t ra hb (.inl hr))) fun _ h => h.elim)
    (fun _ h => h) (fun _ _ ⟨hd, hv⟩ => by subst hd hv; exact .raise hc) (fun _ _ h => attempt_exc hc h)

end

section
variable (tl : Bool) (c : Classification) (a : Nat) (cause : Cause) (e : Option Exn)

theorem grantRetry_spec (key : SKey) (kind : SKind) (rem : Nat) (v : View) (hp : PC a c cause v)
    (hsel : cfg.selectStrategy c.klass = some (key, kind)) (hpos : 0 < rem) :
    ⦃fun w => ⌜view cfg w = v ∧ w.now - w.rs.start + rem = cfg.deadline⌝⦄
    grantRetry cfg tl c a cause e key kind rem ⦃failPost cfg a⦄ := by
  have hcs := fun ctx hctx => callStrategy_spec cfg key kind ctx a c cause rem v hp hsel hpos hctx
  have hbc := budgetConsume_spec cfg
  have hemit := fun v sl k ex cs cl hf => emit_v cfg v tl .retry a sl k ex none cs cl rfl (Or.inr hf)
  have hstop := fun v hc => stopWith_spec cfg v tl .budgetExhausted .budgetExhausted a c.klass e cause hc rfl
  mvcgen -leave -trivial [grantRetry, getRS, modifyRS, hcs, hbc, hemit, hstop]
  vc_intro
  any_goals assumption
  all_goals (clear hcs hbc hemit hstop; split_ands; subst_vars)
  case vc1.hctx => rfl  -- the context handed to the strategy is the one `callStrategy_spec` asks for
  case vc3.hf => exact (hp.granted_of ‹_› ‹_›).fresh  -- granted: the `retry` event carries the fresh delay
  case vc4 =>  -- granted, the event emitted
    rw [‹view cfg _ = view cfg _›]
    exact (hp.granted_of ‹_› ‹_›).failed _
  case vc5 => exact attempt_exc (hp.granted_of ‹_› ‹_›).core ⟨‹_›, ‹_›⟩  -- granted, the event's sink raised
  case vc6 => exact hp.denied_of ‹_› ‹_› ‹_› ‹_›  -- refused by the budget
  case vc7 => exact attempt_exc hp.stratNone ⟨‹_›, ‹_›⟩  -- the strategy raised

theorem handleFailure2_spec (v : View) (hp : PC a c cause v) :
    ⦃fun w => ⌜view cfg w = v⌝⦄ handleFailure2 cfg tl c a cause e ⦃failPost cfg a⦄ := by
  have hgr := fun key kind rem hsel hpos => grantRetry_spec cfg tl c a cause e key kind rem v hp hsel hpos
  have hstop := fun sr ev hev => stopWith_spec cfg v tl sr ev a c.klass e cause hp.core hev
  have hsrf := fun key k => same_of_fx cfg v fun w0 => stratRecordFailure_fx _ w0 cfg key k rfl
  have hm := fun k => modifyRS_v cfg v (fun r => { r with lastStrategy := k }) (fun w => view_setLastStrategy cfg w k)
  mvcgen -leave -trivial [handleFailure2, elapsed, hgr, hstop, hsrf, hm]
  vc_intro
  any_goals assumption
  any_goals rfl
  · omega
  · exact ⟨‹_›, by omega⟩
  · exact attempt_exc hp.core ‹_›

/-- `_handle_failure`: the bookkeeping and the caps leave the view alone (but for `last_exc`); the rest is
    `handleFailure2` -/
theorem handleFailure_spec (r : Option Nat) (v : View) (hp : PC a c cause v)
    (he : ∀ x, e = some x → x.isExhausted = false) :
    ⦃fun w => ⌜view cfg w = v⌝⦄ handleFailure cfg tl c a cause e r ⦃failPost cfg a⦄ := by
  have hpe : PC a c cause { v with lastExc := if cause = .exception then e else none } := by
    split
    · exact hp.setExc e he
    · exact hp.setExc none (fun _ h => nomatch h)
  have hr := recordFailure_v cfg v c cause e r
  have hm := modifyRS_v cfg { v with lastExc := if cause = .exception then e else none }
    (fun r => { r with perClassCounts := bumpCount r.perClassCounts c.klass }) (fun w => view_setCounts cfg w _)
  have hu := modifyRS_v cfg { v with lastExc := if cause = .exception then e else none }
    (fun r => { r with unknownAttempts := r.unknownAttempts + 1 }) (fun w => view_setUnknown cfg w _)
  have h2 := handleFailure2_spec cfg tl c a cause e _ hpe
  have hstop := fun sr ev hev => stopWith_spec cfg _ tl sr ev a c.klass e cause hpe.core hev
  mvcgen -leave -trivial [handleFailure, handleFailure1, handleUnknown, getRS, hr, hm, hu, h2, hstop]
  vc_intro
  any_goals assumption
  any_goals rfl

end

theorem handleException_spec (tl : Bool) (e : Exn) (a : Nat) (u : View) (hr : Rel a u)
    (he : e.isExhausted = false) :
    ⦃fun w => ⌜view cfg w = u⌝⦄ handleException cfg tl e a ⦃failPost cfg a⦄ := by
  have hcl := callClassifier_spec cfg u e
  have hf := fun c => handleFailure_spec cfg tl c a .exception (some e) none _ (hr.cls c .exception)
    (by intro x hx; cases hx; exact he)
  mvcgen -leave -trivial [handleException, hcl, hf]
  vc_intro
  any_goals assumption
  exact attempt_exc hr.core ‹_›

theorem sleepAction_spec (tl : Bool) (a s : Nat) (ctx : BackoffCtx) (v : View) (hf : Fresh v s) :
    ⦃fun w => ⌜view cfg w = v⌝⦄ sleepAction cfg tl a s ctx ⦃same cfg v⦄ := by
  have h1 := same_of_fx cfg v fun w0 => callBeforeSleep_fx _ w0 cfg ctx s fun _ => by simp [inert, hf.1, hf.2]
  have h2 := same_of_fx cfg v fun w0 => callSleeper_fx _ w0 cfg s fun _ => by simp [inert, hf.1, hf.2]
  have h3 := fun lvl => same_of_fx cfg v fun w0 => callSleepHandler_fx _ w0 lvl ctx s (by simp [inert, hf.1, hf.2])
  have h4 := fun act => same_drop (same_of_fxs' cfg v (fun w0 => handleSleepDecision_fx (inertV v) w0 cfg tl act a s
    (fun _ => rfl) (fun _ _ => rfl) (fun _ => rfl) (fun _ _ => rfl)) fun e h => by rw [h.1]; rfl)
  mvcgen -leave -trivial [sleepAction, h1, h2, h3, h4]
  vc_intro
  any_goals assumption

def OSleep (d : Decision) (o : AOutcome) : Prop := ∀ x, o.sleep = some x → ∃ ctx, d = .retry x ctx

theorem finalizeAttempt_spec (tl : Bool) (a : Nat) (d : Decision) (act : Option SleepDecision)
    (cls : Option Classification) (e : Option Exn) (r : Option Nat) (c : Option Cause) (v : View) :
    ⦃fun w => ⌜view cfg w = v⌝⦄ finalizeAttempt cfg tl a d act cls e r c
    ⦃sameR cfg v fun o _ => (d = .raise → o.decision = .raise) ∧ OSleep d o⦄ := by
  have h1 := fun sr => same_drop (same_of_fxs' cfg v (fun w0 => setStop_fx (inertV v) w0 sr) fun _ h => h.elim)
  have h2 := fun ev k ex st cs (hev : (isBreakerEv ev || ev == .retry) = false) => emit_v cfg v tl ev a 0 k ex st cs none
    (Bool.or_eq_false_iff.mp hev).1 (.inl (ne_of_beq_false (Bool.or_eq_false_iff.mp hev).2))
  mvcgen -leave -trivial [finalizeAttempt, getRS, elapsed, h1, h2]
  vc_intro
  any_goals assumption
  any_goals rfl
  · exact ⟨⟨fun _ => rfl, fun _ h => nomatch h⟩, ‹_›⟩
  all_goals exact ⟨⟨nofun, by rintro _ ⟨⟩ <;> exact ⟨_, rfl⟩⟩, ‹_›⟩

theorem failureOutcome_spec (tl : Bool) (a : Nat) (d : Decision) (cls : Option Classification)
    (e : Option Exn) (r : Option Nat) (c : Option Cause) (v : View)
    (hg : ∀ s ctx, d = .retry s ctx → Fresh v s) :
    ⦃fun w => ⌜view cfg w = v⌝⦄ failureOutcome cfg tl a d cls e r c
    ⦃sameR cfg v fun o _ => (d = .raise → o.decision = .raise) ∧ OSleep d o⦄ := by
  have h1 := fun d act => finalizeAttempt_spec cfg tl a d act cls e r c v
  have h2 := fun s ctx hf => sleepAction_spec cfg tl a s ctx v hf
  mvcgen -leave -trivial [failureOutcome, h1, h2]
  vc_intro
  any_goals assumption
  exact hg _ _ ‹_›

theorem nsOk_of_fresh {v : View} {s : Nat} (h : Fresh v s) : nsOk v.mon (some s) = true := by
  simp [nsOk, h.1, h.2]

theorem excOk_scheduled {o : AOutcome} {rs : RState} {a : Nat} {fr : Bool} {f : ExhaustedFields} {m : St}
    (tr : List (Req × Ans)) (h : determineAction o rs a fr = .scheduled f)
    (hs : ∀ x, o.sleep = some x → nsOk m (some x) = true) : excOk m (.libExhausted f) tr = true := by
  rcases determineAction_scheduled _ _ _ _ _ h with ⟨_, h', _⟩ | ⟨_, h'⟩
  · cases hx : o.sleep with
    | none => simp [excOk, h', hx, nsOk]
    | some x => simp [excOk, h', hx, hs x hx]
  · simp [excOk, h', nsOk]

abbrev deliverPost (o : AOutcome) (v : View) (R : View → β → Prop) :
    PostCond (Option β) (.except Exn (.arg World .pure)) :=
  post⟨fun r w => ⌜view cfg w = v ∧ (r = none → o.decision = .retry) ∧ ∀ out, r = some out → R v out⌝,
       fun e w => ⌜view cfg w = v ∧ excOk v.mon e w.trace = true⌝⟩

/-- what follows `determine_action_from_outcome` in call mode: the loop goes on exactly for a `retry`
    decision; otherwise one of the library's errors — with the outcome's delay as `next_sleep_s` — or
    the original exception is raised -/
theorem deliverCall_spec (o : AOutcome) (rs : RState) (a : Nat) (fr : Bool) (orig : Option Exn)
    (fb : ExhaustedFields) (v : View) (hfb : fb.nextSleep = none)
    (horig : ∀ x, orig = some x → x.isExhausted = false)
    (hs : ∀ x, o.sleep = some x → nsOk v.mon (some x) = true) :
    ⦃fun w => ⌜view cfg w = v⌝⦄ deliverCall (determineAction o rs a fr) orig fb
    ⦃deliverPost cfg o v fun _ _ => True⦄ := by
  mvcgen -leave -trivial [deliverCall]
  vc_intro
  · exact ⟨‹_›, fun _ => (determineAction_continue_iff _ _ _ _).mp ‹_›, fun _ h => nomatch h⟩
  · exact ⟨‹_›, rfl⟩
  · exact ⟨‹_›, excOk_scheduled _ ‹_› hs⟩
  · exact ⟨‹_›, excOk_of_notExh _ (horig _ ‹_›)⟩
  · exact ⟨‹_›, by simp [excOk, hfb, nsOk]⟩

theorem nsOk_of_osleep {d : Decision} {o : AOutcome} {v : View} (ho : OSleep d o)
    (hf : ∀ s ctx, d = .retry s ctx → Fresh v s) : ∀ x, o.sleep = some x → nsOk v.mon (some x) = true := by
  intro x hx
  obtain ⟨ctx, hd⟩ := ho x hx
  exact nsOk_of_fresh (hf x ctx hd)

theorem excOk_of_abort {m : St} {e : Exn} (tr : List (Req × Ans)) (h : e.isAbort = true) :
    excOk m e tr = true := by
  cases e <;> simp_all [excOk, Exn.isAbort]

theorem nsOk_none (m : St) : nsOk m none = true := rfl

theorem top_of_continue {α : Type} {d : Decision} {o : AOutcome} {r : Option α} {n : Nat} {v : View}
    (h1 : r = none → o.decision = .retry) (h2 : d = .raise → o.decision = .raise)
    (h3 : d ≠ .raise → Top n v) : r = none → Top n v := by
  intro hn
  apply h3
  intro hd
  have := h2 hd
  rw [h1 hn] at this
  cases this

abbrev attemptPost (a : Nat) (R : View → β → Prop) : PostCond (Option β) (.except Exn (.arg World .pure)) :=
  post⟨fun r w => ⌜Core (view cfg w) ∧ (r = none → Top (a + 1) (view cfg w)) ∧
                    ∀ out, r = some out → R (view cfg w) out⌝,
       fun e w => ⌜Core (view cfg w) ∧ excOk (view cfg w).mon e w.trace = true⌝⟩

theorem attempt_ret {cfg : Cfg} {a : Nat} {R : View → β → Prop} {v : View} {w : World} {out : β} (hc : Core v)
    (hv : view cfg w = v) (hR : R v out) :
    Core (view cfg w) ∧ (some out = none → Top (a + 1) (view cfg w)) ∧ ∀ o, some out = some o → R (view cfg w) o := by
  rw [hv]
  exact ⟨hc, nofun, fun _ h => Option.some.inj h ▸ hR⟩

/-- The common end of a failed attempt: `_sync_failure_outcome`, the attempt-end hook,
    `determine_action_from_outcome` and what the loop makes of it (`deliver`).  A slice of the model: the last
    lines of `callExceptionPath`, `callResultFailure`, `execResultFailure` and `execExceptionPath3`, which
    differ in `deliver` only; their specs put them in this form by `show` (it holds by `rfl`). -/
def attemptTail (cfg : Cfg) (tl : Bool) (a : Nat) (d : Decision) (cls : Option Classification) (e : Option Exn)
    (r : Option Nat) (c : Option Cause) (deliver : AOutcome → RState → M β) : M β := do
  let o ← failureOutcome cfg tl a d cls e r c
  callAttemptEndFromOutcome cfg a o
  modifyAS fun a => { a with endCalled := true }
  let rs ← getRS
  deliver o rs

theorem attemptTail_spec (tl : Bool) (a : Nat) (d : Decision) (cls : Option Classification)
    (e : Option Exn) (r : Option Nat) (c : Option Cause) (deliver : AOutcome → RState → M (Option β))
    (R : View → β → Prop) (v : View) (hd : Failed a d v)
    (hdel : ∀ o rs, (∀ x, o.sleep = some x → nsOk v.mon (some x) = true) →
      ⦃fun w => ⌜view cfg w = v⌝⦄ deliver o rs ⦃deliverPost cfg o v R⦄) :
    ⦃fun w => ⌜view cfg w = v⌝⦄ attemptTail cfg tl a d cls e r c deliver ⦃attemptPost cfg a R⦄ := by
  have h1 := failureOutcome_spec cfg tl a d cls e r c v hd.fresh
  have h2 := fun o => same_of_fx cfg v fun w0 => callAttemptEndFromOutcome_fx _ w0 cfg a o fun _ => rfl
  have h3 := modifyAS_v cfg v
  have h4 := getRS_v cfg v
  mvcgen -leave -trivial [attemptTail, h1, h2, h3, h4, hdel]
  vc_intro
  any_goals assumption
  · exact ‹_ ∧ _›.2
  · obtain ⟨hv, h1, h2⟩ := ‹_ ∧ _ ∧ _›
    obtain ⟨⟨hr, _⟩, _⟩ := ‹_ ∧ view cfg _ = v›
    rw [hv]
    exact ⟨hd.core, top_of_continue h1 hr hd.top, h2⟩
  · exact attempt_excOk hd.core ‹_›
  · obtain ⟨⟨_, ho⟩, _⟩ := ‹_ ∧ view cfg _ = v›
    exact nsOk_of_osleep ho hd.fresh _ ‹_›
  · exact attempt_exc hd.core ‹_›
  · exact attempt_exc hd.core ‹_›

/-- …preceded by `if not decision.is_raise: state.check_abort(attempt)` -/
def checkedTail (cfg : Cfg) (tl : Bool) (a : Nat) (d : Decision) (cls : Option Classification) (e : Option Exn)
    (r : Option Nat) (c : Option Cause) (deliver : AOutcome → RState → M β) : M β := do
  if d.isRaise then pure () else checkAbort cfg tl a
  attemptTail cfg tl a d cls e r c deliver

theorem checkedTail_spec (tl : Bool) (a : Nat) (d : Decision) (cls : Option Classification)
    (e : Option Exn) (r : Option Nat) (c : Option Cause) (deliver : AOutcome → RState → M (Option β))
    (R : View → β → Prop) (v : View) (hd : Failed a d v)
    (hdel : ∀ o rs, (∀ x, o.sleep = some x → nsOk v.mon (some x) = true) →
      ⦃fun w => ⌜view cfg w = v⌝⦄ deliver o rs ⦃deliverPost cfg o v R⦄) :
    ⦃fun w => ⌜view cfg w = v⌝⦄ checkedTail cfg tl a d cls e r c deliver ⦃attemptPost cfg a R⦄ := by
  have h1 := checkAbort_v cfg v tl a
  have h2 := attemptTail_spec cfg tl a d cls e r c deliver R v hd hdel
  mvcgen -leave -trivial [checkedTail, h1, h2]
  vc_intro
  any_goals assumption
  exact attempt_exc hd.core ‹_›

abbrev callPost (a : Nat) := attemptPost (β := Nat) cfg a fun _ _ => True

theorem callExceptionPath_spec (a : Nat) (e : Exn) (u : View) (hr : Rel a u)
    (he : e.isExhausted = false) :
    ⦃fun w => ⌜view cfg w = u⌝⦄ callExceptionPath cfg a e ⦃callPost cfg a⦄ := by
  have h1 := checkAbort_v cfg u false a
  have h2 := handleException_spec cfg false e a u hr he
  have h3 := fun d cls v hd => checkedTail_spec cfg false a d cls (some e) none (some .exception) _
    (fun _ _ => True) v hd
    fun o rs hs => deliverCall_spec cfg o rs a false (some e) default v rfl (by rintro _ ⟨⟩; exact he) hs
  show ⦃_⦄ (do
    modifyAS fun a => { a with cause := some .exception }
    checkAbort cfg false a
    let d ← handleException cfg false e a
    let r ← getRS
    modifyAS fun a => { a with classification := r.lastClassification }
    checkedTail cfg false a d r.lastClassification (some e) none (some .exception)
      fun o r => deliverCall (determineAction o r a false) (some e) default) ⦃_⦄
  mvcgen -leave -trivial [getRS, modifyAS, h1, h2, h3]
  vc_intro
  any_goals assumption
  exact attempt_exc hr.core ‹_›

/-- `callResultFailure` and `execResultFailure` with what the loop makes of the outcome as a parameter -/
def resultFailure (tl : Bool) (a x : Nat) (c : Classification) (deliver : AOutcome → RState → M β) : M β := do
  checkAbort cfg tl a
  modifyAS fun a => { a with classification := some c, result := some x, cause := some .result }
  let d ← handleFailure cfg tl c a .result none (some x)
  checkedTail cfg tl a d (some c) none (some x) (some .result) deliver

theorem resultFailure_spec (tl : Bool) (a x : Nat) (c : Classification)
    (deliver : AOutcome → RState → M (Option β)) (R : View → β → Prop) (u : View) (hr : Rel a u)
    (hdel : ∀ v o rs, (∀ x, o.sleep = some x → nsOk v.mon (some x) = true) →
      ⦃fun w => ⌜view cfg w = v⌝⦄ deliver o rs ⦃deliverPost cfg o v R⦄) :
    ⦃fun w => ⌜view cfg w = { u with mon := clsStep u.mon c .result }⌝⦄ resultFailure cfg tl a x c deliver
    ⦃attemptPost cfg a R⦄ := by
  have hp := hr.cls c .result
  have h1 := checkAbort_v cfg { u with mon := clsStep u.mon c .result } tl a
  have h2 := handleFailure_spec cfg tl c a .result none (some x) _ hp (fun _ h => nomatch h)
  have h3 := fun d v hd => checkedTail_spec cfg tl a d (some c) none (some x) (some .result) deliver R v hd (hdel v)
  mvcgen -leave -trivial [resultFailure, modifyAS, h1, h2, h3]
  vc_intro
  any_goals assumption
  exact attempt_exc hp.core ‹_›

theorem callResultFailure_spec (a x : Nat) (c : Classification) (u : View) (hr : Rel a u) :
    ⦃fun w => ⌜view cfg w = { u with mon := clsStep u.mon c .result }⌝⦄ callResultFailure cfg a x c
    ⦃callPost cfg a⦄ :=
  resultFailure_spec cfg false a x c _ _ u hr fun v o rs hs => deliverCall_spec cfg o rs a true none
    ⟨rs.lastStop.getD .maxAttemptsGlobal, a, rs.lastClass, none, rs.lastResult, none⟩ v rfl (fun _ h => nomatch h) hs

theorem callResultPath_spec (a x : Nat) (u : View) (hr : Rel a u) :
    ⦃fun w => ⌜view cfg w = u⌝⦄ callResultPath cfg a x ⦃callPost cfg a⦄ := by
  have h1 := shouldClassifyResult_spec cfg u x
  have h2 := handleSuccessAttemptEnd_v cfg u false a x
  have h3 := fun c => callResultFailure_spec cfg a x c u hr
  mvcgen -leave -trivial [callResultPath, h1, h2, h3]
  vc_intro
  any_goals assumption
  · exact attempt_ret (R := fun _ _ => True) hr.core ‹_› trivial
  · exact attempt_exc hr.core ‹_›
  · exact attempt_exc hr.core ‹_›

/-- the `except` ladder around `func()` in `_run_sync_call`, entered with an exception that has a source -/
theorem callOpHandler_spec (a : Nat) (e : Exn) (v : View) (hr : Rel a v) :
    ⦃fun w => ⌜view cfg w = v ∧ srcOk e w.trace = true⌝⦄ callOpHandler cfg a e ⦃callPost cfg a⦄ := by
  have h1 := handleAbortAttemptEnd_v cfg v a e
  have h2 := same_drop (same_of_fxs' cfg v (fun w0 => emitAbortedOnce_fx (inertV v) w0 cfg false a (fun _ => rfl)
    fun _ _ => rfl) fun _ h => h.elim)
  have h3 := fun he => callExceptionPath_spec cfg a e v hr he
  mvcgen -leave -trivial [callOpHandler, h1, h2, h3]
  vc_intro
  any_goals assumption
  case vc1 => exact ‹_ ∧ _›.1  -- `AbortRetryError`: the attempt-end hook starts in view `v`
  case vc3 => exact attempt_excOk hr.core ⟨‹_›, excOk_of_abort _ ‹_›⟩  -- …and the abort is re-raised
  case vc4 => exact attempt_exc hr.core ‹_›  -- …or `emit aborted` raised
  case vc5 => exact attempt_exc hr.core ‹_›  -- …or the hook did
  case vc9 => exact ‹_ ∧ _›.1  -- `Exception`: the failure path starts in view `v`
  case vc10 => exact Bool.eq_false_iff.mpr ‹_›  -- …with an exception that is no `RetryExhaustedError`
  all_goals exact attempt_exc hr.core ‹_›  -- the arms that re-raise at once

/-- One iteration of the loop of `_run_sync_call`. -/
theorem callAttempt_spec (a : Nat) (u : View) (ht : Top a u) :
    ⦃fun w => ⌜view cfg w = u⌝⦄ callAttempt cfg a ⦃callPost cfg a⦄ := by
  have hro := ht.op
  have h1 := fun n => checkAbort_v cfg u false n
  have h2 := callAttemptStart_v cfg u a
  have h3 := invokeOp_spec cfg u a
  have h4 := fun x => callResultPath_spec cfg a x _ hro
  have h5 := fun e => callOpHandler_spec cfg a e _ hro
  mvcgen -leave -trivial [callAttempt, modifyAS, h1, h2, h3, h4, h5]
  vc_intro
  any_goals assumption
  all_goals exact attempt_exc ht.core ‹_›

abbrev loopPost : PostCond α (.except Exn (.arg World .pure)) :=
  post⟨fun _ w => ⌜Core (view cfg w)⌝, fun e w => ⌜Core (view cfg w) ∧ excOk (view cfg w).mon e w.trace = true⌝⟩

theorem raiseExhaustedCall_spec (v : View) (hc : Core v) :
    ⦃fun w => ⌜view cfg w = v⌝⦄ raiseExhaustedCall cfg ⦃loopPost cfg⦄ := by
  refine triple_of_rel (fun w0 => raiseExhaustedCall_fx (inertV v) w0 cfg (fun _ => rfl) (fun _ _ => rfl))
    FootXS.refl (fun _ _ _ hw h => (view_fx cfg _ _ v hw h).symm ▸ hc) (fun w e w' hw h => ?_)
  · have hv := view_fx cfg _ _ v hw h.foot
    refine attempt_excOk hc ⟨hv, ?_⟩
    rcases h.src with (⟨f, rfl, hf⟩ | hl | rfl) | hp
    · simp [excOk, hf, nsOk]
    · have : v.lastExc = some e := by rw [← hv]; exact hl
      exact excOk_of_notExh _ (hc.exc e this)
    · rfl
    · exact excOk_of_srcOk (srcOk_of_prov hp)

theorem callLoop_spec : ∀ (fuel a : Nat) (u : View), Top a u →
    ⦃fun w => ⌜view cfg w = u⌝⦄ callLoop cfg fuel a ⦃loopPost cfg⦄ := by
  intro fuel
  induction fuel with
  | zero =>
    intro a u ht
    have h1 := raiseExhaustedCall_spec cfg u ht.core
    mvcgen -leave -trivial [callLoop, h1]
    vc_intro
    any_goals assumption
  | succ f ih =>
    intro a u ht
    have h1 := callAttempt_spec cfg a u ht
    have h2 := ih (a + 1)
    mvcgen -leave -trivial [callLoop, h1, h2]
    vc_intro
    any_goals assumption
    · exact ‹_ ∧ _›.1
    · obtain ⟨_, h, _⟩ := ‹_ ∧ _ ∧ _›
      exact h rfl

def Pristine (cfg : Cfg) (w : World) : Prop := cur cfg w.trace = (false, {})

theorem initState_spec :
    ⦃fun w => ⌜Pristine cfg w⌝⦄ initState
    ⦃post⟨fun _ w => ⌜Top 1 (view cfg w)⌝, fun _ _ => ⌜False⌝⟩⦄ := by
  mvcgen [initState]
  all_goals (
    rename_i s hp t
    have h : cur cfg s.trace = (false, {}) := hp
    refine ⟨⟨⟨?_, ?_, ?_, ?_, ?_⟩, ?_, ?_, ?_⟩, ?_, ?_⟩ <;> simp +zetaDelta [view, mon, h])

theorem runCall_spec :
    ⦃fun w => ⌜Pristine cfg w⌝⦄ runCall cfg ⦃loopPost cfg⦄ := by
  have h1 := initState_spec cfg
  have h2 := fun u ht => callLoop_spec cfg cfg.maxAttempts 1 u ht
  mvcgen -leave -trivial [runCall, h1, h2]
  vc_intro
  all_goals assumption

abbrev execPost (a : Nat) :=
  attemptPost (β := Outcome) cfg a fun v out => nsOk v.mon out.nextSleep = true

theorem deliverExecute_spec (tl : Bool) (o : AOutcome) (rs : RState) (a : Nat) (fr : Bool) (v : View)
    (hs : ∀ x, o.sleep = some x → nsOk v.mon (some x) = true) :
    ⦃fun w => ⌜view cfg w = v⌝⦄ deliverExecute cfg tl (determineAction o rs a fr) o
    ⦃deliverPost cfg o v fun v out => nsOk v.mon out.nextSleep = true⦄ := by
  have h1 := fun n => abortOutcome_v cfg v tl n
  have h2 := fun ok val n ns => buildOutcome_v cfg v ok val n ns
  mvcgen -leave -trivial [deliverExecute, h1, h2]
  vc_intro
  any_goals assumption
  · exact ⟨‹_›, fun _ => (determineAction_continue_iff _ _ _ _).mp ‹_›, fun _ h => nomatch h⟩
  · obtain ⟨hn, hv⟩ := ‹_ ∧ _›
    refine ⟨hv, nofun, fun _ h => ?_⟩
    show nsOk _ _ = true
    rw [← Option.some.inj h, hn]
    rfl
  · exact ⟨‹_ ∧ _›.1, excOk_of_srcOk ‹_ ∧ _›.2⟩
  · obtain ⟨hn, hv⟩ := ‹_ ∧ _›
    refine ⟨hv, nofun, fun _ h => ?_⟩
    show nsOk _ _ = true
    rw [← Option.some.inj h, hn]
    split
    · cases hx : o.sleep with
      | none => rfl
      | some x => exact hs x hx
    · rfl
  · exact ⟨‹_ ∧ _›.1, excOk_of_srcOk ‹_ ∧ _›.2⟩

section
variable (tl : Bool) (a : Nat)

theorem execAbortExit_spec (e : Exn) (v : View) (hc : Core v) :
    ⦃fun w => ⌜view cfg w = v⌝⦄ execAbortExit cfg tl a e ⦃execPost cfg a⦄ := by
  have h1 := handleAbortAttemptEnd_v cfg v a e
  have h2 := fun n => abortOutcome_v cfg v tl n
  mvcgen -leave -trivial [execAbortExit, h1, h2]
  vc_intro
  any_goals assumption
  · obtain ⟨hn, hv⟩ := ‹_ ∧ _›
    exact attempt_ret (R := fun v (out : Outcome) => nsOk v.mon out.nextSleep = true) hc hv (by rw [hn]; rfl)
  · exact attempt_exc hc ‹_›
  · exact attempt_exc hc ‹_›

theorem checkAbortCaught_spec (v : View) :
    ⦃fun w => ⌜view cfg w = v⌝⦄ checkAbortCaught cfg tl a ⦃same cfg v⦄ := by
  have h1 := checkAbort_v cfg v tl a
  mvcgen -leave -trivial [checkAbortCaught, abortToTrue, h1]
  vc_intro
  any_goals assumption
  exact ‹_ ∧ _›.1

theorem execExceptionPath3_spec (e : Exn) (d : Decision) (v : View)
    (hd : Failed a d v) :
    ⦃fun w => ⌜view cfg w = v⌝⦄ execExceptionPath3 cfg tl a e d ⦃execPost cfg a⦄ := by
  have h1 := fun cls => attemptTail_spec cfg tl a d cls (some e) none (some .exception) _ _ v hd
    fun o rs hs => deliverExecute_spec cfg tl o rs a false v hs
  show ⦃_⦄ (do
    let r ← getRS
    attemptTail cfg tl a d r.lastClassification (some e) none (some .exception)
      fun o r => deliverExecute cfg tl (determineAction o r a false) o) ⦃_⦄
  mvcgen -leave -trivial [getRS, h1]
  vc_intro
  any_goals assumption

theorem execExceptionPath2_spec (e : Exn) (u : View) (hr : Rel a u)
    (he : e.isExhausted = false) :
    ⦃fun w => ⌜view cfg w = u⌝⦄ execExceptionPath2 cfg tl a e ⦃execPost cfg a⦄ := by
  have h2 := handleException_spec cfg tl e a u hr he
  have h3 := fun d v hd => execExceptionPath3_spec cfg tl a e d v hd
  have h4 := fun v => checkAbortCaught_spec cfg tl a v
  have h5 := fun v hc => execAbortExit_spec cfg tl a e v hc
  mvcgen -leave -trivial [execExceptionPath2, getRS, modifyAS, h2, h3, h4, h5]
  vc_intro
  any_goals assumption
  · rw [‹view cfg _ = view cfg _›]
    exact (‹Failed ..›).core
  · rw [‹view cfg _ = view cfg _›]
    exact ‹Failed ..›
  · exact attempt_exc (‹Failed ..›).core ‹_›

theorem execExceptionPath_spec (e : Exn) (u : View) (hr : Rel a u)
    (he : e.isExhausted = false) :
    ⦃fun w => ⌜view cfg w = u⌝⦄ execExceptionPath cfg tl a e ⦃execPost cfg a⦄ := by
  have h3 := execExceptionPath2_spec cfg tl a e u hr he
  have h4 := checkAbortCaught_spec cfg tl a u
  have h5 := execAbortExit_spec cfg tl a e u hr.core
  mvcgen -leave -trivial [execExceptionPath, modifyAS, h3, h4, h5]
  vc_intro
  any_goals assumption
  exact attempt_exc hr.core ‹_›

theorem execResultFailure_spec (x : Nat) (c : Classification) (u : View) (hr : Rel a u) :
    ⦃fun w => ⌜view cfg w = { u with mon := clsStep u.mon c .result }⌝⦄ execResultFailure cfg tl a x c
    ⦃execPost cfg a⦄ :=
  resultFailure_spec cfg tl a x c _ _ u hr fun v o rs hs => deliverExecute_spec cfg tl o rs a true v hs

theorem execResultPath_spec (x : Nat) (u : View) (hr : Rel a u) :
    ⦃fun w => ⌜view cfg w = u⌝⦄ execResultPath cfg tl a x ⦃execPost cfg a⦄ := by
  have h1 := shouldClassifyResult_spec cfg u x
  have h2 := handleSuccessAttemptEnd_v cfg u tl a x
  have h3 := fun c => execResultFailure_spec cfg tl a x c u hr
  have h4 := fun ok val n ns => buildOutcome_v cfg u ok val n ns
  mvcgen -leave -trivial [execResultPath, h1, h2, h3, h4]
  vc_intro
  any_goals assumption
  · obtain ⟨hn, hv⟩ := ‹_ ∧ _›
    exact attempt_ret (R := fun v (out : Outcome) => nsOk v.mon out.nextSleep = true) hr.core hv (by rw [hn]; rfl)
  all_goals exact attempt_exc hr.core ‹_›

theorem rel_exc {cfg : Cfg} {a : Nat} {v : View} {w : World} {e : Exn} (hr : Rel a v)
    (h : view cfg w = v ∧ srcOk e w.trace = true) : Rel a (view cfg w) ∧ srcOk e w.trace = true :=
  ⟨h.1 ▸ hr, h.2⟩

/-- the `try:` body up to and including `func()`: whether it completes or is cut short (by the
    operation or by an attempt hook raising), we are inside attempt `a` -/
theorem execPre_spec (u : View) (ht : Top a u) :
    ⦃fun w => ⌜view cfg w = u⌝⦄ execPre cfg tl a
    ⦃post⟨fun _ w => ⌜view cfg w = { u with mon := opStep u.mon }⌝,
          fun e w => ⌜Rel a (view cfg w) ∧ srcOk e w.trace = true⌝⟩⦄ := by
  have h1 := fun n => checkAbort_v cfg u tl n
  have h2 := callAttemptStart_v cfg u a
  have h3 := invokeOp_spec cfg u a
  mvcgen -leave -trivial [execPre, modifyAS, h1, h2, h3]
  vc_intro
  any_goals assumption
  · exact rel_exc (ht.op) ‹_›
  · exact rel_exc ht.rel ‹_›
  · exact rel_exc ht.rel ‹_›

/-- the `except` ladder of `_run_sync_execute` for an exception (with a source) raised before `func()` returned -/
theorem execHandler_spec (e : Exn) (v : View) (hr : Rel a v) :
    ⦃fun w => ⌜view cfg w = v ∧ srcOk e w.trace = true⌝⦄ execHandler cfg tl a e ⦃execPost cfg a⦄ := by
  have h1 := execAbortExit_spec cfg tl a e v hr.core
  have h2 := fun he => execExceptionPath_spec cfg tl a e v hr he
  mvcgen -leave -trivial [execHandler, h1, h2]
  vc_intro
  case vc1 => exact ‹_ ∧ _›.1  -- `AbortRetryError`: the abort exit starts in view `v`
  case vc5 => exact ‹_ ∧ _›.1  -- `Exception`: so does the failure path
  case vc6 => exact Bool.eq_false_iff.mpr ‹_›  -- …with an exception that is no `RetryExhaustedError`
  all_goals exact attempt_exc hr.core ‹_›  -- the arms that re-raise at once

theorem execAttempt_spec (u : View) (ht : Top a u) :
    ⦃fun w => ⌜view cfg w = u⌝⦄ execAttempt cfg tl a ⦃execPost cfg a⦄ := by
  have h1 := execPre_spec cfg tl a u ht
  have h2 := fun x => execResultPath_spec cfg tl a x _ (ht.op)
  have h3 := fun e v hc => execAbortExit_spec cfg tl a e v hc
  have h4 := fun e v hr => execHandler_spec cfg tl a e v hr
  mvcgen -leave -trivial [execAttempt, execReturnedHandler, h1, h2, h3, h4]
  vc_intro
  any_goals assumption
  · exact ‹_ ∧ _›.1
  · exact ‹_ ∧ _›.1
  · exact ⟨rfl, ‹_ ∧ _›.2⟩

end

abbrev loopPostE : PostCond Outcome (.except Exn (.arg World .pure)) :=
  post⟨fun out w => ⌜Core (view cfg w) ∧ nsOk (view cfg w).mon out.nextSleep = true⌝,
       fun e w => ⌜Core (view cfg w) ∧ excOk (view cfg w).mon e w.trace = true⌝⟩

theorem execLoop_spec (tl : Bool) : ∀ (fuel a : Nat) (u : View), Top a u →
    ⦃fun w => ⌜view cfg w = u⌝⦄ execLoop cfg tl fuel a ⦃loopPostE cfg⦄ := by
  intro fuel
  induction fuel with
  | zero =>
    intro a u ht
    have h1 := same_of_fxs' cfg u (fun w0 => buildExhaustedOutcome_fx _ w0 cfg tl (fun _ => rfl) fun _ _ => rfl)
      fun _ h => h.elim
    mvcgen -leave -trivial [execLoop, h1]
    vc_intro
    any_goals assumption
    · obtain ⟨hn, hv⟩ := ‹_ ∧ _›
      rw [hv, show _ = none from hn]
      exact ⟨ht.core, rfl⟩
    · exact attempt_exc ht.core ‹_›
  | succ f ih =>
    intro a u ht
    have h1 := execAttempt_spec cfg tl a u ht
    have h2 := ih (a + 1)
    mvcgen -leave -trivial [execLoop, h1, h2]
    vc_intro
    any_goals assumption
    · obtain ⟨hc, _, hn⟩ := ‹_ ∧ _ ∧ _›
      exact ⟨hc, hn _ rfl⟩
    · obtain ⟨_, h, _⟩ := ‹_ ∧ _ ∧ _›
      exact h rfl

theorem view_setTl (cfg : Cfg) (w : World) (n : Nat) (tl : List TimelineEv) :
    view cfg { w with tlStart := n, timeline := tl } = view cfg w := rfl

theorem runExecute_spec :
    ⦃fun w => ⌜Pristine cfg w⌝⦄ runExecute cfg ⦃loopPostE cfg⦄ := by
  have h1 := initState_spec cfg
  have h2 := fun u ht => execLoop_spec cfg cfg.timeline cfg.maxAttempts 1 u ht
  mvcgen -leave -trivial [runExecute, h1, h2]
  vc_intro
  all_goals assumption

open Policy

/-- requests made around the loop: the breaker's records and events, the final classification of
    `Policy.call`, attempt-end hooks of the retry-less flavour -/
def postQc : Req → Bool
  | .metric ev .. => isBreakerEv ev
  | .log ev .. => isBreakerEv ev
  | .breakerAllow | .breakerSuccess | .breakerFailure _ | .breakerCancel | .attemptEnd _ | .classify _ => true
  | _ => false

def postQ : Req → Bool
  | .classify _ => false
  | r => postQc r

theorem ne_retry_of_breakerEv {ev : Event} (h : isBreakerEv ev = true) : ev ≠ .retry := by
  rintro rfl
  cases h

theorem step_postQ (s : St) (r : Req) (a : Ans) (h : postQ r = true) :
    step cfg s (r, a) = { s with now := s.now + a.dur } := by
  cases r <;> first | rfl | cases h | simp only [step, if_neg (ne_retry_of_breakerEv h)]

theorem stepF_postQ (p : Bool × St) (x : Req × Ans) (h : postQ x.1 = true) :
    ∃ n, (stepF cfg p x).2 = { p.2 with now := n } := by
  unfold stepF
  split
  · exact ⟨_, rfl⟩
  · exact ⟨_, step_postQ cfg p.2 x.1 x.2 h⟩

theorem stepF_postQc (p : Bool × St) (x : Req × Ans) (h : postQc x.1 = true) :
    SameFlags p.2 (stepF cfg p x).2 := by
  obtain ⟨r, a⟩ := x
  by_cases hq : postQ r = true
  · obtain ⟨n, hn⟩ := stepF_postQ cfg p (r, a) hq
    rw [hn]
    exact ⟨rfl, rfl, rfl, rfl, rfl⟩
  · cases r <;> first | exact absurd h hq | skip
    unfold stepF
    split
    · exact ⟨rfl, rfl, rfl, rfl, rfl⟩
    · cases a <;> first
        | exact ⟨rfl, rfl, rfl, rfl, rfl⟩
        | (refine SameFlags.trans ?_ (clsStep_flags _ _ _); exact ⟨rfl, rfl, rfl, rfl, rfl⟩)

theorem cur_postQc (δ t : List (Req × Ans)) (h : ∀ x ∈ δ, postQc x.1 = true) :
    SameFlags (cur cfg t).2 (cur cfg (δ ++ t)).2 := by
  induction δ with
  | nil => exact ⟨rfl, rfl, rfl, rfl, rfl⟩
  | cons x δ ih =>
    exact (ih (fun y hy => h y (by simp [hy]))).trans (stepF_postQc cfg _ x (h x (by simp)))

theorem cur_postQ (δ t : List (Req × Ans)) (h : ∀ x ∈ δ, postQ x.1 = true) :
    ∃ n, (cur cfg (δ ++ t)).2 = { (cur cfg t).2 with now := n } := by
  induction δ with
  | nil => exact ⟨_, rfl⟩
  | cons x δ ih =>
    obtain ⟨n, hn⟩ := ih (fun y hy => h y (by simp [hy]))
    obtain ⟨m, hm⟩ := stepF_postQ cfg (cur cfg (δ ++ t)) x (h x (by simp))
    exact ⟨m, by rw [List.cons_append, cur_cons, hm, hn]⟩

theorem postQ_sub (r : Req) (h : postQ r = true) : postQc r = true := by
  cases r <;> first | exact h | cases h

def preQ : Req → Bool := isPrelude

theorem preQ_sub (r : Req) (h : preQ r = true) : postQc r = true := by
  cases r <;> first | exact h | cases h

theorem circuit_breakerEv (ev : Event) (h : circuitEv ev = true) : isBreakerEv ev = true := by
  cases ev <;> first | rfl | cases h

/-- …so they lie in `preQ`, `postQ` and `postQc`, which agree with `isBreakerEv` on events by definition: the
    two side conditions of the footprint lemmas that report the breaker's events -/
theorem circuit_m (ev : Event) (_ : Tags) (h : circuitEv ev = true) : isBreakerEv ev = true :=
  circuit_breakerEv ev h

theorem circuit_l (ev : Event) (_ : Tags) (_ : Option Int) (h : circuitEv ev = true) : isBreakerEv ev = true :=
  circuit_breakerEv ev h

def FinV (cfg : Cfg) (w : World) : Prop := Clean (mon cfg w)
def FinE (cfg : Cfg) (e : Exn) (w : World) : Prop := Clean (mon cfg w) ∧ excOk (mon cfg w) e w.trace = true
def FinO (cfg : Cfg) (o : Outcome) (w : World) : Prop := Clean (mon cfg w) ∧ nsOk (mon cfg w) o.nextSleep = true

theorem Pristine.foot {cfg : Cfg} {w w' : World} (h : FootX preQ w w') (hp : Pristine cfg w) : Pristine cfg w' := by
  obtain ⟨δ, e, k, hn⟩ := h.trace
  unfold Pristine at *
  rw [e]
  clear e hn
  induction δ with
  | nil => exact hp
  | cons x δ ih =>
    have hx : isPrelude x.1 = true := k x (by simp)
    simp [ih (fun y hy => k y (by simp [hy])), stepF, hx]

theorem FinV.of_pristine {cfg : Cfg} {w : World} (hp : Pristine cfg w) : FinV cfg w := by
  have : mon cfg w = {} := by unfold mon; rw [hp]
  unfold FinV
  rw [this]
  exact ⟨rfl, rfl, rfl, rfl, rfl⟩

theorem FinV.foot {cfg : Cfg} {w w' : World} (h : FootX postQc w w') (hv : FinV cfg w) : FinV cfg w' := by
  obtain ⟨δ, e, k, _⟩ := h.trace
  unfold FinV mon at *
  rw [e]
  exact Clean.congr hv (cur_postQc cfg δ w.trace k)

theorem FinV.of_core {cfg : Cfg} {w : World} (h : Core (view cfg w)) : FinV cfg w :=
  h.clean.congr ⟨rfl, rfl, rfl, rfl, rfl⟩

theorem FinO.toV {cfg : Cfg} {w : World} {o : Outcome} (h : FinO cfg o w) : FinV cfg w := h.1

theorem FinE.of_notExh {cfg : Cfg} {w : World} {e : Exn} (hv : FinV cfg w) (he : e.isExhausted = false) :
    FinE cfg e w := ⟨hv, excOk_of_notExh _ he⟩

theorem FinE.of_exc {cfg : Cfg} {w w' : World} {e : Exn} {Q : Req → Bool} {Own : Exn → Prop}
    (hq : ∀ r, Q r = true → postQc r = true) (h : ExcX Q Own w w' e)
    (hown : ∀ e, Own e → notExh e) (hv : FinV cfg w) : FinE cfg e w' :=
  ⟨FinV.foot (h.foot.mono hq) hv, excOk_of_srcOk (srcOk_of_src hown h.src)⟩

theorem excOk_mono {m : St} {n : Nat} {e : Exn} {δ t : List (Req × Ans)} (h : excOk m e t = true) :
    excOk { m with now := n } e (δ ++ t) = true := by
  cases e <;> first | rfl | skip
  simp only [excOk, Bool.or_eq_true] at h ⊢
  exact h.imp (raisedAny_append _ _ _) id

/-- what is in flight — nothing, an exception, an outcome — keeps its verdict through the breaker's bookkeeping -/
structure Stable (cfg : Cfg) (I : World → Prop) : Prop where
  foot : ∀ w w', FootX postQ w w' → I w → I w'
  fin : ∀ w, I w → FinV cfg w

theorem FinV.stable : Stable cfg (FinV cfg) :=
  ⟨fun _ _ h => FinV.foot (h.mono postQ_sub), fun _ h => h⟩

theorem mon_postQ {cfg : Cfg} {w w' : World} (h : FootX postQ w w') :
    ∃ δ n, w'.trace = δ ++ w.trace ∧ mon cfg w' = { mon cfg w with now := n } := by
  obtain ⟨δ, e, k, _⟩ := h.trace
  obtain ⟨n, hn⟩ := cur_postQ cfg δ w.trace k
  exact ⟨δ, n, e, by unfold mon; rw [e, hn]⟩

theorem FinE.stable (e : Exn) : Stable cfg (FinE cfg e) :=
  ⟨fun _ _ h hv => by
    obtain ⟨δ, n, ht, hm⟩ := mon_postQ (cfg := cfg) h
    refine ⟨FinV.foot (h.mono postQ_sub) hv.1, ?_⟩
    rw [hm, ht]
    exact excOk_mono hv.2, fun _ h => h.1⟩

theorem FinO.stable (o : Outcome) : Stable cfg (FinO cfg o) :=
  ⟨fun _ _ h hv => by
    obtain ⟨δ, n, _, hm⟩ := mon_postQ (cfg := cfg) h
    refine ⟨FinV.foot (h.mono postQ_sub) hv.1, ?_⟩
    rw [hm]
    exact hv.2, fun _ h => h.1⟩

abbrev finPost : PostCond α (.except Exn (.arg World .pure)) :=
  post⟨fun _ w => ⌜FinV cfg w⌝, fun e w => ⌜FinE cfg e w⌝⟩

abbrev finPostO : PostCond Outcome (.except Exn (.arg World .pure)) :=
  post⟨fun o w => ⌜FinO cfg o w⌝, fun e w => ⌜FinE cfg e w⌝⟩

abbrev stablePost (I : World → Prop) : PostCond α (.except Exn (.arg World .pure)) :=
  post⟨fun _ w => ⌜I w⌝, fun e w => ⌜FinE cfg e w⌝⟩

section policyLeaves
variable {I : World → Prop} (hI : Stable cfg I)
include hI

theorem stable_of_fx {α : Type} {x : M α} (hx : ∀ w0, ⦃fun w => ⌜FootX postQ w0 w⌝⦄ x ⦃fxPost postQ w0⦄) :
    ⦃fun w => ⌜I w⌝⦄ x ⦃stablePost cfg I⦄ :=
  inv_of_fx I _ hx hI.foot fun _ _ _ h hi => FinE.of_exc postQ_sub h (fun _ h => h.elim) (hI.fin _ hi)

theorem recordCancel_s : ⦃fun w => ⌜I w⌝⦄ Policy.recordCancel cfg ⦃stablePost cfg I⦄ :=
  stable_of_fx cfg hI fun w0 => recordCancel_fx postQ w0 cfg rfl

theorem recordSuccess_s : ⦃fun w => ⌜I w⌝⦄ Policy.recordSuccess cfg ⦃stablePost cfg I⦄ :=
  stable_of_fx cfg hI fun w0 => recordSuccess_fx postQ w0 cfg rfl circuit_m circuit_l

theorem recordFailure_s (k : EClass) :
    ⦃fun w => ⌜I w⌝⦄ Policy.recordFailure cfg k ⦃stablePost cfg I⦄ :=
  stable_of_fx cfg hI fun w0 => recordFailure_fx postQ w0 cfg k rfl circuit_m circuit_l

theorem handleAbortCall_s (e : Exn) :
    ⦃fun w => ⌜I w⌝⦄ handleAbortCall cfg e ⦃stablePost cfg I⦄ :=
  stable_of_fx cfg hI fun w0 => handleAbortCall_fx postQ w0 cfg e (fun _ => rfl) rfl

theorem handleExhaustedCall_s (e : Exn) :
    ⦃fun w => ⌜I w⌝⦄ handleExhaustedCall cfg e ⦃stablePost cfg I⦄ :=
  stable_of_fx cfg hI fun w0 => handleExhaustedCall_fx postQ w0 cfg e (fun _ => rfl)
    circuit_m circuit_l

end policyLeaves

/-- the `except Exception` arm classifies once more (for the breaker): what was in flight is not kept -/
theorem handleExceptionCall_v (e : Exn) (b : Bool) :
    ⦃fun w => ⌜FinV cfg w⌝⦄ handleExceptionCall cfg e b ⦃finPost cfg⦄ :=
  inv_of_fx _ _ (fun w0 => handleExceptionCall_fx postQc w0 cfg e b (fun _ => rfl)
      circuit_m circuit_l (fun _ => rfl) rfl)
    (fun _ _ h => FinV.foot h) fun _ _ _ h hv => FinE.of_exc (fun _ h => h) h (fun _ h => h.elim) hv

theorem pristine_of_fx {α : Type} {x : M α} {Own : Exn → Prop}
    (hx : ∀ w0, ⦃fun w => ⌜FootX preQ w0 w⌝⦄ x ⦃fxPost preQ w0 Own⦄) (hown : ∀ e, Own e → notExh e) :
    ⦃fun w => ⌜Pristine cfg w⌝⦄ x ⦃post⟨fun _ w => ⌜Pristine cfg w⌝, fun e w => ⌜FinE cfg e w⌝⟩⦄ :=
  inv_of_fx _ _ hx (fun _ _ h => Pristine.foot h) fun _ _ _ h hp => FinE.of_exc preQ_sub h hown (FinV.of_pristine hp)

theorem pristine_of_fx' {α : Type} {x : M α} {R : α → World → Prop}
    (hx : ∀ w0, ⦃fun w => ⌜FootX preQ w0 w⌝⦄ x
      ⦃post⟨fun a w => ⌜R a w ∧ FootX preQ w0 w⌝, fun e w => ⌜ExcX preQ noOwn w0 w e⌝⟩⦄) :
    ⦃fun w => ⌜Pristine cfg w⌝⦄ x ⦃post⟨fun a w => ⌜R a w ∧ Pristine cfg w⌝, fun e w => ⌜FinE cfg e w⌝⟩⦄ :=
  inv_of_fx' _ _ hx (fun _ _ h => Pristine.foot h)
    fun _ _ _ h hp => FinE.of_exc preQ_sub h (fun _ h => h.elim) (FinV.of_pristine hp)

theorem handleExceptionCall_arm (e : Exn) (b : Bool) (hx : e.isExhausted = false) :
    ⦃fun w => ⌜FinE cfg e w⌝⦄ handleExceptionCall cfg e b ⦃armPost (FinE cfg) e⦄ :=
  triple_mono (handleExceptionCall_v cfg e b) (fun _ h => h.1) (fun _ _ h => FinE.of_notExh h hx) (fun _ _ h => h)

/-- the `except` ladder of `Policy.call`: always re-raises -/
theorem callLadder_spec (e : Exn) :
    ⦃fun w => ⌜FinE cfg e w⌝⦄ callLadder cfg e ⦃finPost cfg⦄ :=
  callLadder_rule e (fun _ => recordCancel_s cfg (FinE.stable cfg e))
    (fun _ => handleAbortCall_s cfg (FinE.stable cfg e) e) (fun _ => handleExhaustedCall_s cfg (FinE.stable cfg e) e)
    (fun _ _ => handleExceptionCall_arm cfg e true) (fun _ _ h => h)

theorem runCall_fin : ⦃fun w => ⌜Pristine cfg w⌝⦄ runCall cfg ⦃finPost cfg⦄ :=
  triple_mono (runCall_spec cfg) (fun _ h => h) (fun _ _ h => FinV.of_core h) (fun _ _ h => ⟨FinV.of_core h.1, h.2⟩)

/-- `Policy.call` with a retry component (also `RetryPolicy.call`, `@retry`, contexts, async twins) -/
theorem call_retry_spec (hret : cfg.hasRetry = true) :
    ⦃fun w => ⌜Pristine cfg w⌝⦄ Policy.call cfg ⦃finPost cfg⦄ :=
  settled_rule (P := Pristine cfg) (fun _ h => h)
    (callAdmitted_retry_rule hret
      (pristine_of_fx cfg (fun w0 => checkBreaker_fx preQ w0 cfg rfl circuit_m circuit_l) (fun _ ⟨_, h⟩ => h ▸ rfl))
      (runCall_fin cfg) (fun _ => recordSuccess_s cfg (FinV.stable cfg)) (callLadder_spec cfg))
    (fun _ => recordCancel_s cfg (FinV.stable cfg)) (fun e => recordCancel_s cfg (FinE.stable cfg e))

/-- the `except` ladder around `retry.execute(...)`: always re-raises -/
theorem executeLadder_spec (e : Exn) :
    ⦃fun w => ⌜FinE cfg e w⌝⦄ executeLadder cfg e ⦃finPostO cfg⦄ :=
  executeLadder_rule e (fun _ => handleExhaustedCall_s cfg (FinE.stable cfg e) e)
    (fun _ => recordCancel_s cfg (FinE.stable cfg e)) (fun _ _ => handleExceptionCall_arm cfg e false)
    (fun _ _ h => h)

theorem runExecute_fin : ⦃fun w => ⌜Pristine cfg w⌝⦄ runExecute cfg ⦃finPostO cfg⦄ :=
  triple_mono (runExecute_spec cfg) (fun _ h => h) (fun _ _ h => ⟨FinV.of_core h.1, h.2⟩)
    (fun _ _ h => ⟨FinV.of_core h.1, h.2⟩)

theorem FinO.of_pristine {cfg : Cfg} {w : World} {o : Outcome} (hp : Pristine cfg w) (ho : o.nextSleep = none) :
    FinO cfg o w := ⟨FinV.of_pristine hp, by rw [ho]; rfl⟩

/-- `Policy.execute` with a retry component: the event `breaker.allow()` hands to the sinks is one of the
    breaker's own, so the report keeps the monitor pristine -/
theorem execute_retry_spec (hret : cfg.hasRetry = true) :
    ⦃fun w => ⌜Pristine cfg w⌝⦄ Policy.execute cfg ⦃finPostO cfg⦄ :=
  settled_rule (P := Pristine cfg) (fun _ h => h)
    (executeAdmitted_rule (Pd := fun _ => Pristine cfg)
      (fun bc => pristine_of_fx' cfg fun w0 => breakerAllow_fx preQ w0 bc rfl)
      (fun d => triple_pure fun hd => pristine_of_fx cfg
        (fun w0 => emitBreakerEvent_fx preQ w0 cfg d.2.2 d.2.1 none (fun ev _ h => circuit_breakerEv ev (hd ev h))
          (fun ev _ _ h => circuit_breakerEv ev (hd ev h))) (fun _ h => h.elim))
      (fun _ _ _ h => h) (fun _ _ _ h => .of_pristine h rfl)
      (executeAdmitted2_retry_rule hret (runExecute_fin cfg) (executeLadder_spec cfg)
        (fun o => recordSuccess_s cfg (FinO.stable cfg o)) (fun o k => recordFailure_s cfg (FinO.stable cfg o) k)
        (fun o => recordCancel_s cfg (FinO.stable cfg o))))
    (fun o => recordCancel_s cfg (FinO.stable cfg o)) (fun e => recordCancel_s cfg (FinE.stable cfg e))

def Verdicts (cfg : Cfg) (e : Entry) (t : Trace) (r : Res) : Prop :=
  selectedOk cfg e t r = true ∧ argsAreOk cfg e t r = true ∧ countOk cfg e t r = true ∧
    sleeperOk cfg e t r = true ∧ flowOk cfg e t r = true

theorem verdicts_noLoop {cfg : Cfg} {e : Entry} (hl : hasLoop cfg e = false) (t : Trace) (r : Res) :
    Verdicts cfg e t r := by
  simp [Verdicts, selectedOk, argsAreOk, countOk, sleeperOk, flowOk, hl]

theorem verdicts_of_clean {cfg : Cfg} {e : Entry} {w : World} {r : Res} (hc : Clean (mon cfg w))
    (hr : resOk w.trace.reverse (mon cfg w) r = true) : Verdicts cfg e w.trace.reverse r := by
  simp only [Verdicts, selectedOk, argsAreOk, countOk, sleeperOk, flowOk, run_retryTrace]
  have : (cur cfg w.trace).2 = mon cfg w := rfl
  simp [this, hc.sel, hc.args, hc.count, hc.sleep, hc.flow, hr]

theorem verdicts_raised {cfg : Cfg} {e : Entry} {w : World} {ex : Exn} (h : FinE cfg ex w) :
    Verdicts cfg e w.trace.reverse (.raised ex) := by
  refine verdicts_of_clean h.1 ?_
  have h2 := h.2
  cases ex <;> first | rfl | skip
  simpa only [resOk, excOk, raisedAny, raisedBy, List.any_reverse] using h2

theorem pristine_start (w : World) : Pristine cfg (startWorld w) := rfl

theorem verdicts_call {cfg : Cfg} {e : Entry} {x : M Nat} (h : ⦃fun w => ⌜Pristine cfg w⌝⦄ x ⦃finPost cfg⦄)
    (w : World) :
    Verdicts cfg e (toRes (x.run (startWorld w))).2.trace.reverse (toRes (x.run (startWorld w))).1 :=
  toRes_of_triple (Q := fun r w => Verdicts cfg e w.trace.reverse r)
    (triple_mono h (fun _ h => h) (fun _ _ h => verdicts_of_clean h rfl) (fun _ _ h => verdicts_raised h)) _
    (pristine_start cfg w)

theorem verdicts_execute {cfg : Cfg} {e : Entry} {x : M Outcome} (tl : Bool)
    (h : ⦃fun w => ⌜Pristine cfg w⌝⦄ x ⦃finPostO cfg⦄) (w : World) :
    Verdicts cfg e (toResO tl (x.run (startWorld w))).2.trace.reverse (toResO tl (x.run (startWorld w))).1 :=
  toResO_of_triple (Q := fun r w => Verdicts cfg e w.trace.reverse r) tl
    (triple_mono h (fun _ h => h) (fun _ _ h => verdicts_of_clean h.1 h.2) (fun _ _ h => verdicts_raised h)) _
    (pristine_start cfg w)

theorem verdicts_hold (e : Entry) (w : World) :
    Verdicts cfg e (runEntry cfg e w).2.trace.reverse (runEntry cfg e w).1 := by
  cases e with
  | call => exact verdicts_call (runCall_fin cfg) w
  | execute => exact verdicts_execute _ (runExecute_fin cfg) w
  | pcall =>
    cases hret : cfg.hasRetry with
    | true => exact verdicts_call (call_retry_spec cfg hret) w
    | false => exact verdicts_noLoop (by simp [hasLoop, hret, Entry.isPolicy]) _ _
  | pexecute =>
    cases hret : cfg.hasRetry with
    | true => exact verdicts_execute _ (execute_retry_spec cfg hret) w
    | false => exact verdicts_noLoop (by simp [hasLoop, hret, Entry.isPolicy]) _ _

/-- **strategy_selected.**  Every strategy call goes to the strategy registered for the class the
    classifier just announced — `strategies[klass]` if present, else the default one — with that
    strategy's signature style. -/
theorem strategy_selected (cfg : Cfg) (e : Entry) (w : World) :
    Mon.C05.selectedOk cfg e (runEntry cfg e w).2.trace.reverse (runEntry cfg e w).1 = true :=
  (verdicts_hold cfg e w).1

/-- **strategy_args.**  The strategy is called with the number of the attempt that just failed, the
    classifier's class and `retry_after_s`, the previously applied delay (`state.prev_sleep`, the delay
    of the last GRANTED retry), `deadline − elapsed` at the moment of the call (which is positive) and
    the cause; legacy 3-argument strategies see attempt, class, previous delay. -/
theorem strategy_args (cfg : Cfg) (e : Entry) (w : World) :
    Mon.C05.argsAreOk cfg e (runEntry cfg e w).2.trace.reverse (runEntry cfg e w).1 = true :=
  (verdicts_hold cfg e w).2.1

/-- **strategy_call_count.**  At most one strategy call per attempt; and whoever is handed a delay
    (sleep handler, `before_sleep`, sleeper, `retry` event) is handed it after exactly one. -/
theorem strategy_call_count (cfg : Cfg) (e : Entry) (w : World) :
    Mon.C05.countOk cfg e (runEntry cfg e w).2.trace.reverse (runEntry cfg e w).1 = true :=
  (verdicts_hold cfg e w).2.2.1

/-- **applied_delay_is_sanitized_output.**  What the sleeper receives is `sanitize out remaining`:
    the strategy's output with nan/±inf/negative values replaced by 0, capped at the remaining time. -/
theorem applied_delay_is_sanitized_output (cfg : Cfg) (e : Entry) (w : World) :
    Mon.C05.sleeperOk cfg e (runEntry cfg e w).2.trace.reverse (runEntry cfg e w).1 = true :=
  (verdicts_hold cfg e w).2.2.2.1

/-- **delay_reaches_handler_hook_sleeper_event_and_next_sleep.**  That same value is what the sleep
    handler, `before_sleep`, the sleeper and the `retry` events (metric and log) receive, and what
    `next_sleep_s` reports (of the `RetryOutcome`, or of the `RetryExhaustedError` the library raises). -/
theorem delay_reaches_handler_hook_sleeper_event_and_next_sleep (cfg : Cfg) (e : Entry) (w : World) :
    Mon.C05.flowOk cfg e (runEntry cfg e w).2.trace.reverse (runEntry cfg e w).1 = true :=
  (verdicts_hold cfg e w).2.2.2.2

/--
**C05.**  For every configuration (strategy tables with per-class entries present or absent, context or
legacy signatures, budget, hooks at either level …), every entry point and every world — every answer
stream: class sequences, strategy outputs incl. NaN, ±inf, negatives and values beyond the remaining
time, durations, any callback raising anything — the run satisfies the delay-flow monitor.
-/
theorem delay_flow_holds (e : Entry) (w : World) :
    Mon.C05.ok cfg e (runEntry cfg e w).2.trace.reverse (runEntry cfg e w).1 = true := by
  have h := verdicts_hold cfg e w
  simp only [Mon.C05.ok, h.1, h.2.1, h.2.2.1, h.2.2.2.1, h.2.2.2.2, Bool.and_self]

/-- …and therefore of every call in every script of calls and clock advances on ONE policy object. -/
theorem delay_flow_holds_script (cfg : Cfg) : ∀ (steps : List Step) (w : World),
    ∀ l ∈ (runScript cfg steps w).1, Mon.C05.ok cfg l.entry l.trace l.res = true :=
  forall_script (P := fun e t r => Mon.C05.ok cfg e t r = true) cfg (delay_flow_holds cfg)

/-! ### the monitor can say no (tests, not theorems) -/

/-- accepted: attempt 1 fails TRANSIENT, the default strategy is asked with attempt 1 / no previous delay /
    the whole deadline and answers 5; 5 is slept -/
example : Mon.C05.ok {} .call
    [(.op 1, .raise (.ordinary 0 .transient) 0), (.classify "o0", .klass ⟨.transient, none⟩ 0),
     (.strategy .default .ctx ⟨1, .transient, none, none, 60, .exception⟩, .delay (.fin 5) 0),
     (.sleeper .dflt 5, .unit 5), (.op 2, .value 7 0)] (.ret 7) = true := by decide

/-- rejected: the strategy was told attempt 2 -/
example : Mon.C05.ok {} .call
    [(.op 1, .raise (.ordinary 0 .transient) 0), (.classify "o0", .klass ⟨.transient, none⟩ 0),
     (.strategy .default .ctx ⟨2, .transient, none, none, 60, .exception⟩, .delay (.fin 5) 0),
     (.sleeper .dflt 5, .unit 5), (.op 2, .value 7 0)] (.ret 7) = false := by decide

/-- rejected: the raw (negative) output reached the sleeper's log as a different number -/
example : Mon.C05.ok {} .call
    [(.op 1, .raise (.ordinary 0 .transient) 0), (.classify "o0", .klass ⟨.transient, none⟩ 0),
     (.strategy .default .ctx ⟨1, .transient, none, none, 60, .exception⟩, .delay (.fin (-3)) 0),
     (.sleeper .dflt 3, .unit 3), (.op 2, .value 7 0)] (.ret 7) = false := by decide

end Redress.Props.C05
