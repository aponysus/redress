/-
  C04 — call() surfaces exactly the last attempt's value or exception.

  Theorems are about `Mon.C04.ok`, the monitor the driver also evaluates on implementation traces.  The
  monitor judges `Retry.call` and `Policy.call` with a retry component (`hasLoop`), not `execute()` (C11's)
  and not a call the breaker refused (`Mon.rejected`, C07's): `applies` below.  The first half of this file
  (monitor fold, view, leaf specifications, failure handling) is shared with C11.
-/
import Redress.Lemmas.PolicyFrame
import Redress.Lemmas.MonitorFacts
import Redress.Monitors

open Std.Do

namespace Redress.Props.C04
open Redress Redress.Retry Redress.Mon Redress.Mon.C04

def cur (cfg : Cfg) (tr : List (Req × Ans)) : St := tr.foldr (fun x s => step cfg s x) {}

@[simp] theorem cur_cons (cfg : Cfg) (x : Req × Ans) (t : List (Req × Ans)) :
    cur cfg (x :: t) = step cfg (cur cfg t) x := rfl

theorem run_reverse (cfg : Cfg) (t : List (Req × Ans)) : run cfg t.reverse = cur cfg t := by
  simp [run, cur, List.foldl_reverse]

structure View where
  mon : St
  lastExc : Option Exn
  lastResult : Option Nat
  lastClass : Option EClass
  lastCause : Option Cause
  lastStop : Option StopReason
  attempts : Nat

def view (cfg : Cfg) (w : World) : View :=
  ⟨cur cfg w.trace, w.rs.lastExc, w.rs.lastResult, w.rs.lastClass, w.rs.lastCause, w.rs.lastStop, w.attempts⟩

def Thrown (t : List (Req × Ans)) (e : Exn) : Prop :=
  e = .stuck ∨ raisedBy (fun r => !isOp r) t e = true

theorem Thrown.head (r : Req) (e : Exn) (d : Nat) (t : List (Req × Ans)) (h : isOp r = false) :
    Thrown ((r, .raise e d) :: t) e := by
  right
  simp [raisedBy, h]

theorem Thrown.stuck (t : List (Req × Ans)) : Thrown t .stuck := Or.inl rfl

theorem Thrown.cons (x : Req × Ans) {t : List (Req × Ans)} {e : Exn} (h : Thrown t e) :
    Thrown (x :: t) e := by
  rcases h with h | h
  · exact Or.inl h
  · right
    simp only [raisedBy, List.any_cons] at h ⊢
    simp [h]

theorem Thrown.append (δ : List (Req × Ans)) {t : List (Req × Ans)} {e : Exn} (h : Thrown t e) :
    Thrown (δ ++ t) e := by
  induction δ with
  | nil => exact h
  | cons x δ ih => exact Thrown.cons x ih

def inertK : Kind → Bool
  | .beforeSleep | .metric | .log | .budgetConsume | .breakerAllow | .breakerSuccess | .breakerFailure
  | .breakerCancel => true
  | _ => false

theorem step_inert (cfg : Cfg) (s : St) (x : Req × Ans) (h : inertK x.1.kind = true) : step cfg s x = s := by
  obtain ⟨r, a⟩ := x
  cases r <;> simp_all [inertK, Req.kind, step]

theorem inert_not_op (r : Req) (h : inertK r.kind = true) : isOp r = false := by
  cases r <;> simp_all [inertK, Req.kind, isOp]

abbrev inertPost (cfg : Cfg) (v : View) : PostCond α (.except Exn (.arg World .pure)) :=
  post⟨fun _ w => ⌜view cfg w = v⌝, fun e w => ⌜Thrown w.trace e ∧ view cfg w = v⌝⟩

def sameBut (u v : View) : Prop :=
  v.mon = u.mon ∧ v.lastExc = u.lastExc ∧ v.lastResult = u.lastResult ∧ v.lastClass = u.lastClass ∧
    v.lastCause = u.lastCause ∧ v.attempts = u.attempts

theorem sameBut.stop (u : View) (ls : Option StopReason) : sameBut u { u with lastStop := ls } :=
  ⟨rfl, rfl, rfl, rfl, rfl, rfl⟩

theorem step_raise_dur (cfg : Cfg) (m : St) (r : Req) (e : Exn) (d : Nat) :
    step cfg m (r, .raise e d) = step cfg m (r, .raise e 0) := by
  cases r <;> rfl

theorem step_flags (cfg : Cfg) (m : St) (r : Req) (a : Ans) (h : isOp r = false) (hh : isAttemptHook r = false) :
    (step cfg m (r, a)).opAfterFault = m.opAfterFault ∧ (step cfg m (r, a)).hookFault = m.hookFault := by
  unfold step
  split
  case h_1 =>  -- the operation: excluded by `h`
    rename_i heq
    rw [show r = _ from heq] at h
    cases h
  case h_5 | h_6 | h_15 | h_16 =>  -- `abort_if` (both arms), `on_attempt_start`, `on_attempt_end`: excluded by `hh`
    rename_i heq _
    rw [show r = _ from heq] at hh
    cases hh
  case h_3 | h_7 => split <;> exact ⟨rfl, rfl⟩  -- a classification (result / exception): `record` keeps both flags
  all_goals exact ⟨rfl, rfl⟩

def quietK : Kind → Bool
  | .strategy | .stratRecordFailure | .stratRecordSuccess | .sleeper | .attemptStart | .attemptEnd => true
  | k => inertK k

theorem step_quiet (cfg : Cfg) (m : St) (r : Req) (a : Ans) (hk : quietK r.kind = true)
    (hnr : ∀ e d, a ≠ .raise e d) : step cfg m (r, a) = m := by
  unfold step
  split
  case h_1 =>  -- the operation: not a quiet kind
    rename_i heq
    rw [show r = _ from heq] at hk
    cases hk
  case h_2 | h_3 | h_4 | h_5 | h_6 | h_7 | h_8 | h_9 | h_10 =>  -- result classifier, `abort_if`, classifier, sleep handler: not quiet kinds
    rename_i heq _
    rw [show r = _ from heq] at hk
    cases hk
  case h_11 | h_12 | h_13 | h_14 | h_15 | h_16 =>  -- the arms for a raising answer: excluded by `hnr`
    rename_i heq
    exact absurd heq (hnr _ _)
  rfl

section leaves
variable (cfg : Cfg) (v : View) (tl : Bool)

theorem ask_spec (r : Req) :
    ⦃fun w => ⌜view cfg w = v⌝⦄ ask r
    ⦃post⟨fun a w => ⌜view cfg w = { v with mon := step cfg v.mon (r, a) } ∧ ∀ e d, a ≠ .raise e d⌝,
          fun e w => ⌜(isOp r = false → Thrown w.trace e) ∧
            view cfg w = { v with mon := step cfg v.mon (r, .raise e 0) }⌝⟩⦄ :=
  ask_triple r (fun _ _ h ha => ⟨h ▸ rfl, ha⟩)
    (fun _ e d h => ⟨Thrown.head r e d _, h ▸ step_raise_dur cfg _ r e d ▸ rfl⟩)

theorem ask_inert (r : Req) (hk : inertK r.kind = true) :
    ⦃fun w => ⌜view cfg w = v⌝⦄ ask r ⦃inertPost cfg v⦄ := by
  have h := ask_spec cfg v r
  mvcgen [h]
  · intro hv _
    rw [hv, step_inert cfg _ _ hk]
  · intro ht hs
    rw [hs, step_inert cfg _ _ hk]
    exact ⟨ht (inert_not_op r hk), rfl⟩

theorem askHook_inert (r : Req) (hk : inertK r.kind = true) :
    ⦃fun w => ⌜view cfg w = v⌝⦄ askHook r ⦃inertPost cfg v⦄ :=
  askHook_triple r (ask_inert cfg v r hk) (fun w h => presil_cases (fun w => view cfg w = v) w (fun _ => h))

theorem askMetric_i (ev : Event) (a s : Nat) (t : Tags) :
    ⦃fun w => ⌜view cfg w = v⌝⦄ askMetric ev a s t ⦃inertPost cfg v⦄ := by
  mvcgen [askMetric, askHook_inert]
  all_goals subst_vars
  · assumption
  · exact And.intro

theorem askLog_i (ev : Event) (a s : Nat) (t : Tags) (ra : Option Int) :
    ⦃fun w => ⌜view cfg w = v⌝⦄ askLog ev a s t ra ⦃inertPost cfg v⦄ := by
  mvcgen [askLog, askHook_inert]
  all_goals subst_vars
  · assumption
  · exact And.intro

theorem recordTimeline_i (ev : Event) (a s : Nat) (t : Tags) :
    ⦃fun w => ⌜view cfg w = v⌝⦄ recordTimeline ev a s t ⦃inertPost cfg v⦄ := by
  mvcgen [recordTimeline]

attribute [local spec] askMetric_i askLog_i recordTimeline_i

theorem metricHook_i (ev : Event) (a s : Nat) (t : Tags) :
    ⦃fun w => ⌜view cfg w = v⌝⦄ metricHook cfg tl ev a s t ⦃inertPost cfg v⦄ := by
  mvcgen [metricHook]
  all_goals subst_vars
  · assumption
  · assumption
  · exact And.intro

attribute [local spec] metricHook_i

abbrev emitPost (cfg : Cfg) (v : View) : PostCond α (.except Exn (.arg World .pure)) :=
  post⟨fun _ w => ⌜view cfg w = v⌝,
       fun e w => ⌜Thrown w.trace e ∧ view cfg w = v ∧ e.isException = false⌝⟩

theorem swallow_i (e : Exn) :
    ⦃fun w => ⌜Thrown w.trace e ∧ view cfg w = v⌝⦄ swallowException e ⦃emitPost cfg v⦄ := by
  mvcgen [swallowException]
  all_goals ((try subst_vars) <;> (try intros) <;> simp_all)

attribute [local spec] swallow_i

theorem emit_i (ev : Event) (a s : Nat) (k : Option EClass) (e : Option Exn) (st : Option StopReason)
    (cs : Option Cause) (cl : Option Classification) :
    ⦃fun w => ⌜view cfg w = v⌝⦄ emit cfg tl ev a s k e st cs cl ⦃emitPost cfg v⦄ := by
  mvcgen [emit]
  all_goals ((try subst_vars) <;> (try intros) <;> simp_all)

attribute [local spec] emit_i

theorem callBeforeSleep_i (ctx : BackoffCtx) (d : Nat) :
    ⦃fun w => ⌜view cfg w = v⌝⦄ callBeforeSleep cfg ctx d ⦃inertPost cfg v⦄ := by
  mvcgen [callBeforeSleep, askHook_inert]
  all_goals subst_vars
  · assumption
  · exact id
  · exact fun ht hv _ => ⟨ht, hv⟩

theorem budgetConsume_i : ⦃fun w => ⌜view cfg w = v⌝⦄ budgetConsume cfg ⦃inertPost cfg v⦄ := by
  mvcgen [budgetConsume]
  all_goals (subst_vars; simp_all [view, step])

abbrev hookPost (cfg : Cfg) (v : View) : PostCond α (.except Exn (.arg World .pure)) :=
  post⟨fun _ w => ⌜view cfg w = v⌝, fun e w => ⌜Thrown w.trace e ∧ (view cfg w).mon.hookFault = true⌝⟩

theorem ask_attemptStart (c : AttemptCtx) :
    ⦃fun w => ⌜view cfg w = v⌝⦄ ask (.attemptStart c) ⦃hookPost cfg v⦄ := by
  have h := ask_spec cfg v (.attemptStart c)
  mvcgen [h]
  · intro hv hn
    rw [hv, step_quiet cfg _ _ _ rfl hn]
  · intro ht hs
    rw [hs]
    exact ⟨ht rfl, rfl⟩

theorem ask_attemptEnd (c : AttemptCtx) :
    ⦃fun w => ⌜view cfg w = v⌝⦄ ask (.attemptEnd c) ⦃hookPost cfg v⦄ := by
  have h := ask_spec cfg v (.attemptEnd c)
  mvcgen [h]
  · intro hv hn
    rw [hv, step_quiet cfg _ _ _ rfl hn]
  · intro ht hs
    rw [hs]
    exact ⟨ht rfl, rfl⟩

attribute [local spec] ask_attemptStart ask_attemptEnd

theorem callAttemptStart_h (a : Nat) :
    ⦃fun w => ⌜view cfg w = v⌝⦄ callAttemptStart cfg a ⦃hookPost cfg v⦄ := by
  mvcgen [callAttemptStart, elapsed]
  all_goals subst_vars
  · assumption

theorem callAttemptEnd_h (a : Nat) (cls : Option Classification) (exc : Option Exn) (r : Option Nat)
    (d : AttemptDecision) (st : Option StopReason) (c : Option Cause) (sl : Option Nat) :
    ⦃fun w => ⌜view cfg w = v⌝⦄ callAttemptEnd cfg a cls exc r d st c sl ⦃hookPost cfg v⦄ := by
  mvcgen [callAttemptEnd, elapsed]
  all_goals subst_vars
  · assumption

attribute [local spec] callAttemptEnd_h

theorem callAttemptEndFromOutcome_h (a : Nat) (o : AOutcome) :
    ⦃fun w => ⌜view cfg w = v⌝⦄ callAttemptEndFromOutcome cfg a o ⦃hookPost cfg v⦄ := by
  mvcgen [callAttemptEndFromOutcome]

theorem handleAbortAttemptEnd_h (a : Nat) (e : Exn) :
    ⦃fun w => ⌜view cfg w = v⌝⦄ handleAbortAttemptEnd cfg a e ⦃hookPost cfg v⦄ := by
  mvcgen [handleAbortAttemptEnd, getAS, modifyAS]
  all_goals subst_vars
  · rename_i h _
    exact h

def FErr (v v' : View) (e : Exn) : Prop :=
  v'.mon.opAfterFault = v.mon.opAfterFault ∧ v'.mon.hookFault = v.mon.hookFault ∧
    (e.isAbort = true → v' = v)

abbrev faultPost (cfg : Cfg) (v : View) : PostCond α (.except Exn (.arg World .pure)) :=
  post⟨fun _ w => ⌜view cfg w = v⌝, fun e w => ⌜Thrown w.trace e ∧ FErr v (view cfg w) e⌝⟩

theorem faultBy_abort (m : St) (e : Exn) (h : e.isAbort = true) : faultBy m e = m := by
  simp [faultBy, h]

theorem FErr.stuck (r : Req) (a : Ans) (h : isOp r = false) (hh : isAttemptHook r = false) :
    FErr v { v with mon := step cfg v.mon (r, a) } .stuck :=
  ⟨(step_flags cfg v.mon r a h hh).1, (step_flags cfg v.mon r a h hh).2, nofun⟩

theorem FErr.fault (e : Exn) : FErr v { v with mon := faultBy v.mon e } e :=
  ⟨rfl, rfl, fun ha => by rw [faultBy_abort _ _ ha]⟩

theorem callStrategy_f (key : SKey) (kind : SKind) (ctx : BackoffCtx) :
    ⦃fun w => ⌜view cfg w = v⌝⦄ callStrategy key kind ctx ⦃faultPost cfg v⦄ := by
  have h := ask_spec cfg v (.strategy key kind ctx)
  mvcgen [callStrategy, h]
  · rename_i hv
    exact hv.1
  · rename_i hv
    rw [hv.1]
    exact ⟨Thrown.stuck _, FErr.stuck cfg v _ _ rfl rfl⟩
  · intro ht hs
    rw [hs]
    exact ⟨ht rfl, FErr.fault v _⟩

theorem stratRecordFailure_f (key : SKey) (k : EClass) :
    ⦃fun w => ⌜view cfg w = v⌝⦄ stratRecordFailure cfg key k ⦃faultPost cfg v⦄ := by
  have h := ask_spec cfg v (.stratRecordFailure key k)
  mvcgen [stratRecordFailure, h]
  · rename_i hv
    rw [hv.1, step_quiet cfg _ _ _ rfl hv.2]
  · intro ht hs
    rw [hs]
    exact ⟨ht rfl, FErr.fault v _⟩

theorem callSleeper_f (d : Nat) :
    ⦃fun w => ⌜view cfg w = v⌝⦄ callSleeper cfg d ⦃faultPost cfg v⦄ := by
  have h := ask_spec cfg v (.sleeper cfg.sleeper d)
  mvcgen [callSleeper, h]
  · rename_i hv
    rw [hv.1, step_quiet cfg _ _ _ rfl hv.2]
  · intro ht hs
    rw [hs]
    exact ⟨ht rfl, FErr.fault v _⟩

/-- `strategy.record_success()`: an AbortRetryError from it revokes the success -/
def SErr (v v' : View) (e : Exn) : Prop :=
  v'.mon.opAfterFault = v.mon.opAfterFault ∧ v'.mon.hookFault = v.mon.hookFault ∧
    (e.isAbort = true → v' = { v with mon := { v.mon with abortedSuccess := true } })

theorem recordStrategySuccess_s :
    ⦃fun w => ⌜view cfg w = v⌝⦄ recordStrategySuccess cfg
    ⦃post⟨fun _ w => ⌜view cfg w = v⌝, fun e w => ⌜Thrown w.trace e ∧ SErr v (view cfg w) e⌝⟩⦄ := by
  have h := fun key => ask_spec cfg v (.stratRecordSuccess key)
  mvcgen [recordStrategySuccess, getRS, h]
  · rename_i hv
    rw [hv.1, step_quiet cfg _ _ _ rfl hv.2]
  · intro ht hs
    rw [hs]
    refine ⟨ht rfl, rfl, rfl, fun ha => ?_⟩
    simp only [step, faultBy_abort _ _ ha, ha, Bool.or_true]

def handlerStep (m : St) (d : Nat) (dec : SleepDecision) : St :=
  { m with delay := some d, deferred := dec == .defer, badDecision := dec == .other }

theorem callSleepHandler_f (lvl : Lvl) (ctx : BackoffCtx) (d : Nat) :
    ⦃fun w => ⌜view cfg w = v⌝⦄ callSleepHandler lvl ctx d
    ⦃post⟨fun dec w => ⌜view cfg w = { v with mon := handlerStep v.mon d dec }⌝,
          fun e w => ⌜Thrown w.trace e ∧ FErr v (view cfg w) e⌝⟩⦄ := by
  have h := ask_spec cfg v (.sleepHandler lvl ctx d)
  mvcgen [callSleepHandler, h]
  · rename_i hv
    exact hv.1
  · rename_i hv
    rw [hv.1]
    exact ⟨Thrown.stuck _, FErr.stuck cfg v _ _ rfl rfl⟩
  · intro ht hs
    rw [hs]
    exact ⟨ht rfl, FErr.fault v _⟩

def clsStep (cfg : Cfg) (m : St) (c : Classification) : St := step cfg m (.classify "", .klass c 0)

theorem callClassifier_f (e : Exn) :
    ⦃fun w => ⌜view cfg w = v⌝⦄ callClassifier e
    ⦃post⟨fun c w => ⌜view cfg w = { v with mon := clsStep cfg v.mon c }⌝,
          fun e w => ⌜Thrown w.trace e ∧ FErr v (view cfg w) e⌝⟩⦄ := by
  have h := ask_spec cfg v (.classify e.ref)
  mvcgen [callClassifier, h]
  · rename_i hv
    exact hv.1
  · rename_i hv
    rw [hv.1]
    exact ⟨Thrown.stuck _, FErr.stuck cfg v _ _ rfl rfl⟩
  · intro ht hs
    rw [hs]
    exact ⟨ht rfl, FErr.fault v _⟩

def resStep (cfg : Cfg) (m : St) : Option Classification → St
  | none => if cfg.resultClassifier then { m with succeeded := true } else m
  | some c => step cfg m (.resultClassify 0, .klass c 0)

theorem shouldClassifyResult_f (x : Nat) :
    ⦃fun w => ⌜view cfg w = v⌝⦄ shouldClassifyResult cfg x
    ⦃post⟨fun r w => ⌜view cfg w = { v with mon := resStep cfg v.mon r } ∧ (r.isSome → cfg.resultClassifier = true)⌝,
          fun e w => ⌜Thrown w.trace e ∧ FErr v (view cfg w) e ∧ cfg.resultClassifier = true⌝⟩⦄ := by
  have h := ask_spec cfg v (.resultClassify x)
  mvcgen [shouldClassifyResult, h]
  · rename_i hv
    exact ⟨by rw [hv.1, resStep, if_pos ‹_›]; rfl, nofun⟩
  · rename_i hv
    exact ⟨hv.1, fun _ => ‹_›⟩
  · rename_i hv
    rw [hv.1]
    exact ⟨Thrown.stuck _, FErr.stuck cfg v _ _ rfl rfl, ‹_›⟩
  · intro ht hs
    rw [hs]
    exact ⟨ht rfl, FErr.fault v _, ‹_›⟩
  · rename_i hn _ hv
    exact ⟨by rw [hv, resStep, if_neg hn], nofun⟩

theorem setStop_spec (st : StopReason) :
    ⦃fun w => ⌜view cfg w = v⌝⦄ setStop st
    ⦃post⟨fun _ w => ⌜view cfg w = { v with lastStop := some st }⌝, fun _ _ => ⌜False⌝⟩⦄ := by
  mvcgen [setStop, modifyRS]
  all_goals (subst_vars; simp_all +zetaDelta [view])

attribute [local spec] setStop_spec

theorem emitAbortedOnce_spec (a : Nat) :
    ⦃fun w => ⌜view cfg w = v⌝⦄ emitAbortedOnce cfg tl a
    ⦃post⟨fun _ w => ⌜view cfg w = { v with lastStop := some .aborted }⌝,
          fun e w => ⌜Thrown w.trace e ∧ view cfg w = { v with lastStop := some .aborted } ∧
            e.isException = false⌝⟩⦄ := by
  mvcgen [emitAbortedOnce, getRS]
  all_goals (subst_vars; simp_all +zetaDelta [view])

def pollStep (cfg : Cfg) (m : St) : St :=
  if cfg.abortIf then step cfg m (.abortIf, .bool false 0) else m

theorem checkAbort_spec (a : Nat) :
    ⦃fun w => ⌜view cfg w = v⌝⦄ checkAbort cfg tl a
    ⦃post⟨fun _ w => ⌜view cfg w = { v with mon := pollStep cfg v.mon }⌝,
          fun e w => ⌜(e ≠ .libAbort → Thrown w.trace e) ∧ (e.isAbort = false → Thrown w.trace e) ∧
            ((view cfg w).mon.hookFault = false → sameBut v (view cfg w)) ∧
            (e.isException = true → e ≠ .libAbort → (view cfg w).mon.hookFault = true) ∧
            cfg.abortIf = true⌝⟩⦄ := by
  have h := ask_spec cfg v .abortIf
  mvcgen [checkAbort, h]
  · rename_i hv
    rw [hv.1, pollStep, if_pos ‹_›]
    rfl
  -- the predicate answered True: the library's own abort
  · rename_i h3 _ _ h2 _ _ h1
    rw [h1, h2, h3.1]
    exact ⟨fun h => absurd rfl h, nofun, fun _ => sameBut.stop v _, fun _ h => absurd rfl h, ‹_›⟩
  · rename_i h3 _ _ h2 _ _
    intro ht hv hx
    rw [hv, h2, h3.1]
    exact ⟨fun _ => ht, fun _ => ht, fun _ => sameBut.stop v _, fun hx' => (by rw [hx] at hx'; cases hx'), ‹_›⟩
  -- an ill-shaped answer
  · rename_i a hnf _ _ _ hv
    have hm : step cfg v.mon (Req.abortIf, a) = v.mon := by
      cases a with
      | bool b d =>
        cases b
        · exact (hnf d rfl).elim
        · rfl
      | raise e d => exact absurd rfl (hv.2 e d)
      | _ => rfl
    rw [hv.1, hm]
    exact ⟨fun _ => Thrown.stuck _, fun _ => Thrown.stuck _, fun _ => sameBut.stop v _, nofun, ‹_›⟩
  -- the predicate raised
  · intro ht hs
    rw [hs]
    exact ⟨fun _ => ht rfl, fun _ => ht rfl, nofun, fun _ _ => rfl, ‹_›⟩
  · rename_i hn _ hv
    rw [hv, pollStep, if_neg hn]

def opStep (cfg : Cfg) (m : St) (a : Ans) : St := step cfg m (.op 0, a)

theorem step_op (cfg : Cfg) (m : St) (n : Nat) (a : Ans) : step cfg m (.op n, a) = opStep cfg m a := rfl

theorem invokeOp_spec (a : Nat) :
    ⦃fun w => ⌜view cfg w = v⌝⦄ invokeOp a
    ⦃post⟨fun x w => ⌜view cfg w = { v with mon := opStep cfg v.mon (.value x 0) }⌝,
          fun e w => ⌜(e ≠ .stuck → view cfg w = { v with mon := opStep cfg v.mon (.raise e 0) }) ∧
            (view cfg w).mon.opAfterFault = (v.mon.opAfterFault || v.mon.fault) ∧
            (view cfg w).mon.hookFault = v.mon.hookFault⌝⟩⦄ := by
  have h := fun n => ask_spec cfg v (.op n)
  mvcgen [invokeOp, h]
  · rename_i hv
    exact hv.1
  · rename_i hv
    rw [hv.1]
    exact ⟨fun h => absurd rfl h, rfl, rfl⟩
  · intro _ hs
    rw [hs]
    exact ⟨fun _ => rfl, rfl, rfl⟩

@[simp] theorem view_as (cfg : Cfg) (w : World) (x : AState) : view cfg { w with as := x } = view cfg w := rfl

/-- `_build_outcome` as a function of the view -/
def outcomeOf (v : View) (ok : Bool) (value : Option Nat) (attempts : Nat) (ns : Option Nat) (el : Nat) :
    Outcome :=
  { ok, value := if ok then value else none,
    stop := if ok then none else v.lastStop,
    attempts,
    lastClass := if ok then none else v.lastClass,
    lastExc := if !ok && v.lastCause = some .exception then v.lastExc.map Exn.ref else none,
    lastResult := if !ok && v.lastCause = some .result then v.lastResult else none,
    cause := if ok then none else v.lastCause,
    elapsed := el, nextSleep := ns }

def IsOutcome (v : View) (ok : Bool) (value : Option Nat) (attempts : Nat) (ns : Option Nat) (o : Outcome) :
    Prop := ∃ el, o = outcomeOf v ok value attempts ns el

theorem buildOutcome_spec (ok : Bool) (value : Option Nat) (n : Nat) (ns : Option Nat) :
    ⦃fun w => ⌜view cfg w = v⌝⦄ buildOutcome ok value n ns
    ⦃post⟨fun o w => ⌜IsOutcome v ok value n ns o ∧ view cfg w = v⌝, fun _ _ => ⌜False⌝⟩⦄ := by
  mvcgen [buildOutcome, getRS, elapsed]
  all_goals (subst_vars; rename_i s; exact ⟨⟨s.now - s.rs.start, rfl⟩, rfl⟩)

attribute [local spec] buildOutcome_spec emitAbortedOnce_spec

theorem abortOutcome_spec (n : Nat) :
    ⦃fun w => ⌜view cfg w = v⌝⦄ abortOutcome cfg tl n
    ⦃post⟨fun o w => ⌜IsOutcome { v with lastStop := some .aborted } false none n none o ∧
            view cfg w = { v with lastStop := some .aborted }⌝,
          fun e w => ⌜Thrown w.trace e ∧ view cfg w = { v with lastStop := some .aborted } ∧
            e.isException = false⌝⟩⦄ := by
  mvcgen [abortOutcome]
  case vc2 => exact fun _ _ => cfg  -- the configuration `buildOutcome_spec` speaks of (not fixed by the program)
  all_goals (subst_vars; simp_all +zetaDelta)

def decisionStop (ls : Option StopReason) : SleepDecision → Option StopReason
  | .defer => some .scheduled
  | .abort => some .aborted
  | _ => ls

theorem handleSleepDecision_spec (act : SleepDecision) (a d : Nat) :
    ⦃fun w => ⌜view cfg w = v⌝⦄ handleSleepDecision cfg tl act a d
    ⦃post⟨fun r w => ⌜r = act ∧ act ≠ .other ∧ view cfg w = { v with lastStop := decisionStop v.lastStop act }⌝,
          fun e w => ⌜(act = .other → e = .libValueError) ∧ (act ≠ .other → Thrown w.trace e ∧ e.isException = false) ∧
            view cfg w = { v with lastStop := decisionStop v.lastStop act }⌝⟩⦄ := by
  mvcgen -leave -trivial [handleSleepDecision, getRS]
  all_goals try exact cfg
  all_goals try refine SPred.pure_mono ?_
  · rename_i h
    exact fun _ => ⟨rfl, nofun, h⟩
  · rename_i h3 _ _ h2 _ _ h1
    exact fun _ => ⟨rfl, nofun, by rw [h1, h2, h3]; rfl⟩
  · rename_i h3 _ _ h2 _ _
    intro ⟨ht, hv, hx⟩
    exact ⟨nofun, fun _ => ⟨ht, hx⟩, by rw [hv, h2, h3]; rfl⟩
  · rename_i h2 _ _ h1
    exact fun _ => ⟨rfl, nofun, by rw [h1, h2]; rfl⟩
  · rename_i h2 _ _
    intro ⟨ht, hv, hx⟩
    exact ⟨nofun, fun _ => ⟨ht, hx⟩, by rw [hv, h2]; rfl⟩
  · rename_i h
    exact fun _ => ⟨fun _ => rfl, fun hn => absurd rfl hn, h⟩

theorem modifyAS_v (f : AState → AState) :
    ⦃fun w => ⌜view cfg w = v⌝⦄ modifyAS f ⦃post⟨fun _ w => ⌜view cfg w = v⌝, fun _ _ => ⌜False⌝⟩⦄ := by
  mvcgen [modifyAS]
  all_goals (subst_vars; simp_all +zetaDelta [view])

theorem getRS_v :
    ⦃fun w => ⌜view cfg w = v⌝⦄ getRS
    ⦃post⟨fun r w => ⌜view cfg w = v ∧ r.lastStop = v.lastStop ∧ r.lastClass = v.lastClass ∧
            r.lastExc = v.lastExc ∧ r.lastResult = v.lastResult ∧ r.lastCause = v.lastCause⌝,
          fun _ _ => ⌜False⌝⟩⦄ := by
  mvcgen [getRS]
  all_goals (subst_vars; simp_all +zetaDelta [view])

end leaves

attribute [local spec] emit_i callBeforeSleep_i budgetConsume_i callAttemptStart_h callAttemptEnd_h
  callAttemptEndFromOutcome_h handleAbortAttemptEnd_h callStrategy_f stratRecordFailure_f callSleeper_f
  recordStrategySuccess_s callSleepHandler_f shouldClassifyResult_f setStop_spec
  emitAbortedOnce_spec invokeOp_spec buildOutcome_spec abortOutcome_spec
  handleSleepDecision_spec modifyAS_v getRS_v

def hard : Option StopReason → Prop
  | some .scheduled => False
  | some _ => True
  | none => False

def CErr (u v : View) (e : Exn) : Prop :=
  v.mon.opAfterFault = u.mon.opAfterFault ∧ v.mon.hookFault = u.mon.hookFault ∧
    (e.isAbort = true → sameBut u v)

/-- where an exception that leaves the failure handling comes from: a callback, or the library's
    ValueError for a sleep handler that did not return a SleepDecision -/
def Src (cfg : Cfg) (w : World) (e : Exn) : Prop :=
  Thrown w.trace e ∨ (e = .libValueError ∧ (cur cfg w.trace).badDecision = true)

abbrev cerrPost (cfg : Cfg) (u : View) (Q : α → World → Prop) : PostCond α (.except Exn (.arg World .pure)) :=
  post⟨fun r w => ⌜Q r w⌝, fun e w => ⌜Src cfg w e ∧ CErr u (view cfg w) e⌝⟩

def hsame (m m' : St) : Prop :=
  m'.ops = m.ops ∧ m'.opExc = m.opExc ∧ m'.opVal = m.opVal ∧ m'.cls = m.cls ∧ m'.pending = m.pending ∧
  m'.succeeded = m.succeeded ∧ m'.earlierSuccess = m.earlierSuccess ∧ m'.recAt = m.recAt ∧
  m'.recExc = m.recExc ∧ m'.recVal = m.recVal ∧ m'.recCls = m.recCls ∧ m'.recCause = m.recCause ∧
  m'.abortedSuccess = m.abortedSuccess ∧ m'.fault = m.fault ∧ m'.opAfterFault = m.opAfterFault ∧
  m'.hookFault = m.hookFault

theorem hsame.opExc {m m' : St} (h : hsame m m') : m'.opExc = m.opExc := h.2.1
theorem hsame.recCause {m m' : St} (h : hsame m m') : m'.recCause = m.recCause := h.2.2.2.2.2.2.2.2.2.2.2.1
theorem hsame.opAfterFault {m m' : St} (h : hsame m m') : m'.opAfterFault = m.opAfterFault :=
  h.2.2.2.2.2.2.2.2.2.2.2.2.2.2.1
theorem hsame.hookFault {m m' : St} (h : hsame m m') : m'.hookFault = m.hookFault :=
  h.2.2.2.2.2.2.2.2.2.2.2.2.2.2.2

def sameButH (u v : View) : Prop :=
  hsame u.mon v.mon ∧ v.lastExc = u.lastExc ∧ v.lastResult = u.lastResult ∧ v.lastClass = u.lastClass ∧
    v.lastCause = u.lastCause ∧ v.attempts = u.attempts

def HErr (u v : View) (e : Exn) : Prop :=
  v.mon.opAfterFault = u.mon.opAfterFault ∧ v.mon.hookFault = u.mon.hookFault ∧
    (e.isAbort = true → sameButH u v ∧ (u.mon.deferred = false → v.mon.deferred = false))

section shared
variable (cfg : Cfg) (tl : Bool)

/-- a terminal branch of `_handle_failure` -/
theorem stopWith_spec (u : View) (st : StopReason) (hst : hard (some st)) (ev : Event) (a : Nat) (k : EClass)
    (e : Option Exn) (c : Cause) :
    ⦃fun w => ⌜view cfg w = u⌝⦄ stopWith cfg tl st ev a k e c
    ⦃cerrPost cfg u fun d w => sameBut u (view cfg w) ∧ (d = .raise → hard (view cfg w).lastStop)⦄ := by
  mvcgen [stopWith]
  · simp only [*]
    exact ⟨sameBut.stop u _, trivial⟩
  · intro ht hv _
    simp only [*]
    exact ⟨Or.inl ht, rfl, rfl, fun _ => sameBut.stop u _⟩

attribute [local spec] stopWith_spec

theorem grantRetry_spec (u : View) (c : Classification) (a : Nat) (cause : Cause) (e : Option Exn) (key : SKey)
    (kind : SKind) (rem : Nat) :
    ⦃fun w => ⌜view cfg w = u⌝⦄ grantRetry cfg tl c a cause e key kind rem
    ⦃cerrPost cfg u fun d w => sameBut u (view cfg w) ∧ (d = .raise → hard (view cfg w).lastStop)⦄ := by
  mvcgen [grantRetry, getRS, modifyRS]
  · rename_i h4 _ _ _ _ h3 _ _ _ h1 _ _ _ h
    rw [h.trans (h1.trans (h3.trans h4))]
    exact ⟨sameBut.stop u _, nofun⟩
  · rename_i h3 _ _ _ _ h2 _ _ _ h1 _ _ _
    intro ht hv _
    rw [hv.trans (h1.trans (h2.trans h3))]
    exact ⟨Or.inl ht, rfl, rfl, fun _ => sameBut.stop u _⟩
  · rename_i h3 _ _ _ _ h2 _ _ _ h1
    exact h1.trans (h2.trans h3)
  · exact fun _ _ => trivial
  · rename_i h2 _ _ _ _ h1 _ _
    intro ht hv
    rw [hv.trans (h1.trans h2)]
    exact ⟨Or.inl ht, rfl, rfl, fun _ => sameBut.stop u _⟩
  · rename_i h1 _ _ _
    intro ht hf
    rw [h1] at hf
    exact ⟨Or.inl ht, hf.1, hf.2.1, fun ha => by rw [hf.2.2 ha]; exact sameBut.stop u _⟩

attribute [local spec] grantRetry_spec

theorem handleFailure2_spec (u : View) (c : Classification) (a : Nat) (cause : Cause) (e : Option Exn) :
    ⦃fun w => ⌜view cfg w = u⌝⦄ handleFailure2 cfg tl c a cause e
    ⦃cerrPost cfg u fun d w => sameBut u (view cfg w) ∧ (d = .raise → hard (view cfg w).lastStop)⦄ := by
  mvcgen [handleFailure2, elapsed, modifyRS]
  · rename_i h2 _ _ _ _ _ _ _ _ h1 _
    exact h1.trans h2
  · rename_i h2 _ _ _ _ _ _ _ _ h1 _
    exact h1.trans h2
  · rename_i h2 _ _ _ _ _ _ _ _
    intro ht hf
    subst h2
    exact ⟨Or.inl ht, hf.1, hf.2.1, fun ha => by rw [hf.2.2 ha]; exact ⟨rfl, rfl, rfl, rfl, rfl, rfl⟩⟩

attribute [local spec] handleFailure2_spec

theorem handleUnknown_spec (u : View) (c : Classification) (a : Nat) (cause : Cause) (e : Option Exn) :
    ⦃fun w => ⌜view cfg w = u⌝⦄ handleUnknown cfg tl c a cause e
    ⦃cerrPost cfg u fun d w => sameBut u (view cfg w) ∧ (d = .raise → hard (view cfg w).lastStop)⦄ := by
  mvcgen [handleUnknown, getRS, modifyRS]

attribute [local spec] handleUnknown_spec

theorem handleFailure1_spec (u : View) (c : Classification) (a : Nat) (cause : Cause) (e : Option Exn) :
    ⦃fun w => ⌜view cfg w = u⌝⦄ handleFailure1 cfg tl c a cause e
    ⦃cerrPost cfg u fun d w => sameBut u (view cfg w) ∧ (d = .raise → hard (view cfg w).lastStop)⦄ := by
  mvcgen [handleFailure1, getRS]

attribute [local spec] handleFailure1_spec

/-- the view after `record_failure` -/
def recView (u : View) (c : Classification) (cause : Cause) (exc : Option Exn) (result : Option Nat) : View :=
  { u with lastClass := some c.klass, lastCause := some cause,
           lastExc := if cause = .exception then exc else none,
           lastResult := if cause = .exception then none else result }

theorem handleFailure_spec (u : View) (c : Classification) (a : Nat) (cause : Cause) (e : Option Exn)
    (r : Option Nat) :
    ⦃fun w => ⌜view cfg w = u⌝⦄ handleFailure cfg tl c a cause e r
    ⦃cerrPost cfg (recView u c cause e r) fun d w =>
      sameBut (recView u c cause e r) (view cfg w) ∧ (d = .raise → hard (view cfg w).lastStop)⦄ := by
  mvcgen [handleFailure, Retry.recordFailure, modifyRS]
  all_goals ((try subst_vars) <;> (try intros) <;>
    first
      | (simp_all +zetaDelta [view, sameBut, CErr, hard, recView]; done)
      | skip)

attribute [local spec] handleFailure_spec

/-- what `_finalize_attempt` returns, by case -/
def FinOK (u : View) (d : Decision) (act : Option SleepDecision) (o : AOutcome) (ls : Option StopReason) : Prop :=
  o.decision ≠ .success ∧
  (d = .raise → o.decision = .raise ∧ o.stop = u.lastStop ∧ o.sleep = none ∧ ls = u.lastStop) ∧
  (∀ sl ctx, d = .retry sl ctx →
    (act = some .defer → o.decision = .scheduled ∧ o.stop = some .scheduled ∧ o.sleep = some sl ∧ ls = u.lastStop) ∧
    (act = some .abort → o.decision = .aborted ∧ ls = u.lastStop) ∧
    (act ≠ some .defer → act ≠ some .abort →
      (o.decision = .raise ∧ hard o.stop ∧ o.sleep = none ∧ ls = o.stop) ∨
      (o.decision = .retry ∧ ls = u.lastStop)))

theorem finalizeAttempt_spec (u : View) (a : Nat) (d : Decision) (act : Option SleepDecision)
    (cls : Option Classification) (e : Option Exn) (r : Option Nat) (c : Option Cause) :
    ⦃fun w => ⌜view cfg w = u⌝⦄ finalizeAttempt cfg tl a d act cls e r c
    ⦃post⟨fun o w => ⌜sameBut u (view cfg w) ∧ FinOK u d act o (view cfg w).lastStop⌝,
          fun e w => ⌜Src cfg w e ∧ CErr u (view cfg w) e ∧ e.isException = false⌝⟩⦄ := by
  mvcgen -leave -trivial [finalizeAttempt, getRS, elapsed]
  all_goals try exact cfg
  all_goals try refine SPred.pure_mono ?_
  all_goals subst_vars
  -- decision "raise"; deferred; aborted
  · exact fun _ => ⟨sameBut.stop _ _, nofun, fun _ => ⟨rfl, rfl, rfl, rfl⟩, fun _ _ h => nomatch h⟩
  · exact fun _ => ⟨sameBut.stop _ _, nofun, nofun,
      fun _ _ h => ⟨fun _ => ⟨rfl, rfl, by cases h; rfl, rfl⟩, nofun, fun hn => absurd rfl hn⟩⟩
  · exact fun _ => ⟨sameBut.stop _ _, nofun, nofun, fun _ _ _ => ⟨nofun, fun _ => ⟨rfl, rfl⟩, fun _ hn => absurd rfl hn⟩⟩
  -- the deadline has passed, or this was the last attempt
  case vc5 | vc8 =>  -- the stop reason is set and the event emitted
    simp only [*]
    exact fun _ => ⟨sameBut.stop _ _, nofun, nofun,
      fun _ _ _ => ⟨fun h => absurd h ‹¬act = some .defer›, fun h => absurd h ‹¬act = some .abort›, fun _ _ => Or.inl ⟨rfl, trivial, rfl, rfl⟩⟩⟩
  case vc6 | vc9 =>  -- … or `emit` let an exception through
    rename_i h2 _ _
    intro ⟨ht, hv, hx⟩
    rw [hv, h2]
    exact ⟨Or.inl ht, ⟨rfl, rfl, fun _ => sameBut.stop _ _⟩, hx⟩
  -- go on
  · exact fun _ => ⟨sameBut.stop _ _, nofun, nofun,
      fun _ _ _ => ⟨fun h => absurd h ‹¬act = some .defer›, fun h => absurd h ‹¬act = some .abort›, fun _ _ => Or.inr ⟨rfl, rfl⟩⟩⟩

attribute [local spec] finalizeAttempt_spec

def SleepOK (u : View) (sl : Nat) (r : SleepDecision) (v : View) : Prop :=
  r ≠ .other ∧ sameButH u v ∧ v.lastStop = decisionStop u.lastStop r ∧
    (r = .defer → v.mon.deferred = true ∧ v.mon.delay = some sl) ∧
    (r ≠ .defer → u.mon.deferred = false → v.mon.deferred = false)

theorem sameButH.handled (u : View) (sl : Nat) (r : SleepDecision) (ls : Option StopReason) :
    sameButH u { u with mon := handlerStep u.mon sl r, lastStop := ls } :=
  ⟨⟨rfl, rfl, rfl, rfl, rfl, rfl, rfl, rfl, rfl, rfl, rfl, rfl, rfl, rfl, rfl, rfl⟩, rfl, rfl, rfl, rfl, rfl⟩

theorem sameButH.refl (u : View) : sameButH u u :=
  ⟨⟨rfl, rfl, rfl, rfl, rfl, rfl, rfl, rfl, rfl, rfl, rfl, rfl, rfl, rfl, rfl, rfl⟩, rfl, rfl, rfl, rfl, rfl⟩

theorem SleepOK.handled (u : View) (sl : Nat) {r : SleepDecision} (hr : r ≠ .other) :
    SleepOK u sl r { u with mon := handlerStep u.mon sl r, lastStop := decisionStop u.lastStop r } :=
  ⟨hr, sameButH.handled u sl r _, rfl, fun h => by subst h; exact ⟨rfl, rfl⟩,
    fun h _ => by cases r <;> first | rfl | exact absurd rfl h⟩

theorem HErr.of_ferr {u v v' : View} {e : Exn} (hs : sameButH u v) (hd : u.mon.deferred = false → v.mon.deferred = false)
    (hf : FErr v v' e) : HErr u v' e := by
  exact ⟨hf.1.trans hs.1.opAfterFault, hf.2.1.trans hs.1.hookFault, fun ha => by rw [hf.2.2 ha]; exact ⟨hs, hd⟩⟩

theorem HErr.of_not_abort {u v : View} {e : Exn} (h1 : v.mon.opAfterFault = u.mon.opAfterFault)
    (h2 : v.mon.hookFault = u.mon.hookFault) (he : e.isAbort = false) : HErr u v e :=
  ⟨h1, h2, fun ha => by rw [he] at ha; cases ha⟩

theorem sameBut.toH {u v : View} (h : sameBut u v) : sameButH u v :=
  ⟨h.1 ▸ (sameButH.refl u).1, h.2.1, h.2.2.1, h.2.2.2.1, h.2.2.2.2.1, h.2.2.2.2.2⟩

theorem sleepAction_spec (u : View) (a sl : Nat) (ctx : BackoffCtx) :
    ⦃fun w => ⌜view cfg w = u⌝⦄ sleepAction cfg tl a sl ctx
    ⦃post⟨fun r w => ⌜SleepOK u sl r (view cfg w)⌝,
          fun e w => ⌜Src cfg w e ∧ HErr u (view cfg w) e⌝⟩⦄ := by
  mvcgen -leave -trivial [sleepAction]
  all_goals try exact cfg
  all_goals try refine SPred.pure_mono ?_
  -- no sleep handler
  · simp only [*]
    exact fun _ => ⟨nofun, sameButH.refl u, rfl, nofun, fun _ h => h⟩
  · rename_i h2 _ _ h1 _ _
    intro ⟨ht, hf⟩
    rw [h1, h2] at hf
    exact ⟨Or.inl ht, HErr.of_ferr (sameButH.refl u) id hf⟩
  · intro ⟨ht, hv⟩
    simp only [*]
    exact ⟨Or.inl ht, HErr.of_ferr (sameButH.refl u) id ⟨rfl, rfl, fun _ => rfl⟩⟩
  -- the handler answered `sleep`
  · rename_i h5 _ _ h4 _ _ _ h3 _ _ h2 _ _ h1
    rw [h1, h2, h3.2.2, h4, h5, h3.1]
    exact fun _ => SleepOK.handled u sl h3.2.1
  · rename_i h5 _ _ h4 _ hs _ h3 _ _ h2 _ _
    intro ⟨ht, hf⟩
    rw [h2, h3.2.2, h4, h5, ← h3.1, hs] at hf
    exact ⟨Or.inl ht, HErr.of_ferr (sameButH.handled u sl .sleep _) (fun _ => rfl) hf⟩
  · rename_i h5 _ _ h4 _ hs _ h3 _ _
    intro ⟨ht, hv⟩
    rw [hv, h3.2.2, h4, h5, ← h3.1, hs]
    exact ⟨Or.inl ht, HErr.of_ferr (sameButH.handled u sl .sleep _) (fun _ => rfl) ⟨rfl, rfl, fun _ => rfl⟩⟩
  -- … something else
  · rename_i h5 _ _ h4 _ _ _ h3
    rw [h3.2.2, h4, h5, h3.1]
    exact fun _ => SleepOK.handled u sl h3.2.1
  -- `handleSleepDecision` raised
  · rename_i h5 r _ h4 _ _
    intro ⟨ho, hno, hv⟩
    rw [h4, h5] at hv
    by_cases hr : r = .other
    · refine ⟨Or.inr ⟨ho hr, ?_⟩, ?_⟩
      · rw [show cur cfg _ = (view cfg _).mon from rfl, hv, hr]; rfl
      · rw [hv]; exact HErr.of_not_abort rfl rfl (by rw [ho hr]; rfl)
    · rw [hv]
      exact ⟨Or.inl (hno hr).1, HErr.of_not_abort rfl rfl ((Exn.base_flags (hno hr).2).1)⟩
  -- the handler raised
  · rename_i h1 _ _
    intro ⟨ht, hf⟩
    rw [h1] at hf
    exact ⟨Or.inl ht, HErr.of_ferr (sameButH.refl u) id hf⟩

attribute [local spec] sleepAction_spec

/-- what `_sync_failure_outcome` returns and leaves behind -/
def FailOK (u : View) (d : Decision) (o : AOutcome) (v : View) : Prop :=
  o.decision ≠ .success ∧
  (o.decision = .scheduled → v.mon.deferred = true ∧ o.sleep = v.mon.delay ∧
      o.stop = some .scheduled ∧ v.lastStop = some .scheduled) ∧
  (o.decision ≠ .scheduled → u.mon.deferred = false → v.mon.deferred = false) ∧
  (o.decision = .raise → (d = .raise → hard u.lastStop) → hard o.stop ∧ o.sleep = none ∧ v.lastStop = o.stop) ∧
  (d = .raise → o.decision = .raise)

theorem failOK_of {u v1 v : View} {sl : Nat} {ctx : BackoffCtx} {r : SleepDecision} {o : AOutcome}
    (h1 : SleepOK u sl r v1) (h2 : sameBut v1 v) (h3 : FinOK v1 (.retry sl ctx) (some r) o v.lastStop) :
    sameButH u v ∧ FailOK u (.retry sl ctx) o v := by
  obtain ⟨hno, hsb, hst, hdef, hnd⟩ := h1
  obtain ⟨hns, _, h3⟩ := h3
  obtain ⟨hd, ha, hr⟩ := h3 sl ctx rfl
  have hm : v.mon = v1.mon := h2.1
  refine ⟨⟨hm ▸ hsb.1, h2.2.1.trans hsb.2.1, h2.2.2.1.trans hsb.2.2.1, h2.2.2.2.1.trans hsb.2.2.2.1,
    h2.2.2.2.2.1.trans hsb.2.2.2.2.1, h2.2.2.2.2.2.trans hsb.2.2.2.2.2⟩, ?_⟩
  clear hsb h2
  unfold FailOK
  rw [hm]
  cases r with
  | other => exact absurd rfl hno
  | defer => simp_all [decisionStop]
  | abort => simp_all [decisionStop]
  | sleep =>
    rcases hr (by simp) (by simp) with h | h
    · simp_all [decisionStop]
    · simp_all [decisionStop]

theorem failOK_raise {u v : View} {o : AOutcome} (hs : sameBut u v) (hf : FinOK u .raise none o v.lastStop) :
    sameButH u v ∧ FailOK u .raise o v := by
  obtain ⟨hns, hr, _⟩ := hf
  obtain ⟨h1, h2, h3, h4⟩ := hr rfl
  exact ⟨hs.toH, hns, fun h => (by rw [h1] at h; cases h), fun _ hd => by rw [hs.1]; exact hd,
    fun _ hh => ⟨by rw [h2]; exact hh rfl, h3, by rw [h4, h2]⟩, fun _ => h1⟩

theorem failureOutcome_spec (u : View) (a : Nat) (d : Decision) (cls : Option Classification)
    (e : Option Exn) (r : Option Nat) (c : Option Cause) :
    ⦃fun w => ⌜view cfg w = u⌝⦄ failureOutcome cfg tl a d cls e r c
    ⦃post⟨fun o w => ⌜sameButH u (view cfg w) ∧ FailOK u d o (view cfg w)⌝,
          fun e w => ⌜Src cfg w e ∧ HErr u (view cfg w) e⌝⟩⦄ := by
  have hsa := sleepAction_spec cfg tl
  mvcgen -leave -trivial [failureOutcome, hsa]
  all_goals try exact cfg
  all_goals try refine SPred.pure_mono ?_
  · rename_i h1 _ _
    intro ⟨hs, hf⟩
    rw [h1] at hs hf
    exact failOK_raise hs hf
  · rename_i h1 _ _
    intro ⟨hs, hc, hx⟩
    rw [h1] at hc
    exact ⟨hs, HErr.of_not_abort hc.1 hc.2.1 (Exn.base_flags hx).1⟩
  · rename_i h1 _ _ hso _ _
    intro ⟨hs, hf⟩
    rw [h1] at hso
    exact failOK_of hso hs hf
  · rename_i h1 _ _ hso _ _
    intro ⟨hs, hc, hx⟩
    rw [h1] at hso
    exact ⟨hs, HErr.of_not_abort (hc.1.trans hso.2.1.1.opAfterFault) (hc.2.1.trans hso.2.1.1.hookFault)
      (Exn.base_flags hx).1⟩
  · rename_i h1 _ _
    intro ⟨hs, hh⟩
    rw [h1] at hh
    exact ⟨hs, hh⟩

end shared

attribute [local spec] grantRetry_spec handleFailure2_spec handleUnknown_spec handleFailure1_spec
  finalizeAttempt_spec sleepAction_spec

/-- the retry state describes the last recorded failure -/
def Sync (v : View) : Prop :=
  v.lastExc = v.mon.recExc ∧ v.lastResult = v.mon.recVal ∧ v.lastClass = v.mon.recCls.map (·.klass) ∧
    v.lastCause = v.mon.recCause

/-- the recorded failure is the last invocation's -/
def RecCur (m : St) : Prop :=
  m.recAt = m.ops ∧ m.recCls.isSome = true ∧ m.recCause.isSome = true ∧
  (m.recCause = some .exception → m.recExc = m.opExc ∧ m.opExc.isSome = true ∧ m.recVal = none) ∧
  (m.recCause = some .result → m.recVal = m.opVal ∧ m.opVal.isSome = true ∧ m.recExc = none)

def Fresh (m : St) : Prop :=
  m.recCause = none ∧ m.recExc = none ∧ m.recVal = none ∧ m.recCls = none ∧ m.recAt = 0

/-- at the head of the loop after `n` invocations, all failed, recorded and to be retried -/
def Hd (n : Nat) (v : View) : Prop :=
  v.mon.ops = n ∧ Sync v ∧ (n = 0 → Fresh v.mon) ∧ (0 < n → RecCur v.mon) ∧
    v.mon.succeeded = false ∧ v.mon.earlierSuccess = false ∧ v.mon.deferred = false ∧ v.mon.pending = false

def ExcP (n : Nat) (e : Exn) (v : View) : Prop :=
  v.mon.ops = n + 1 ∧ Sync v ∧ v.mon.opExc = some e ∧ v.mon.opVal = none ∧ v.mon.cls = none ∧
    v.mon.succeeded = false ∧ v.mon.earlierSuccess = false ∧ v.mon.deferred = false ∧ v.mon.pending = false

def ValP (cfg : Cfg) (n : Nat) (x : Nat) (v : View) : Prop :=
  v.mon.ops = n + 1 ∧ Sync v ∧ v.mon.opExc = none ∧ v.mon.opVal = some x ∧ v.mon.cls = none ∧
    v.mon.succeeded = (!cfg.resultClassifier) ∧ v.mon.earlierSuccess = false ∧ v.mon.deferred = false ∧
    v.mon.pending = false

def RecP (n : Nat) (v : View) : Prop :=
  v.mon.ops = n + 1 ∧ Sync v ∧ RecCur v.mon ∧ v.mon.succeeded = false ∧ v.mon.earlierSuccess = false ∧
    v.mon.pending = false

theorem Hd.pending {n : Nat} {v : View} (h : Hd n v) : v.mon.pending = false := h.2.2.2.2.2.2.2
theorem ExcP.opExc {n : Nat} {e : Exn} {v : View} (h : ExcP n e v) : v.mon.opExc = some e := h.2.2.1
theorem ExcP.deferred {n : Nat} {e : Exn} {v : View} (h : ExcP n e v) : v.mon.deferred = false :=
  h.2.2.2.2.2.2.2.1
theorem ExcP.pending {n : Nat} {e : Exn} {v : View} (h : ExcP n e v) : v.mon.pending = false :=
  h.2.2.2.2.2.2.2.2
theorem RecP.pending {n : Nat} {v : View} (h : RecP n v) : v.mon.pending = false := h.2.2.2.2.2

/-- how call() may end with exception `e` (the monitor's verdict as a proposition) -/
def ErrC (cfg : Cfg) (m : St) (t : List (Req × Ans)) (e : Exn) : Prop :=
  (opRaised m e = true ∧ m.deferred = false) ∨ Thrown t e ∨ e = .libAbort ∨
  (e = .libValueError ∧ m.badDecision = true) ∨
  (∃ f, e = .libExhausted f ∧ fieldsOk m f = true) ∨
  (e = .libRuntimeError ∧ cfg.maxAttempts = 0 ∧ m.ops = 0)

abbrev errC (cfg : Cfg) : Exn → World → Prop := fun e w => ErrC cfg (view cfg w).mon w.trace e

@[simp] theorem ErrC_of_thrown {cfg : Cfg} {m : St} {t : List (Req × Ans)} {e : Exn} (h : Thrown t e) :
    ErrC cfg m t e := Or.inr (Or.inl h)

theorem ErrC_of_src {cfg : Cfg} {w : World} {e : Exn} (h : Src cfg w e) :
    ErrC cfg (view cfg w).mon w.trace e := by
  rcases h with h | ⟨h1, h2⟩
  · exact ErrC_of_thrown h
  · exact Or.inr (Or.inr (Or.inr (Or.inl ⟨h1, h2⟩)))

@[simp] theorem ErrC_libAbort {cfg : Cfg} {m : St} {t : List (Req × Ans)} : ErrC cfg m t .libAbort :=
  Or.inr (Or.inr (Or.inl rfl))

theorem ErrC_op {cfg : Cfg} {m : St} {t : List (Req × Ans)} {e : Exn} (h : m.opExc = some e)
    (hd : m.deferred = false) : ErrC cfg m t e := by
  left
  simp [opRaised, h, hd]

/-- the exception `deliverCall` raises for an attempt outcome (`stuck`: none, the loop goes on) -/
def callThrow (o : AOutcome) (r : RState) (a : Nat) (fr : Bool) (orig : Option Exn) (fb : ExhaustedFields) :
    Exn :=
  match determineAction o r a fr with
  | .continue_ => .stuck
  | .abort => .libAbort
  | .scheduled f => .libExhausted f
  | .raise => match orig with
    | some e => e
    | none => .libExhausted fb

theorem deliverCall_spec (cfg : Cfg) (v : View) (o : AOutcome) (r : RState) (a : Nat) (fr : Bool)
    (orig : Option Exn) (fb : ExhaustedFields) :
    ⦃fun w => ⌜view cfg w = v⌝⦄ deliverCall (determineAction o r a fr) orig fb
    ⦃post⟨fun x w => ⌜x = none ∧ o.decision = .retry ∧ view cfg w = v⌝,
          fun e w => ⌜e = callThrow o r a fr orig fb ∧ o.decision ≠ .retry ∧ view cfg w = v⌝⟩⦄ := by
  have hc := determineAction_continue_iff o r a fr
  unfold callThrow
  cases h : determineAction o r a fr with
  | continue_ => mvcgen [deliverCall]; simp_all
  | abort => mvcgen [deliverCall]; simp_all
  | scheduled f => mvcgen [deliverCall]; simp_all
  | raise =>
    cases orig with
    | none => mvcgen [deliverCall]; simp_all
    | some e => mvcgen [deliverCall]; simp_all

def FailOK' (o : AOutcome) (v : View) : Prop :=
  o.decision ≠ .success ∧
  (o.decision = .scheduled → v.mon.deferred = true ∧ o.sleep = v.mon.delay ∧
      o.stop = some .scheduled ∧ v.lastStop = some .scheduled) ∧
  (o.decision ≠ .scheduled → v.mon.deferred = false) ∧
  (o.decision = .raise → hard o.stop ∧ o.sleep = none ∧ v.lastStop = o.stop)

theorem FailOK.strip {u v : View} {d : Decision} {o : AOutcome} (h : FailOK u d o v)
    (hd : u.mon.deferred = false) (hh : d = .raise → hard u.lastStop) : FailOK' o v := by
  obtain ⟨h1, h2, h3, h4, h5⟩ := h
  exact ⟨h1, h2, fun hn => h3 hn hd, fun hr => h4 hr hh⟩

/-- which failure an attempt of call() ends with: the exception the operation raised (`deliverCall` re-raises
    it, `exc`), or a result -/
def CauseOK (m : St) (fr : Bool) (exc : Option Exn) : Prop :=
  (fr = false ∧ exc = m.opExc ∧ exc.isSome = true ∧ m.recCause = some .exception) ∨
    (fr = true ∧ exc = none ∧ m.recCause = some .result)

theorem CauseOK.hsame {fr : Bool} {exc : Option Exn} {u v : View}
    (h : CauseOK u.mon fr exc) (hs : sameButH u v) : CauseOK v.mon fr exc := by
  unfold CauseOK
  rw [hs.1.opExc, hs.1.recCause]
  exact h

/-- what `deliverCall` raises once the failure of invocation `n + 1` is recorded and the sleep phase is over
    is what the monitor accepts: the last exception itself, or a RetryExhaustedError with the right fields -/
theorem errC_fail {cfg : Cfg} {n : Nat} {v : View} {o : AOutcome} {r : RState} {t : List (Req × Ans)}
    {fr : Bool} {exc : Option Exn} {fb : ExhaustedFields} (hrec : RecP n v) (hc : CauseOK v.mon fr exc)
    (hf : FailOK' o v)
    (hr : r.lastStop = v.lastStop ∧ r.lastClass = v.lastClass ∧ r.lastExc = v.lastExc ∧
      r.lastResult = v.lastResult) (hnr : o.decision ≠ .retry) :
    ErrC cfg v.mon t (callThrow o r (n + 1) fr exc fb) := by
  obtain ⟨hops, ⟨hs1, hs2, hs3, hs4⟩, ⟨hat, hcls, _, hce, hcr⟩, _, _, _⟩ := hrec
  obtain ⟨hns, hsch, hnsch, hraise⟩ := hf
  obtain ⟨hr1, hr2, hr3, hr4⟩ := hr
  unfold callThrow determineAction
  cases hdec : o.decision with
  | success => exact absurd hdec hns
  | retry => exact absurd hdec hnr
  | aborted => exact ErrC_libAbort
  | scheduled =>
    obtain ⟨hdef, hsl, hst, _⟩ := hsch hdec
    refine Or.inr (Or.inr (Or.inr (Or.inr (Or.inl ⟨_, rfl, ?_⟩))))
    rcases hc with ⟨rfl, rfl, hoe, hcause⟩ | ⟨rfl, rfl, hcause⟩
    · obtain ⟨hre, _, _⟩ := hce hcause
      simp [fieldsOk, hops, hat, hr2, hs3, hcause, hr3, hs1, hdef, hst, hsl, hre, hoe]
      rfl
    · obtain ⟨hrv, hov, _⟩ := hcr hcause
      simp [fieldsOk, hops, hat, hr2, hs3, hcause, hr4, hs2, hdef, hst, hsl, hrv, hov]
  | raise =>
    have hnd := hnsch (by simp [hdec])
    rcases hc with ⟨rfl, rfl, hoe, _⟩ | ⟨rfl, rfl, hcause⟩
    · obtain ⟨e, he⟩ := Option.isSome_iff_exists.mp hoe
      simp only [he]
      exact ErrC_op he hnd
    · obtain ⟨hhard, hsl, hls⟩ := hraise hdec
      obtain ⟨hrv, hov, _⟩ := hcr hcause
      refine Or.inr (Or.inr (Or.inr (Or.inr (Or.inl ⟨_, rfl, ?_⟩))))
      cases hos : o.stop with
      | none => rw [hos] at hhard; exact hhard.elim
      | some st =>
        rw [hos] at hhard
        have hst : (st == StopReason.scheduled) = false := by
          cases st <;> first | rfl | exact hhard.elim
        simp [fieldsOk, hops, hat, hr2, hs3, hcause, hr4, hs2, hrv, hov, hnd, hst]

theorem pollStep_idle (cfg : Cfg) (m : St) (h : m.pending = false) : pollStep cfg m = m := by
  unfold pollStep step
  simp [h]

@[simp] theorem ErrC_of_abortish {cfg : Cfg} {m : St} {t : List (Req × Ans)} {e : Exn}
    (h : e ≠ .libAbort → Thrown t e) : ErrC cfg m t e := by
  by_cases he : e = .libAbort
  · subst he; exact ErrC_libAbort
  · exact ErrC_of_thrown (h he)

theorem Hd.opExc {cfg : Cfg} {n : Nat} {u : View} (h : Hd n u) (e : Exn) (d : Nat) :
    ExcP n e { u with mon := opStep cfg u.mon (.raise e d) } := by
  obtain ⟨h1, h2, _, _, h5, h6, h7, h8⟩ := h
  simp_all [ExcP, Sync, opStep, step]

theorem Hd.opVal {cfg : Cfg} {n : Nat} {u : View} (h : Hd n u) (x : Nat) (d : Nat) :
    ValP cfg n x { u with mon := opStep cfg u.mon (.value x d) } := by
  obtain ⟨h1, h2, _, _, h5, h6, h7, h8⟩ := h
  simp_all [ValP, Sync, opStep, step]

theorem ExcP.rec' {cfg : Cfg} {n : Nat} {e : Exn} {u v : View} {c : Classification} (h : ExcP n e u)
    (hs : sameBut (recView { u with mon := clsStep cfg u.mon c } c .exception (some e) none) v) :
    RecP n v ∧ v.mon.opExc = some e ∧ v.mon.recCause = some .exception ∧ v.mon.deferred = false := by
  obtain ⟨h1, h2, h3, h4, h5, h6, h7, h8, h9⟩ := h
  obtain ⟨s1, s2, s3, s4, s5, s6⟩ := hs
  simp_all [RecP, RecCur, Sync, recView, clsStep, step, record]

theorem ExcP.rec {cfg : Cfg} {n : Nat} {e : Exn} {u : View} (h : ExcP n e u) (c : Classification) (ls : Option StopReason) :
    let v := recView { u with mon := clsStep cfg u.mon c, lastStop := ls } c .exception (some e) none
    RecP n v ∧ v.mon.opExc = some e ∧ v.mon.recCause = some .exception ∧ v.mon.deferred = false :=
  h.rec' ⟨rfl, rfl, rfl, rfl, rfl, rfl⟩

theorem ValP.rec' {cfg : Cfg} {n x : Nat} {u v : View} {c : Classification} (h : ValP cfg n x u)
    (hrc : cfg.resultClassifier = true)
    (hs : sameBut (recView { u with mon := pollStep cfg (resStep cfg u.mon (some c)) } c .result none (some x)) v) :
    RecP n v ∧ v.mon.recCause = some .result ∧ v.mon.deferred = false := by
  obtain ⟨h1, h2, h3, h4, h5, h6, h7, h8, h9⟩ := h
  obtain ⟨s1, s2, s3, s4, s5, s6⟩ := hs
  cases hab : cfg.abortIf <;>
    simp_all [RecP, RecCur, Sync, recView, pollStep, resStep, step, record]

theorem ValP.rec {cfg : Cfg} {n x : Nat} {u : View} (h : ValP cfg n x u) (hrc : cfg.resultClassifier = true)
    (c : Classification) (ls : Option StopReason) :
    let v := recView { u with mon := pollStep cfg (resStep cfg u.mon (some c)), lastStop := ls } c .result none (some x)
    RecP n v ∧ v.mon.recCause = some .result ∧ v.mon.deferred = false :=
  h.rec' hrc ⟨rfl, rfl, rfl, rfl, rfl, rfl⟩

theorem ValP.success {cfg : Cfg} {n x : Nat} {u : View} (h : ValP cfg n x u) :
    (resStep cfg u.mon none).succeeded = true ∧ (resStep cfg u.mon none).earlierSuccess = false ∧
      (resStep cfg u.mon none).opVal = some x := by
  obtain ⟨_, _, _, hv, _, hs, he, _, _⟩ := h
  unfold resStep
  cases hrc : cfg.resultClassifier
  · exact ⟨by simp [hs, hrc], he, hv⟩
  · exact ⟨rfl, he, hv⟩

theorem RecP.next {n : Nat} {v : View} {o : AOutcome} (h : RecP n v) (hf : FailOK' o v)
    (hr : o.decision = .retry) : Hd (n + 1) v := by
  obtain ⟨h1, h2, h3, h4, h5, h6⟩ := h
  obtain ⟨_, _, hd, _⟩ := hf
  exact ⟨h1, h2, fun h => by omega, fun _ => h3, h4, h5, hd (by simp [hr]), h6⟩

theorem errC_reraise {cfg : Cfg} {n : Nat} {e : Exn} {u v : View} {t : List (Req × Ans)}
    (h : e ≠ .stuck → ExcP n e u) (hm : v.mon = u.mon) : ErrC cfg v.mon t e := by
  by_cases hs : e = .stuck
  · subst hs; exact ErrC_of_thrown (Thrown.stuck t)
  · rw [hm]; exact ErrC_op (h hs).opExc (h hs).deferred

abbrev attemptPostC (cfg : Cfg) (n : Nat) : PostCond (Option Nat) (.except Exn (.arg World .pure)) :=
  post⟨fun r w => ⌜match r with
                   | none => Hd (n + 1) (view cfg w)
                   | some x => (view cfg w).mon.succeeded = true ∧ (view cfg w).mon.earlierSuccess = false ∧
                       (view cfg w).mon.opVal = some x⌝,
       fun e w => ⌜ErrC cfg (view cfg w).mon w.trace e⌝⟩

/-- `check_abort` when no result failure awaits recording: the monitor does not move -/
theorem checkAbort_idle (cfg : Cfg) (tl : Bool) (a : Nat) (u : View) (hp : u.mon.pending = false) :
    ⦃fun w => ⌜view cfg w = u⌝⦄ checkAbort cfg tl a
    ⦃post⟨fun _ w => ⌜view cfg w = u⌝,
          fun e w => ⌜(e ≠ .libAbort → Thrown w.trace e) ∧ (e.isAbort = false → Thrown w.trace e) ∧
            ((view cfg w).mon.hookFault = false → sameBut u (view cfg w))⌝⟩⦄ :=
  triple_mono (checkAbort_spec cfg u tl a) (fun _ h => h)
    (fun _ w hv => by rw [hv, pollStep_idle cfg u.mon hp]) (fun _ _ h => ⟨h.1, h.2.1, h.2.2.1⟩)

theorem RecP.hsame {n : Nat} {u v : View} (h : RecP n u) (hs : sameButH u v) : RecP n v := by
  obtain ⟨hm, h3, h4, h5, h6, _⟩ := hs
  unfold C04.hsame at hm
  obtain ⟨r1, r2, r3, r4, r5, r6⟩ := h
  simp_all [RecP, RecCur, Sync]

theorem failureOutcome_rec (cfg : Cfg) (tl : Bool) (n a : Nat) (d : Decision) (cls : Option Classification)
    (e : Option Exn) (r : Option Nat) (c : Option Cause) (u : View) (h : RecP n u)
    (hd : u.mon.deferred = false) (hh : d = .raise → hard u.lastStop) :
    ⦃fun w => ⌜view cfg w = u⌝⦄ failureOutcome cfg tl a d cls e r c
    ⦃post⟨fun o w => ⌜RecP n (view cfg w) ∧ FailOK' o (view cfg w) ∧ sameButH u (view cfg w)⌝,
          fun e w => ⌜Src cfg w e ∧ HErr u (view cfg w) e⌝⟩⦄ :=
  triple_mono (failureOutcome_spec cfg tl u a d cls e r c) (fun _ h => h)
    (fun _ _ hf => ⟨h.hsame hf.1, hf.2.strip hd hh, hf.1⟩) (fun _ _ h => h)

def Failed (n : Nat) (d : Decision) (fr : Bool) (exc : Option Exn) (v : View) : Prop :=
  RecP n v ∧ v.mon.deferred = false ∧ (d = .raise → hard v.lastStop) ∧ CauseOK v.mon fr exc

/-- the end of a failed attempt of call(), common to both kinds of failure: the sleep phase,
    `on_attempt_end`, and what `determine_action_from_outcome` makes of the attempt's verdict -/
def callFinish (cfg : Cfg) (a : Nat) (d : Decision) (cls : Option Classification) (exc : Option Exn)
    (res : Option Nat) (cause : Cause) (fr : Bool) (fb : RState → ExhaustedFields) : M (Option Nat) := do
  let o ← failureOutcome cfg false a d cls exc res (some cause)
  callAttemptEndFromOutcome cfg a o
  modifyAS fun s => { s with endCalled := true }
  let r ← getRS
  deliverCall (determineAction o r a fr) exc (fb r)

theorem callExceptionPath_eq (cfg : Cfg) (a : Nat) (e : Exn) :
    callExceptionPath cfg a e = (do
      modifyAS fun s => { s with cause := some .exception }
      checkAbort cfg false a
      let d ← handleException cfg false e a
      let r ← getRS
      modifyAS fun s => { s with classification := r.lastClassification }
      if d.isRaise then pure () else checkAbort cfg false a
      callFinish cfg a d r.lastClassification (some e) none .exception false fun _ => default) := rfl

theorem callResultFailure_eq (cfg : Cfg) (a v : Nat) (c : Classification) :
    callResultFailure cfg a v c = (do
      checkAbort cfg false a
      modifyAS fun s => { s with classification := some c, result := some v, cause := some .result }
      let d ← handleFailure cfg false c a .result none (some v)
      if d.isRaise then pure () else checkAbort cfg false a
      callFinish cfg a d (some c) none (some v) .result true fun r =>
        { stop := r.lastStop.getD .maxAttemptsGlobal, attempts := a, lastClass := r.lastClass,
          lastExc := none, lastResult := r.lastResult, nextSleep := none }) := rfl

theorem callFinish_spec (cfg : Cfg) (n : Nat) (d : Decision) (cls : Option Classification) (exc : Option Exn)
    (res : Option Nat) (cause : Cause) (fr : Bool) (fb : RState → ExhaustedFields) (u : View)
    (h : Failed n d fr exc u) :
    ⦃fun w => ⌜view cfg w = u⌝⦄ callFinish cfg (n + 1) d cls exc res cause fr fb ⦃attemptPostC cfg n⦄ := by
  have hfo := failureOutcome_rec cfg false n (n + 1) d cls exc res (some cause) u h.1 h.2.1 h.2.2.1
  have hdc := fun v o r => deliverCall_spec cfg v o r (n + 1) fr exc (fb r)
  mvcgen -leave -trivial [callFinish, hfo, hdc]
  all_goals try exact cfg
  all_goals try refine SPred.pure_mono ?_
  · exact fun _ => ‹_›
  -- the loop goes on
  · obtain ⟨hrec, hfo, _⟩ := ‹RecP n _ ∧ FailOK' _ _ ∧ _›
    intro ⟨hn, hr, hv⟩
    subst hn
    simp only [*]
    exact hrec.next hfo hr
  -- `deliverCall` raises
  · rename_i hf _ _ h3 _ _ h2 _ _ h1 _ _
    intro ⟨he, hr, hv⟩
    rw [he, hv, h1.1, h2, h3]
    rw [h2, h3] at h1
    exact errC_fail hf.1 (h.2.2.2.hsame hf.2.2) hf.2.1 ⟨h1.2.1, h1.2.2.1, h1.2.2.2.1, h1.2.2.2.2.1⟩ hr
  · exact fun ht => ErrC_of_thrown ht.1
  · exact fun hs => ErrC_of_src hs.1

theorem handleException_exc (cfg : Cfg) (tl : Bool) (n : Nat) (e : Exn) (a : Nat) (u : View) (h : ExcP n e u) :
    ⦃fun w => ⌜view cfg w = u⌝⦄ handleException cfg tl e a
    ⦃post⟨fun d w => ⌜Failed n d false (some e) (view cfg w)⌝, fun e' w => ⌜Src cfg w e'⌝⟩⦄ := by
  mvcgen [handleException, handleFailure_spec, callClassifier_f]
  · rename_i h1 _ _ h2 _ _
    intro hs hd
    rw [h2, h1] at hs
    have := h.rec' hs
    exact ⟨this.1, this.2.2.2, hd, Or.inl ⟨rfl, this.2.1.symm, rfl, this.2.2.1⟩⟩
  · intro hs _
    exact hs
  · intro ht _
    exact Or.inl ht

theorem callExceptionPath_spec (cfg : Cfg) (e : Exn) (n : Nat) (u : View) (h : ExcP n e u) :
    ⦃fun w => ⌜view cfg w = u⌝⦄ callExceptionPath cfg (n + 1) e ⦃attemptPostC cfg n⦄ := by
  have hci := checkAbort_idle cfg false (n + 1)
  have hex := handleException_exc cfg false n e (n + 1)
  have hcf := fun d cls => callFinish_spec cfg n d cls (some e) none .exception false fun _ => default
  rw [callExceptionPath_eq]
  mvcgen -leave -trivial [hci, hex, hcf]
  all_goals try exact cfg
  all_goals try refine SPred.pure_mono ?_
  -- either abort poll raised
  case vc9 | vc11 => exact fun h => ErrC_of_abortish h.1
  -- the first poll's and `handleException`'s preconditions: the view is still `u`
  · simp only [*]
    exact h.pending
  · simp only [*]
  -- `callFinish`'s precondition without the second poll; that poll's; `callFinish`'s after it
  · intro s hs
    simp only [*]
  · simp only [*]
    exact (‹Failed n _ false (some e) _›).1.pending
  · intro s hs
    simp only [*]
  -- `handleException` raised
  · exact ErrC_of_src

/-- the `except` ladder around the operation; `e = stuck` when the answer was ill-shaped -/
theorem callOpHandler_spec (cfg : Cfg) (e : Exn) (n : Nat) (u : View) (h : e ≠ .stuck → ExcP n e u) :
    ⦃fun w => ⌜view cfg w = u⌝⦄ callOpHandler cfg (n + 1) e ⦃attemptPostC cfg n⦄ := by
  have hx := callExceptionPath_spec cfg e n
  mvcgen -leave -trivial [callOpHandler, hx]
  all_goals try exact cfg
  all_goals try refine SPred.pure_mono ?_
  -- the abort arm: `emit` or the `on_attempt_end` hook raised
  case vc2 | vc3 => exact fun h => ErrC_of_thrown h.1
  -- the arms that re-raise `e` at once (cancelled, KeyboardInterrupt / SystemExit, exhausted, not an `Exception`)
  case vc4 | vc5 | vc6 | vc8 =>
    rename_i h1
    exact fun _ => errC_reraise h (by rw [h1])
  · exact fun _ => errC_reraise h (by simp only [*])
  · rename_i hx
    intro s hs
    rw [hs]
    exact h (fun he => by rw [he] at hx; cases hx)

theorem handleFailure_res (cfg : Cfg) (tl : Bool) (n x : Nat) (c : Classification) (a : Nat) (u : View)
    (h : ValP cfg n x u) (hrc : cfg.resultClassifier = true) :
    ⦃fun w => ⌜view cfg w = { u with mon := pollStep cfg (resStep cfg u.mon (some c)) }⌝⦄
    handleFailure cfg tl c a .result none (some x)
    ⦃post⟨fun d w => ⌜Failed n d true none (view cfg w)⌝, fun e' w => ⌜Src cfg w e'⌝⟩⦄ :=
  triple_mono (handleFailure_spec cfg tl { u with mon := pollStep cfg (resStep cfg u.mon (some c)) } c a
      .result none (some x)) (fun _ h => h)
    (fun _ _ hf => ⟨(h.rec' hrc hf.1).1, (h.rec' hrc hf.1).2.2, hf.2, Or.inr ⟨rfl, rfl, (h.rec' hrc hf.1).2.1⟩⟩)
    (fun _ _ h => h.1)

theorem callResultPath_spec (cfg : Cfg) (x : Nat) (n : Nat) (u : View) (h : ValP cfg n x u) :
    ⦃fun w => ⌜view cfg w = u⌝⦄ callResultPath cfg (n + 1) x ⦃attemptPostC cfg n⦄ := by
  have hca := checkAbort_spec cfg
  have hf := fun c => handleFailure_res cfg false n x c (n + 1) u h
  have hcf := fun d cls => callFinish_spec cfg n d cls none (some x) .result true
  unfold callResultPath
  simp only [callResultFailure_eq]
  mvcgen -leave -trivial [handleSuccessAttemptEnd, hf, hcf, hca]
  all_goals try exact cfg
  all_goals try refine SPred.pure_mono ?_
  -- a callback raised: `on_attempt_end`, `emit`, `record_success`; the result classifier
  case vc2 | vc3 | vc4 | vc13 => exact fun h => ErrC_of_thrown h.1
  -- either abort poll raised
  case vc10 | vc12 => exact fun h => ErrC_of_abortish h.1
  -- success
  · simp only [*]
    exact fun _ => h.success
  -- failure
  · rename_i h2 _ _ _ _ _ _
    exact h2.2 rfl
  · simp only [*]
    exact fun _ => trivial
  · exact fun _ hs => hs
  · rename_i hf _
    intro s hs
    rw [hs, pollStep_idle cfg _ hf.1.pending]
    exact hf
  · exact ErrC_of_src

theorem callAttempt_spec (cfg : Cfg) (n : Nat) (u : View) (h : Hd n u) :
    ⦃fun w => ⌜view cfg w = u⌝⦄ callAttempt cfg (n + 1) ⦃attemptPostC cfg n⦄ := by
  have hci := checkAbort_idle cfg false n
  have hoh := fun e => callOpHandler_spec cfg e n
  have hrp := fun x => callResultPath_spec cfg x n
  mvcgen -leave -trivial [callAttempt, hci, hoh, hrp]
  all_goals try exact cfg
  all_goals try refine SPred.pure_mono ?_
  all_goals subst_vars
  · exact h.pending
  · simp only [*]
    exact h.opVal _ 0
  · rename_i h4 _ _ h3 _ _ h2 _ s h1
    intro hs
    show ExcP n _ (view cfg s)
    rw [h1.1 hs, h2, h3, h4]
    exact h.opExc _ 0
  · exact fun h => ErrC_of_thrown h.1
  · exact fun h => ErrC_of_abortish h.1

/-- the fields of the RetryExhaustedError `raise_exhausted_call` makes -/
def exhFields (cfg : Cfg) (lc : Option EClass) (lr : Option Nat) : ExhaustedFields :=
  { stop := .maxAttemptsGlobal, attempts := cfg.maxAttempts, lastClass := lc, lastExc := none, lastResult := lr,
    nextSleep := none }

theorem exhausted_errC {cfg : Cfg} {n : Nat} {v : View} {t : List (Req × Ans)} (h : Hd n v)
    (hn : n = cfg.maxAttempts) :
    (v.lastCause = some .result → ErrC cfg v.mon t (.libExhausted (exhFields cfg v.lastClass v.lastResult))) ∧
    (¬ v.lastCause = some .result → ∀ e, v.lastExc = some e → ErrC cfg v.mon t e) ∧
    (¬ v.lastCause = some .result → v.lastExc = none → ErrC cfg v.mon t .libRuntimeError) := by
  obtain ⟨hops, ⟨hs1, hs2, hs3, hs4⟩, hfresh, hrec, _, _, hdef, _⟩ := h
  rcases Nat.eq_zero_or_pos n with h0 | hpos
  · obtain ⟨f1, f2, f3, f4, f5⟩ := hfresh h0
    refine ⟨fun hc => ?_, fun _ e he => ?_, fun _ _ => ?_⟩
    · rw [hs4, f1] at hc; cases hc
    · rw [hs1, f2] at he; cases he
    · right; right; right; right; right
      exact ⟨rfl, by omega, by omega⟩
  · obtain ⟨hat, hcls, hcs, hce, hcr⟩ := hrec hpos
    rw [hs4, hs1]
    cases hcc : v.mon.recCause with
    | none => rw [hcc] at hcs; cases hcs
    | some c =>
      cases c with
      | result =>
        obtain ⟨r1, r2, r3⟩ := hcr hcc
        refine ⟨fun _ => ?_, fun h => absurd rfl h, fun h => absurd rfl h⟩
        refine Or.inr (Or.inr (Or.inr (Or.inr (Or.inl ⟨_, rfl, ?_⟩))))
        simp [fieldsOk, exhFields, hops, ← hn, hat, hs3, hcc, hs2, r1, r2, hdef]
      | exception =>
        obtain ⟨r1, r2, r3⟩ := hce hcc
        refine ⟨nofun, fun _ e he => ErrC_op (r1 ▸ he) hdef, fun _ he => ?_⟩
        rw [← r1, he] at r2
        cases r2

theorem raiseExhaustedCall_spec (cfg : Cfg) (n : Nat) (u : View) (h : Hd n u) (hn : n = cfg.maxAttempts) :
    ⦃fun w => ⌜view cfg w = u⌝⦄ raiseExhaustedCall cfg
    ⦃post⟨fun _ _ => ⌜False⌝, fun e w => ⌜ErrC cfg (view cfg w).mon w.trace e⌝⟩⦄ := by
  have hx := fun t => exhausted_errC (t := t) h hn
  mvcgen -leave -trivial [raiseExhaustedCall, emitMaxAttemptsExceeded]
  case vc6 => exact fun _ _ => cfg  -- the configuration `getRS_v` speaks of (not fixed by the program)
  all_goals try exact cfg
  all_goals try refine SPred.pure_mono ?_
  -- the view at the end: `u` but for the stop reason; `r` is read off it
  · rename_i h5 _ _ h4 _ _ h3 _ _ h2 _ hc _ h1
    rw [h3, h4.1, h5] at h2
    rw [h2] at h1
    obtain ⟨hv, _, hcl, _, hre, hca⟩ := h1
    rw [hca] at hc
    intro _
    rw [hv, hcl, hre]
    exact (hx _).1 hc
  · rename_i h5 _ _ h4 _ _ h3 _ _ h2 _ hc _ he _ h1
    rw [h3, h4.1, h5] at h2
    rw [h2] at h1
    obtain ⟨hv, _, _, hex, _, hca⟩ := h1
    rw [hca] at hc
    rw [hex] at he
    intro _
    rw [hv]
    exact (hx _).2.1 hc _ he
  · rename_i h5 _ _ h4 _ _ h3 _ _ h2 _ hc he _ h1
    rw [h3, h4.1, h5] at h2
    rw [h2] at h1
    obtain ⟨hv, _, _, hex, _, hca⟩ := h1
    rw [hca] at hc
    rw [hex] at he
    intro _
    rw [hv]
    exact (hx _).2.2 hc he
  · exact fun h => ErrC_of_thrown h.1

abbrev callPost (cfg : Cfg) : PostCond Nat (.except Exn (.arg World .pure)) :=
  post⟨fun x w => ⌜(view cfg w).mon.succeeded = true ∧ (view cfg w).mon.earlierSuccess = false ∧
          (view cfg w).mon.opVal = some x⌝,
       fun e w => ⌜ErrC cfg (view cfg w).mon w.trace e⌝⟩

theorem callLoop_spec (cfg : Cfg) : ∀ (fuel n : Nat) (u : View), Hd n u → n + fuel = cfg.maxAttempts →
    ⦃fun w => ⌜view cfg w = u⌝⦄ callLoop cfg fuel (n + 1) ⦃callPost cfg⦄ := by
  intro fuel
  induction fuel with
  | zero =>
    intro n u h hn
    have hx := raiseExhaustedCall_spec cfg n u h (by omega)
    mvcgen [callLoop, hx]
    exact False.elim
  | succ f ih =>
    intro n u h hn
    have hat := callAttempt_spec cfg n u h
    mvcgen [callLoop, hat]
    exact fun s hs => ih (n + 1) (view cfg s) hs (by omega) s rfl

def view0 : View := ⟨{}, none, none, none, none, none, 0⟩

theorem Hd.init : Hd 0 view0 := by
  simp [Hd, view0, Sync, Fresh]

theorem initState_spec (cfg : Cfg) :
    ⦃fun w => ⌜cur cfg w.trace = {}⌝⦄ initState
    ⦃post⟨fun _ w => ⌜view cfg w = view0⌝, fun _ _ => ⌜False⌝⟩⦄ := by
  mvcgen [initState]
  all_goals (simp_all +zetaDelta [view, view0])

def Rej (t : List (Req × Ans)) : Prop := rejected t = true

theorem Rej.cons (x : Req × Ans) {t : List (Req × Ans)} (h : Rej t) : Rej (x :: t) := by
  unfold Rej rejected at *
  simp only [List.any_cons, h, Bool.or_true]

theorem Rej.append (δ : List (Req × Ans)) {t : List (Req × Ans)} (h : Rej t) : Rej (δ ++ t) := by
  induction δ with
  | nil => exact h
  | cons x δ ih => exact Rej.cons x ih

def Fin (cfg : Cfg) : Except Exn Nat → World → Prop
  | .ok x, w => (view cfg w).mon.succeeded = true ∧ (view cfg w).mon.earlierSuccess = false ∧
      (view cfg w).mon.opVal = some x
  | .error e, w => Rej w.trace ∨ ErrC cfg (view cfg w).mon w.trace e

abbrev finPost (cfg : Cfg) : PostCond Nat (.except Exn (.arg World .pure)) :=
  post⟨fun x w => ⌜Fin cfg (.ok x) w⌝, fun e w => ⌜Fin cfg (.error e) w⌝⟩

/-- `Retry.call` (and its async twin) -/
theorem runCall_spec (cfg : Cfg) :
    ⦃fun w => ⌜cur cfg w.trace = {}⌝⦄ runCall cfg ⦃finPost cfg⦄ := by
  have hloop := callLoop_spec cfg cfg.maxAttempts 0 view0 Hd.init (by omega)
  have hi := initState_spec cfg
  mvcgen [runCall, hloop, hi]
  · exact fun h1 h2 h3 => ⟨h1, h2, h3⟩
  · exact Or.inr

open Policy

def PExt (K : Kind → Bool) (w w' : World) : Prop :=
  (∃ δ, w'.trace = δ ++ w.trace ∧ ∀ x ∈ δ, K x.1.kind = true) ∧ w'.rs = w.rs ∧ w'.attempts = w.attempts

theorem PExt.refl (K : Kind → Bool) (w : World) : PExt K w w := ⟨⟨[], rfl, by simp⟩, rfl, rfl⟩

theorem PExt.trans {K : Kind → Bool} {w₁ w₂ w₃ : World} (h₁ : PExt K w₁ w₂) (h₂ : PExt K w₂ w₃) : PExt K w₁ w₃ := by
  obtain ⟨⟨δ₁, e₁, k₁⟩, r₁, a₁⟩ := h₁
  obtain ⟨⟨δ₂, e₂, k₂⟩, r₂, a₂⟩ := h₂
  refine ⟨⟨δ₂ ++ δ₁, by simp [e₂, e₁], ?_⟩, by rw [r₂, r₁], by rw [a₂, a₁]⟩
  intro x hx
  rcases List.mem_append.mp hx with h | h
  · exact k₂ x h
  · exact k₁ x h

theorem PExt.step {K : Kind → Bool} (w : World) (r : Req) (a : Ans) (answers : List Ans) (now : Nat)
    (bud : Budget.St) (br : Breaker.St) (xc : XCtx) (hk : K r.kind = true) :
    PExt K w { w with answers := answers, now := now, trace := (r, a) :: w.trace, budget := bud, breaker := br,
                      xc := xc } :=
  ⟨⟨[(r, a)], rfl, by simp [hk]⟩, rfl, rfl⟩

theorem PExt.frame {K : Kind → Bool} (w : World) (br : Breaker.St) (xc : XCtx) :
    PExt K w { w with breaker := br, xc := xc } := ⟨⟨[], rfl, by simp⟩, rfl, rfl⟩

abbrev pextPost (K : Kind → Bool) (w0 : World) : PostCond α (.except Exn (.arg World .pure)) :=
  post⟨fun _ w => ⌜PExt K w0 w⌝, fun e w => ⌜PExt K w0 w ∧ Thrown w.trace e⌝⟩

theorem PExt.thrown {K : Kind → Bool} {w w' : World} {e : Exn} (h : PExt K w w') (ht : Thrown w.trace e) :
    Thrown w'.trace e := by
  obtain ⟨⟨δ, e1, _⟩, _, _⟩ := h
  rw [e1]
  exact Thrown.append δ ht

theorem inv_of_pext' {α : Type} {x : M α} (K : Kind → Bool) (I : World → Prop) (E : Exn → World → Prop)
    (hx : ∀ w0, ⦃fun w => ⌜PExt K w0 w⌝⦄ x ⦃post⟨fun _ w => ⌜PExt K w0 w⌝, fun e w => ⌜PExt K w0 w ∧ E e w⌝⟩⦄)
    (hI : ∀ w w', PExt K w w' → I w → I w') :
    ⦃fun w => ⌜I w⌝⦄ x ⦃post⟨fun _ w => ⌜I w⌝, fun e w => ⌜I w ∧ E e w⌝⟩⦄ :=
  triple_of_rel hx (PExt.refl K) (fun _ _ _ hw h => hI _ _ h hw) (fun _ _ _ hw h => ⟨hI _ _ h.1 hw, h.2⟩)

theorem inv_of_pext {α : Type} {x : M α} (K : Kind → Bool) (I : World → Prop)
    (hx : ∀ w0, ⦃fun w => ⌜PExt K w0 w⌝⦄ x ⦃post⟨fun _ w => ⌜PExt K w0 w⌝, fun e w => ⌜PExt K w0 w ∧ Thrown w.trace e⌝⟩⦄)
    (hI : ∀ w w', PExt K w w' → I w → I w') :
    ⦃fun w => ⌜I w⌝⦄ x ⦃post⟨fun _ w => ⌜I w⌝, fun e w => ⌜I w ∧ Thrown w.trace e⌝⟩⦄ :=
  inv_of_pext' K I (fun e w => Thrown w.trace e) hx hI

section policyLeaves
variable (K : Kind → Bool) (w0 : World) (cfg : Cfg)

theorem ask_pext (r : Req) (hk : K r.kind = true) (hop : isOp r = false) :
    ⦃fun w => ⌜PExt K w0 w⌝⦄ ask r ⦃pextPost K w0⦄ :=
  ask_triple r (fun _ _ h _ => h.trans (PExt.step _ _ _ _ _ _ _ _ hk))
    (fun _ _ _ h => ⟨h.trans (PExt.step _ _ _ _ _ _ _ _ hk), Thrown.head _ _ _ _ hop⟩)

theorem askHook_pext (r : Req) (hk : K r.kind = true) (hop : isOp r = false) :
    ⦃fun w => ⌜PExt K w0 w⌝⦄ askHook r ⦃pextPost K w0⦄ :=
  askHook_triple r (ask_pext K w0 r hk hop) (fun w h => presil_cases (PExt K w0) w (fun _ => h))

theorem askMetric_pext (hm : K .metric = true) (ev : Event) (a s : Nat) (t : Tags) :
    ⦃fun w => ⌜PExt K w0 w⌝⦄ askMetric ev a s t ⦃pextPost K w0⦄ := by
  have h := askHook_pext K w0 (.metric ev a s t) hm rfl
  mvcgen [askMetric, h]

theorem askLog_pext (hl : K .log = true) (ev : Event) (a s : Nat) (t : Tags) (ra : Option Int) :
    ⦃fun w => ⌜PExt K w0 w⌝⦄ askLog ev a s t ra ⦃pextPost K w0⦄ := by
  have h := askHook_pext K w0 (.log ev a s t ra) hl rfl
  mvcgen [askLog, h]

theorem swallow_pext (e : Exn) :
    ⦃fun w => ⌜PExt K w0 w ∧ Thrown w.trace e⌝⦄ swallowException e ⦃pextPost K w0⦄ := by
  mvcgen [swallowException]
  · rename_i h
    exact h.1

theorem emitBreakerEvent_pext (hm : K .metric = true) (hl : K .log = true) (ev : Option Event) (st : CState)
    (k : Option EClass) :
    ⦃fun w => ⌜PExt K w0 w⌝⦄ emitBreakerEvent cfg ev st k ⦃pextPost K w0⦄ := by
  have h1 := askMetric_pext K w0 hm
  have h2 := askLog_pext K w0 hl
  have h3 := swallow_pext K w0
  mvcgen [emitBreakerEvent, h1, h2, h3]
  all_goals exact id

theorem breakerAllow_pext (ha : K .breakerAllow = true) (bc : Breaker.Cfg) :
    ⦃fun w => ⌜PExt K w0 w⌝⦄ breakerAllow bc
    ⦃post⟨fun d w => ⌜PExt K w0 w ∧ (d.1 = false → Rej w.trace)⌝, fun _ _ => ⌜False⌝⟩⦄ := by
  mvcgen [breakerAllow]
  all_goals ((try subst_vars) <;> (try intros))
  all_goals (refine ⟨PExt.trans (by assumption) (PExt.step _ _ _ _ _ _ _ _ ha), ?_⟩)
  all_goals (intro h; simp [Rej, rejected, h])

theorem checkBreaker_pext (hm : K .metric = true) (hl : K .log = true) (ha : K .breakerAllow = true) :
    ⦃fun w => ⌜PExt K w0 w⌝⦄ checkBreaker cfg
    ⦃post⟨fun _ w => ⌜PExt K w0 w⌝, fun e w => ⌜PExt K w0 w ∧ (Rej w.trace ∨ Thrown w.trace e)⌝⟩⦄ := by
  have h1 := breakerAllow_pext K w0 ha
  have h2 := fun (d : Bool) (ev : Option Event) (st : CState) (k : Option EClass) =>
    inv_of_pext K (fun w => PExt K w0 w ∧ (d = false → Rej w.trace))
      (fun w1 => emitBreakerEvent_pext K w1 cfg hm hl ev st k)
      (fun w w' h hw => ⟨PExt.trans hw.1 h, fun hd => by
        obtain ⟨⟨δ, e1, _⟩, _, _⟩ := h
        rw [e1]; exact Rej.append δ (hw.2 hd)⟩)
  mvcgen [checkBreaker, h1, h2]
  all_goals ((try subst_vars) <;> (try intros))
  all_goals (try (simp_all; done))

theorem recordSuccess_pext (hm : K .metric = true) (hl : K .log = true) (hs : K .breakerSuccess = true) :
    ⦃fun w => ⌜PExt K w0 w⌝⦄ Policy.recordSuccess cfg ⦃pextPost K w0⦄ := by
  have h2 := emitBreakerEvent_pext K w0 cfg hm hl
  mvcgen [Policy.recordSuccess, h2]
  · rename_i h
    exact h.trans (PExt.step _ _ _ _ _ _ _ _ hs)

theorem recordCancel_pext (hc : K .breakerCancel = true) :
    ⦃fun w => ⌜PExt K w0 w⌝⦄ Policy.recordCancel cfg ⦃pextPost K w0⦄ := by
  mvcgen [Policy.recordCancel]
  · rename_i h _
    exact h.trans (PExt.step _ _ _ _ _ _ _ _ hc)

theorem recordFailure_pext (hm : K .metric = true) (hl : K .log = true) (hf : K .breakerFailure = true)
    (k : EClass) :
    ⦃fun w => ⌜PExt K w0 w⌝⦄ Policy.recordFailure cfg k ⦃pextPost K w0⦄ := by
  have h2 := emitBreakerEvent_pext K w0 cfg hm hl
  mvcgen [Policy.recordFailure, h2]
  · rename_i h
    exact h.trans (PExt.step _ _ _ _ _ _ _ _ hf)

theorem handleExhaustedCall_pext (hm : K .metric = true) (hl : K .log = true) (hf : K .breakerFailure = true)
    (e : Exn) :
    ⦃fun w => ⌜PExt K w0 w⌝⦄ handleExhaustedCall cfg e ⦃pextPost K w0⦄ := by
  have h := recordFailure_pext K w0 cfg hm hl hf
  mvcgen [handleExhaustedCall, h]

theorem callClassifier_pext (hc : K .classify = true) (e : Exn) :
    ⦃fun w => ⌜PExt K w0 w⌝⦄ callClassifier e ⦃pextPost K w0⦄ := by
  have h := ask_pext K w0 (.classify e.ref) hc rfl
  mvcgen [callClassifier, h]
  · rename_i h
    exact ⟨h, Thrown.stuck _⟩

theorem classifyForBreaker_pext (hc : K .classify = true) (e : Exn) :
    ⦃fun w => ⌜PExt K w0 w⌝⦄ classifyForBreaker cfg e ⦃pextPost K w0⦄ := by
  have h := callClassifier_pext K w0 hc
  mvcgen [classifyForBreaker, h]

/-- with a retry component (`on_attempt_end` hooks are the retry loop's business) -/
theorem handleExceptionCall_pext (hret : cfg.hasRetry = true) (hm : K .metric = true) (hl : K .log = true)
    (hf : K .breakerFailure = true) (hc : K .classify = true) (e : Exn) (b : Bool) :
    ⦃fun w => ⌜PExt K w0 w⌝⦄ handleExceptionCall cfg e b ⦃pextPost K w0⦄ := by
  have h1 := classifyForBreaker_pext K w0 cfg hc
  have h2 := recordFailure_pext K w0 cfg hm hl hf
  unfold handleExceptionCall
  simp only [hret, Bool.not_true, Bool.false_and, Bool.false_eq_true, if_false]
  mvcgen [h1, h2]

theorem handleAbortCall_pext (hret : cfg.hasRetry = true) (hc : K .breakerCancel = true) (e : Exn) :
    ⦃fun w => ⌜PExt K w0 w⌝⦄ handleAbortCall cfg e ⦃pextPost K w0⦄ := by
  have h := recordCancel_pext K w0 cfg hc
  unfold handleAbortCall
  simp only [hret, Bool.not_true, Bool.false_eq_true, if_false]
  mvcgen [h]

end policyLeaves

/-- kinds of the exchanges the policy wrapper makes besides re-classifying the final exception -/
def polK : Kind → Bool
  | .metric | .log | .breakerAllow | .breakerSuccess | .breakerFailure | .breakerCancel => true
  | _ => false

/-- … and with that classification -/
def polCK : Kind → Bool
  | .classify => true
  | k => polK k

theorem polK_inert (k : Kind) (h : polK k = true) : inertK k = true := by
  cases k <;> simp_all [polK, inertK]

theorem view_pext (cfg : Cfg) {w w' : World} (h : PExt polK w w') : view cfg w' = view cfg w := by
  obtain ⟨⟨δ, e, k⟩, hr, ha⟩ := h
  simp only [view, e, hr, ha, cur, foldr_append_inert (step cfg) {} (fun x => inertK x.1.kind = true)
    (step_inert cfg) δ _ (fun x hx => polK_inert _ (k x hx))]

/-- the part of the monitor the policy wrapper's re-classification cannot move -/
def keep (m : St) : Nat × Option Exn × Option Nat × Bool × Bool × Bool × Bool × Bool × Bool :=
  (m.ops, m.opExc, m.opVal, m.succeeded, m.earlierSuccess, m.deferred, m.badDecision, m.opAfterFault, m.hookFault)

theorem step_polCK (cfg : Cfg) (s : St) (x : Req × Ans) (h : polCK x.1.kind = true) :
    keep (step cfg s x) = keep s := by
  obtain ⟨r, a⟩ := x
  have h : polCK r.kind = true := h
  unfold step
  split
  case h_7 => split <;> rfl  -- the classifier's answer: `record` does not touch what `keep` keeps
  case h_8 | h_17 => rfl  -- the classifier raised; any other exchange
  case h_1 =>  -- the remaining arms are requests the policy wrapper does not make
    rename_i heq
    rw [show r = _ from heq] at h
    cases h
  all_goals
    rename_i heq _
    rw [show r = _ from heq] at h
    cases h

theorem keep_pext (cfg : Cfg) {w w' : World} (h : PExt polCK w w') :
    keep (cur cfg w'.trace) = keep (cur cfg w.trace) := by
  obtain ⟨⟨δ, e, k⟩, _, _⟩ := h
  rw [e]
  exact foldr_append_proj (step cfg) {} keep (fun x => polCK x.1.kind = true) (step_polCK cfg) δ _ k

theorem Fin.pext {cfg : Cfg} {r : Except Exn Nat} {w w' : World} (h : PExt polK w w') (hf : Fin cfg r w) :
    Fin cfg r w' := by
  have hv := view_pext cfg h
  obtain ⟨⟨δ, e, k⟩, _, _⟩ := h
  cases r with
  | ok x => simpa [Fin, hv] using hf
  | error ex =>
    simp only [Fin, hv] at hf ⊢
    rcases hf with hf | hf
    · left; rw [e]; exact Rej.append δ hf
    · right
      rcases hf with h1 | h1 | h1
      · exact Or.inl h1
      · exact Or.inr (Or.inl (by rw [e]; exact Thrown.append δ h1))
      · exact Or.inr (Or.inr h1)

theorem Fin.pextC {cfg : Cfg} {ex : Exn} {w w' : World} (h : PExt polCK w w') (hx : ex.isExhausted = false)
    (hf : Fin cfg (.error ex) w) : Fin cfg (.error ex) w' := by
  have hk := keep_pext cfg h
  obtain ⟨⟨δ, e, k⟩, _, _⟩ := h
  simp only [keep, Prod.mk.injEq] at hk
  obtain ⟨k1, k2, k3, k4, k5, k6, k7, _, _⟩ := hk
  simp only [Fin, view] at hf ⊢
  rcases hf with hf | hf
  · left; rw [e]; exact Rej.append δ hf
  · right
    rcases hf with h1 | h1 | h1 | h1 | h1 | h1
    · left; simpa [opRaised, k2, k6] using h1
    · exact Or.inr (Or.inl (by rw [e]; exact Thrown.append δ h1))
    · exact Or.inr (Or.inr (Or.inl h1))
    · exact Or.inr (Or.inr (Or.inr (Or.inl ⟨h1.1, by rw [k7]; exact h1.2⟩)))
    · obtain ⟨f, hf1, _⟩ := h1
      subst hf1
      simp [Exn.isExhausted] at hx
    · exact Or.inr (Or.inr (Or.inr (Or.inr (Or.inr ⟨h1.1, h1.2.1, by rw [k1]; exact h1.2.2⟩))))

theorem Fin.thrown {cfg : Cfg} {e : Exn} {w : World} (h : Thrown w.trace e) : Fin cfg (.error e) w :=
  Or.inr (ErrC_of_thrown h)

theorem cur_pext (cfg : Cfg) {w w' : World} (h : PExt polK w w') (h0 : cur cfg w.trace = {}) :
    cur cfg w'.trace = {} := by
  have := congrArg View.mon (view_pext cfg h)
  simpa [view, h0] using this

theorem fin_of_pext {α : Type} {x : M α} {cfg : Cfg} (K : Kind → Bool) (r : Except Exn Nat)
    (hx : ∀ w0, ⦃fun w => ⌜PExt K w0 w⌝⦄ x ⦃pextPost K w0⦄) (hI : ∀ w w', PExt K w w' → Fin cfg r w → Fin cfg r w') :
    ⦃fun w => ⌜Fin cfg r w⌝⦄ x ⦃exits (fun _ => Fin cfg r) fun e => Fin cfg (.error e)⦄ :=
  triple_raise (inv_of_pext K _ hx hI) fun _ _ h => Fin.thrown h.2

theorem recordCancel_fin (cfg : Cfg) (r : Except Exn Nat) :
    ⦃fun w => ⌜Fin cfg r w⌝⦄ Policy.recordCancel cfg ⦃exits (fun _ => Fin cfg r) fun e => Fin cfg (.error e)⦄ :=
  fin_of_pext polK r (fun w0 => recordCancel_pext polK w0 cfg rfl) fun _ _ h hf => hf.pext h

/-- the `except` ladder of `Policy.call`: the breaker bookkeeping keeps what was settled about `e`, which is
    then re-raised, unless a callback raises during it -/
theorem callLadder_spec (cfg : Cfg) (hret : cfg.hasRetry = true) (e : Exn) :
    ⦃fun w => ⌜Fin cfg (.error e) w⌝⦄ callLadder cfg e ⦃finPost cfg⦄ :=
  callLadder_rule (E := fun e => Fin cfg (.error e)) e (fun _ => recordCancel_fin cfg _)
    (fun _ => fin_of_pext polK _ (fun w0 => handleAbortCall_pext polK w0 cfg hret rfl e) fun _ _ h hf => hf.pext h)
    (fun _ => fin_of_pext polK _ (fun w0 => handleExhaustedCall_pext polK w0 cfg rfl rfl rfl e)
      fun _ _ h hf => hf.pext h)
    (fun _ _ hx => fin_of_pext polCK _ (fun w0 => handleExceptionCall_pext polCK w0 cfg hret rfl rfl rfl rfl e true)
      fun _ _ h hf => hf.pextC h hx)
    (fun _ _ h => h)

/-- `Policy.call` with a retry component (also `RetryPolicy.call`, `@retry`, contexts, async twins) -/
theorem call_retry_spec (cfg : Cfg) (hret : cfg.hasRetry = true) :
    ⦃fun w => ⌜cur cfg w.trace = {}⌝⦄ Policy.call cfg ⦃finPost cfg⦄ :=
  settled_rule (P := fun w => cur cfg w.trace = {}) (fun _ h => h)
    (callAdmitted_retry_rule hret
      (triple_raise (inv_of_pext' polK _ (fun e w => Rej w.trace ∨ Thrown w.trace e)
          (fun w0 => checkBreaker_pext polK w0 cfg rfl rfl rfl) fun _ _ h h0 => cur_pext cfg h h0)
        fun _ _ h => h.2.elim Or.inl Fin.thrown)
      (runCall_spec cfg)
      (fun v => fin_of_pext polK (.ok v) (fun w0 => recordSuccess_pext polK w0 cfg rfl rfl rfl) fun _ _ h hf => hf.pext h)
      (callLadder_spec cfg hret))
    (fun v => recordCancel_fin cfg (.ok v)) (fun e => recordCancel_fin cfg (.error e))

def raisedOk (cfg : Cfg) (s : St) (t : Trace) (ex : Exn) : Bool :=
  (opRaised s ex && !s.deferred) || raisedByCallback t ex
  || (match ex with
      | .libExhausted f => fieldsOk s f
      | .libRuntimeError => cfg.maxAttempts == 0 && s.ops == 0
      | .libValueError => s.badDecision
      | .libAbort => true
      | .stuck => true
      | _ => false)

theorem raisedOk_of_errC {cfg : Cfg} {t : List (Req × Ans)} {e : Exn} (h : ErrC cfg (cur cfg t) t e) :
    raisedOk cfg (run cfg t.reverse) t.reverse e = true := by
  rw [run_reverse]
  unfold raisedOk raisedByCallback
  rw [raisedBy_reverse]
  rcases h with h | h | h | h | h | h
  · simp [h.1, h.2]
  · rcases h with h | h
    · subst h; simp
    · simp [h]
  · subst h; simp
  · obtain ⟨h1, h2⟩ := h; subst h1; simp [h2]
  · obtain ⟨f, h1, h2⟩ := h; subst h1; simp [h2]
  · obtain ⟨h1, h2, h3⟩ := h; subst h1; simp [h2, h3]

theorem ok_unfold (cfg : Cfg) (e : Entry) (t : Trace) (r : Res) :
    Mon.C04.ok cfg e t r =
      (if hasLoop cfg e && !e.isExecute && !Mon.rejected t then
        (match r with
         | .ret v => (run cfg t).succeeded && !(run cfg t).earlierSuccess && (run cfg t).opVal == some v
         | .outcome .. => false
         | .raised ex => raisedOk cfg (run cfg t) t ex)
      else true) := by
  unfold Mon.C04.ok raisedOk
  rfl

def Good (cfg : Cfg) : Res → World → Prop
  | .ret x, w => Fin cfg (.ok x) w
  | .raised e, w => Fin cfg (.error e) w
  | .outcome .., _ => False

theorem ok_of_good {cfg : Cfg} {e : Entry} {r : Res} {w : World} (h : Good cfg r w) :
    Mon.C04.ok cfg e w.trace.reverse r = true := by
  rw [ok_unfold]
  split
  · rename_i hg
    cases r with
    | ret x =>
      obtain ⟨h1, h2, h3⟩ := h
      simp only [view] at h1 h2 h3
      simp [run_reverse, h1, h2, h3]
    | outcome o tl => exact h.elim
    | raised ex =>
      rcases h with h | h
      · simp [rejected_reverse, Rej.eq_1 _ ▸ h] at hg
      · exact raisedOk_of_errC h
  · rfl

theorem cur_start (cfg : Cfg) (w : World) : cur cfg (startWorld w).trace = {} := rfl

/--
**C04.**  For every configuration, every entry point and every world (every answer stream: outcomes
of every class, exception- or result-caused, in any order; any callback raising anything at any
point; any durations), the run satisfies the monitor `Mon.C04.ok`:

* if `call()` returns `v`, the last invocation of the operation returned `v`, that value was
  classified as success, and no earlier invocation's was;
* if `call()` raises `ex`, then `ex` is the exception the LAST invocation raised (and no deferral
  was decided), or one raised by a callback of the caller's, or one the library makes — and a
  RetryExhaustedError the library makes has `attempts`, `last_class`, `last_result` or
  `last_exception`, `stop_reason` and `next_sleep_s` describing the final attempt (`fieldsOk`);
  the library's RuntimeError appears only for `max_attempts = 0`.
-/
theorem call_surfaces_last (cfg : Cfg) (e : Entry) (w : World) :
    Mon.C04.ok cfg e (runEntry cfg e w).2.trace.reverse (runEntry cfg e w).1 = true := by
  cases e with
  | execute => simp [Mon.C04.ok, Entry.isExecute]
  | pexecute => simp [Mon.C04.ok, Entry.isExecute]
  | call =>
    exact ok_of_good (toRes_of_triple (Q := Good cfg) (runCall_spec cfg) _ (cur_start cfg w))
  | pcall =>
    cases hret : cfg.hasRetry with
    | false => simp [Mon.C04.ok, hasLoop, hret, Entry.isPolicy]
    | true =>
      exact ok_of_good (toRes_of_triple (Q := Good cfg) (call_retry_spec cfg hret) _ (cur_start cfg w))

/-- …and of every call in every script of calls and clock advances on one policy object. -/
theorem call_surfaces_last_script (cfg : Cfg) : ∀ (steps : List Step) (w : World),
    ∀ l ∈ (runScript cfg steps w).1, Mon.C04.ok cfg l.entry l.trace l.res = true :=
  forall_script (P := fun e t r => Mon.C04.ok cfg e t r = true) cfg (call_surfaces_last cfg)

/-- the monitor speaks about this run: a call() entry with a retry loop, not rejected by the breaker -/
def applies (cfg : Cfg) (e : Entry) (t : Trace) : Bool :=
  hasLoop cfg e && !e.isExecute && !Mon.rejected t

/-- the exception is one the library makes itself (or the model-only `stuck`) -/
def libMade : Exn → Bool
  | .libExhausted _ | .libRuntimeError | .libValueError | .libAbort | .stuck => true
  | _ => false

theorem raisedOk_of_ok {cfg : Cfg} {e : Entry} {t : Trace} {ex : Exn} (happ : applies cfg e t = true)
    (h : Mon.C04.ok cfg e t (.raised ex) = true) : raisedOk cfg (run cfg t) t ex = true := by
  rw [ok_unfold] at h
  unfold applies at happ
  simpa only [happ, if_true] using h

theorem opRaised_of_raisedOk {cfg : Cfg} {s : St} {t : Trace} {ex : Exn} (h : raisedOk cfg s t ex = true)
    (hcb : raisedByCallback t ex = false) (hlib : libMade ex = false) :
    s.opExc = some ex ∧ s.deferred = false := by
  unfold raisedOk at h
  rw [hcb, Bool.or_false] at h
  have hm : ∀ b, ((opRaised s ex && !s.deferred) || b) = true → b = false →
      s.opExc = some ex ∧ s.deferred = false := by
    intro b hb hb0
    subst hb0
    simpa [opRaised] using hb
  apply hm _ h
  cases ex <;> first | rfl | cases hlib

section conjuncts
variable (cfg : Cfg) (e : Entry) (w : World)

/-- **returns_first_success.**  What call() returns is the object the LAST invocation of the
    operation returned; that invocation's result was classified as success and no earlier
    invocation's was (so it is the first successful attempt, and the run stopped there). -/
theorem returns_first_success (v : Nat)
    (happ : applies cfg e (runEntry cfg e w).2.trace.reverse = true)
    (hr : (runEntry cfg e w).1 = .ret v) :
    let s := run cfg (runEntry cfg e w).2.trace.reverse
    s.opVal = some v ∧ s.succeeded = true ∧ s.earlierSuccess = false := by
  have h := call_surfaces_last cfg e w
  rw [ok_unfold, hr] at h
  unfold applies at happ
  simp only [happ, if_true, Bool.and_eq_true, beq_iff_eq, Bool.not_eq_true'] at h
  exact ⟨h.2, h.1.1, h.1.2⟩

/-- **raises_last_exception.**  An exception that comes out of call() and is neither made by the
    library nor raised by one of the caller's callbacks is the very exception the LAST invocation
    of the operation raised (identity: the same `Exn` value, with its id) — never an earlier
    attempt's, never a substitute — and no deferral had been decided. -/
theorem raises_last_exception (ex : Exn)
    (happ : applies cfg e (runEntry cfg e w).2.trace.reverse = true)
    (hr : (runEntry cfg e w).1 = .raised ex)
    (hcb : raisedByCallback (runEntry cfg e w).2.trace.reverse ex = false)
    (hlib : libMade ex = false) :
    let s := run cfg (runEntry cfg e w).2.trace.reverse
    s.opExc = some ex ∧ s.deferred = false :=
  opRaised_of_raisedOk (raisedOk_of_ok happ (hr ▸ call_surfaces_last cfg e w)) hcb hlib

/-- … and conversely: if the last invocation raised `ex`, no deferral or invalid sleep decision was
    made, and what comes out of call() is neither an abort, nor something a callback raised, nor
    the model-only `stuck`, then what comes out IS `ex` (not a RetryExhaustedError, not a
    RuntimeError, not a return value). -/
theorem raises_last_exception_fwd (ex : Exn)
    (happ : applies cfg e (runEntry cfg e w).2.trace.reverse = true)
    (hop : (run cfg (runEntry cfg e w).2.trace.reverse).opExc = some ex)
    (hops : (run cfg (runEntry cfg e w).2.trace.reverse).ops ≠ 0)
    (hval : (run cfg (runEntry cfg e w).2.trace.reverse).opVal = none)
    (hd : (run cfg (runEntry cfg e w).2.trace.reverse).deferred = false)
    (hb : (run cfg (runEntry cfg e w).2.trace.reverse).badDecision = false)
    (hres : ∀ r, (runEntry cfg e w).1 = .raised r →
      r ≠ .libAbort ∧ r ≠ .stuck ∧ raisedByCallback (runEntry cfg e w).2.trace.reverse r = false ∧
        (∀ f, r = .libExhausted f → (run cfg (runEntry cfg e w).2.trace.reverse).recCause = some .exception)) :
    (runEntry cfg e w).1 = .raised ex := by
  have h := call_surfaces_last cfg e w
  rw [ok_unfold] at h
  unfold applies at happ
  simp only [happ, if_true] at h
  cases hr : (runEntry cfg e w).1 with
  | ret v => rw [hr] at h; simp [hval] at h
  | outcome o tl => rw [hr] at h; cases h
  | raised r =>
    rw [hr] at h
    obtain ⟨h1, h2, h3, h4⟩ := hres r hr
    simp only [raisedOk, h3, Bool.or_false] at h
    cases hor : opRaised (run cfg (runEntry cfg e w).2.trace.reverse) r with
    | true =>
      have : (run cfg (runEntry cfg e w).2.trace.reverse).opExc = some r := by simpa [opRaised] using hor
      rw [hop] at this
      cases this
      rfl
    | false =>
      rw [hor] at h
      cases r <;> try cases h
      · exact absurd rfl h1
      · simp [fieldsOk, h4 _ rfl, hd] at h
      · simp [hb] at h
      · simp [hops] at h
      · exact absurd rfl h2

/-- **exhausted_fields.**  A RetryExhaustedError that comes out of call() and was made by the
    library (neither the operation nor a callback raised it) describes the final attempt:
    `attempts` = number of invocations; the failure it reports was recorded for the LAST
    invocation; `last_class` is that failure's first classification; for a result-caused failure
    `last_result` is the last returned object and `last_exception` is None; for an exception-caused
    failure `last_exception` is the last raised exception, `last_result` is None, and the sleep
    handler deferred; `stop_reason` is SCHEDULED exactly when the handler deferred and then
    `next_sleep_s` is the delay the handler was offered, otherwise None. -/
theorem exhausted_fields (f : ExhaustedFields)
    (happ : applies cfg e (runEntry cfg e w).2.trace.reverse = true)
    (hr : (runEntry cfg e w).1 = .raised (.libExhausted f))
    (hcb : raisedByCallback (runEntry cfg e w).2.trace.reverse (.libExhausted f) = false)
    (hop : opRaised (run cfg (runEntry cfg e w).2.trace.reverse) (.libExhausted f) = false) :
    fieldsOk (run cfg (runEntry cfg e w).2.trace.reverse) f = true := by
  have h := raisedOk_of_ok happ (hr ▸ call_surfaces_last cfg e w)
  simpa only [raisedOk, hcb, hop, Bool.false_and, Bool.false_or] using h

/-- the library's "exhausted with no captured exception" RuntimeError only for `max_attempts = 0` -/
theorem runtime_error_only_without_attempts
    (happ : applies cfg e (runEntry cfg e w).2.trace.reverse = true)
    (hr : (runEntry cfg e w).1 = .raised .libRuntimeError)
    (hcb : raisedByCallback (runEntry cfg e w).2.trace.reverse .libRuntimeError = false)
    (hop : opRaised (run cfg (runEntry cfg e w).2.trace.reverse) .libRuntimeError = false) :
    cfg.maxAttempts = 0 ∧ (run cfg (runEntry cfg e w).2.trace.reverse).ops = 0 := by
  have h := raisedOk_of_ok happ (hr ▸ call_surfaces_last cfg e w)
  simpa [raisedOk, hcb, hop] using h

end conjuncts

/-! Non-vacuity.  The hypotheses above are about results of `runEntry`; kernel-evaluating the monadic
    model inside a Props file is ruled out (LOOP_PROOF_GUIDE), so the instances are exhibited through
    the compiled driver: `harness/families/loop.py` (stop-reason × entry-point histogram in its
    `distribution`) drives thousands of runs in which each hypothesis set is met — `ret` results,
    `raise ordinary:…` results that are the last op's, `libExhausted` with SCHEDULED and with
    result-caused hard stops, and `libRuntimeError` for `max_attempts=0` — and evaluates this very
    monitor on them.  At the level of the monitor alone: -/

example : Mon.C04.ok {} .call
    [(.op 1, .raise (.ordinary 1 .transient) 0), (.classify "o1", .klass ⟨.transient, none⟩ 0),
     (.op 2, .value 7 0)] (.ret 7) = true := by decide

example : Mon.C04.ok {} .call
    [(.op 1, .raise (.ordinary 1 .transient) 0), (.classify "o1", .klass ⟨.transient, none⟩ 0),
     (.op 2, .raise (.ordinary 2 .permanent) 0), (.classify "o2", .klass ⟨.permanent, none⟩ 0)]
    (.raised (.ordinary 1 .transient)) = false := by decide

end Redress.Props.C04
