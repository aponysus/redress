/-
  C13Poll — every backoff sleep is preceded by an abort poll made AFTER the delay of that retry was
  computed.

  `Mon.C13.ok` (Props/C13) asks at a `.sleeper` exchange only that SOME abort poll happened since the
  last `.op` / `.sleeper`.  On the result-classifier path the library polls twice after the operation
  returned (once between the result classifier's verdict and the recording of the failure, once right
  before the sleep — after the strategy computed the delay, the budget was consulted and the `retry`
  event was reported), so a change that drops the SECOND poll is invisible to `Mon.C13.ok`.

  The monitors below look at freshness instead: `fresh` says "`abort_if` has been polled since the last
  reset".  They differ only in what resets `fresh`:

  * `pollFresh`      — a `.strategy` request;
  * `pollFreshLate`  — every request `_handle_failure` makes when it grants a retry: `.strategy`,
                       `.budgetConsume`, `.metric ..`, `.log ..` (the `retry` event comes LAST);
  * `pollFreshTight` — every request other than `.abortIf` itself and the two callbacks the library
                       consults between the poll and the sleep (`.sleepHandler`, `.beforeSleep`); the
                       `.sleeper` resets too.  In words: between a sleep and the last abort poll before
                       it NOTHING happens but the sleep handler and the before-sleep hook.

  `pollFreshTight` is proved of every model run by a Hoare chain over the model's procedures (the fold
  state is two Booleans; everything but the sleeper keeps `bad`, so the invariant is `bad = false`
  everywhere and "the poll is fresh" only on the short stretch from `check_abort` to the sleeper); the
  other two follow because resetting less often only makes the monitor weaker (`pollFreshR_mono`).
  Nothing the policy shell does around the loop (or, without a retry component, around the single
  invocation) calls the sleeper, so the fold's `bad` is false for EVERY entry point (`never_bad`), also
  those the monitors' `hasLoop` guard exempts.

  Names: `badN` / `rdyN` are the fold's `bad` flag and "a sleep may start" on a newest-first log, `Rdy`
  both together; `_k` = "keeps `badN = false`" (`okK`, `okK'` derive it from a `Foot nsK` footprint),
  `_r` = "keeps `Rdy`" (`rdyK`, from a `Foot preK` footprint).
-/
import Redress.Lemmas.PolicyFrame
import Redress.MonitorsNR

open Std.Do


namespace Redress.Props.C13Poll
open Redress Redress.Retry Redress.Mon Redress.Mon.C13

def cur (cfg : Cfg) (tr : List (Req × Ans)) : PSt := tr.foldr (fun x s => pstepR tightReq cfg s x) {}

@[simp] theorem cur_cons (cfg : Cfg) (x : Req × Ans) (t : List (Req × Ans)) :
    cur cfg (x :: t) = pstepR tightReq cfg (cur cfg t) x := rfl

theorem run_reverse (cfg : Cfg) (t : List (Req × Ans)) :
    t.reverse.foldl (pstepR tightReq cfg) {} = cur cfg t := by
  simp [cur, List.foldl_reverse]

/-- a sleep has started without a fresh poll -/
def badN (cfg : Cfg) (tr : List (Req × Ans)) : Bool := (cur cfg tr).bad

/-- a sleep may start now -/
def rdyN (cfg : Cfg) (tr : List (Req × Ans)) : Bool := !cfg.abortIf || (cur cfg tr).fresh

structure Rdy (cfg : Cfg) (tr : List (Req × Ans)) : Prop where
  ok : badN cfg tr = false
  may : rdyN cfg tr = true

def nsK : Kind → Bool
  | .sleeper => false
  | _ => true

/-- the callbacks between the poll and the sleep -/
def preK : Kind → Bool
  | .sleepHandler | .beforeSleep => true
  | _ => false

theorem badN_step_ns (cfg : Cfg) (s : PSt) (x : Req × Ans) (h : nsK x.1.kind = true) :
    (pstepR tightReq cfg s x).bad = s.bad := by
  obtain ⟨r, a⟩ := x
  cases r with
  | sleeper l d => cases h
  | _ => rfl

theorem step_pre (cfg : Cfg) (s : PSt) (x : Req × Ans) (h : preK x.1.kind = true) :
    pstepR tightReq cfg s x = s := by
  obtain ⟨r, a⟩ := x
  cases r with
  | sleepHandler lvl ctx d => rfl
  | beforeSleep lvl ctx d => rfl
  | _ => cases h

theorem badN_cons_ns (cfg : Cfg) (r : Req) (a : Ans) (tr : List (Req × Ans)) (h : nsK r.kind = true) :
    badN cfg ((r, a) :: tr) = badN cfg tr := badN_step_ns cfg _ (r, a) h

theorem bad_foot (cfg : Cfg) {w w' : World} (h : Foot nsK w w') : badN cfg w'.trace = badN cfg w.trace := by
  obtain ⟨δ, e, k⟩ := h.trace
  rw [e]
  exact foldr_append_proj (pstepR tightReq cfg) {} PSt.bad (fun x => nsK x.1.kind = true)
    (fun s x hx => badN_step_ns cfg s x hx) δ _ k

theorem cur_foot (cfg : Cfg) {w w' : World} (h : Foot preK w w') : cur cfg w'.trace = cur cfg w.trace := by
  obtain ⟨δ, e, k⟩ := h.trace
  rw [e]
  exact foldr_append_inert (pstepR tightReq cfg) {} (fun x => preK x.1.kind = true)
    (fun s x hx => step_pre cfg s x hx) δ _ k


abbrev keepOk (cfg : Cfg) : PostCond α (.except Exn (.arg World .pure)) :=
  post⟨fun _ w => ⌜badN cfg w.trace = false⌝, fun _ w => ⌜badN cfg w.trace = false⌝⟩

abbrev keepRdy (cfg : Cfg) : PostCond α (.except Exn (.arg World .pure)) :=
  post⟨fun _ w => ⌜Rdy cfg w.trace⌝, fun _ w => ⌜badN cfg w.trace = false⌝⟩

theorem okK {α : Type} {x : M α} (cfg : Cfg)
    (hx : ∀ w0, ⦃fun w => ⌜Foot nsK w0 w⌝⦄ x ⦃footPost nsK w0⦄) :
    ⦃fun w => ⌜badN cfg w.trace = false⌝⦄ x ⦃keepOk cfg⦄ :=
  view_of_foot (fun w => badN cfg w.trace) hx (fun _ _ h => bad_foot cfg h) false

theorem okK' {α : Type} {x : M α} {R : α → Prop} (cfg : Cfg)
    (hx : ∀ w0, ⦃fun w => ⌜Foot nsK w0 w⌝⦄ x
      ⦃post⟨fun a w => ⌜R a ∧ Foot nsK w0 w⌝, fun _ w => ⌜Foot nsK w0 w⌝⟩⦄) :
    ⦃fun w => ⌜badN cfg w.trace = false⌝⦄ x
    ⦃post⟨fun a w => ⌜R a ∧ badN cfg w.trace = false⌝, fun _ w => ⌜badN cfg w.trace = false⌝⟩⦄ :=
  view_of_foot' (fun w => badN cfg w.trace) hx (fun _ _ h => bad_foot cfg h) false

theorem rdyK {α : Type} {x : M α} (cfg : Cfg)
    (hx : ∀ w0, ⦃fun w => ⌜Foot preK w0 w⌝⦄ x ⦃footPost preK w0⦄) :
    ⦃fun w => ⌜Rdy cfg w.trace⌝⦄ x ⦃keepRdy cfg⦄ :=
  triple_mono (inv_of_foot (fun w => Rdy cfg w.trace) hx
    (fun w w' h hi => ⟨by simpa only [badN, cur_foot cfg h] using hi.ok,
      by simpa only [rdyN, cur_foot cfg h] using hi.may⟩))
    (fun _ h => h) (fun _ _ h => h) (fun _ _ h => h.ok)


section leaves
variable (cfg : Cfg) (tl : Bool)

theorem emit_k (ev : Event) (a s : Nat) (k : Option EClass) (e : Option Exn) (st : Option StopReason)
    (c : Option Cause) (cl : Option Classification) :
    ⦃fun w => ⌜badN cfg w.trace = false⌝⦄ emit cfg tl ev a s k e st c cl ⦃keepOk cfg⦄ :=
  okK cfg (fun w0 => emit_foot nsK w0 rfl rfl cfg tl ev a s k e st c cl)

theorem setStop_k (sr : StopReason) : ⦃fun w => ⌜badN cfg w.trace = false⌝⦄ setStop sr ⦃keepOk cfg⦄ :=
  okK cfg (fun w0 => setStop_foot nsK w0 sr)

theorem stopWith_k (sr : StopReason) (ev : Event) (a : Nat) (k : EClass) (e : Option Exn) (c : Cause) :
    ⦃fun w => ⌜badN cfg w.trace = false⌝⦄ stopWith cfg tl sr ev a k e c ⦃keepOk cfg⦄ :=
  triple_mono (okK' cfg (fun w0 => stopWith_foot nsK w0 rfl rfl cfg tl sr ev a k e c))
    (fun _ h => h) (fun _ _ h => h.2) (fun _ _ h => h)

theorem stratRecordFailure_k (key : SKey) (k : EClass) :
    ⦃fun w => ⌜badN cfg w.trace = false⌝⦄ stratRecordFailure cfg key k ⦃keepOk cfg⦄ :=
  okK cfg (fun w0 => stratRecordFailure_foot nsK w0 rfl cfg key k)

theorem callStrategy_k (key : SKey) (kind : SKind) (ctx : BackoffCtx) :
    ⦃fun w => ⌜badN cfg w.trace = false⌝⦄ callStrategy key kind ctx ⦃keepOk cfg⦄ :=
  okK cfg (fun w0 => callStrategy_foot nsK w0 rfl key kind ctx)

theorem callClassifier_k (e : Exn) : ⦃fun w => ⌜badN cfg w.trace = false⌝⦄ callClassifier e ⦃keepOk cfg⦄ :=
  okK cfg (fun w0 => callClassifier_foot nsK w0 rfl e)

theorem shouldClassifyResult_k (x : Nat) :
    ⦃fun w => ⌜badN cfg w.trace = false⌝⦄ shouldClassifyResult cfg x ⦃keepOk cfg⦄ :=
  okK cfg (fun w0 => shouldClassifyResult_foot nsK w0 rfl cfg x)

theorem callAttemptStart_k (a : Nat) :
    ⦃fun w => ⌜badN cfg w.trace = false⌝⦄ callAttemptStart cfg a ⦃keepOk cfg⦄ :=
  okK cfg (fun w0 => callAttemptStart_foot nsK w0 rfl cfg a)

theorem callAttemptEndFromOutcome_k (a : Nat) (o : AOutcome) :
    ⦃fun w => ⌜badN cfg w.trace = false⌝⦄ callAttemptEndFromOutcome cfg a o ⦃keepOk cfg⦄ :=
  okK cfg (fun w0 => callAttemptEndFromOutcome_foot nsK w0 rfl cfg a o)

theorem handleSuccessAttemptEnd_k (a x : Nat) :
    ⦃fun w => ⌜badN cfg w.trace = false⌝⦄ handleSuccessAttemptEnd cfg tl a x ⦃keepOk cfg⦄ :=
  okK cfg (fun w0 => handleSuccessAttemptEnd_foot nsK w0 rfl rfl rfl rfl cfg tl a x)

theorem handleAbortAttemptEnd_k (a : Nat) (e : Exn) :
    ⦃fun w => ⌜badN cfg w.trace = false⌝⦄ handleAbortAttemptEnd cfg a e ⦃keepOk cfg⦄ :=
  okK cfg (fun w0 => handleAbortAttemptEnd_foot nsK w0 rfl cfg a e)

theorem buildOutcome_k (ok : Bool) (value : Option Nat) (n : Nat) (ns : Option Nat) :
    ⦃fun w => ⌜badN cfg w.trace = false⌝⦄ buildOutcome ok value n ns ⦃keepOk cfg⦄ :=
  okK cfg (fun w0 => buildOutcome_foot nsK w0 ok value n ns)

theorem emitAbortedOnce_k (a : Nat) :
    ⦃fun w => ⌜badN cfg w.trace = false⌝⦄ emitAbortedOnce cfg tl a ⦃keepOk cfg⦄ :=
  okK cfg (fun w0 => emitAbortedOnce_foot nsK w0 rfl rfl cfg tl a)

theorem abortOutcome_k (a : Nat) :
    ⦃fun w => ⌜badN cfg w.trace = false⌝⦄ abortOutcome cfg tl a ⦃keepOk cfg⦄ :=
  okK cfg (fun w0 => abortOutcome_foot nsK w0 rfl rfl cfg tl a)

theorem buildExhaustedOutcome_k :
    ⦃fun w => ⌜badN cfg w.trace = false⌝⦄ buildExhaustedOutcome cfg tl ⦃keepOk cfg⦄ :=
  okK cfg (fun w0 => buildExhaustedOutcome_foot nsK w0 rfl rfl cfg tl)

theorem raiseExhaustedCall_k :
    ⦃fun w => ⌜badN cfg w.trace = false⌝⦄ raiseExhaustedCall cfg ⦃keepOk cfg⦄ :=
  okK cfg (fun w0 => raiseExhaustedCall_foot nsK w0 rfl rfl cfg)

theorem deliverCall_k (act : Action) (orig : Option Exn) (fb : ExhaustedFields) :
    ⦃fun w => ⌜badN cfg w.trace = false⌝⦄ deliverCall act orig fb ⦃keepOk cfg⦄ :=
  triple_mono (okK' cfg (fun w0 => deliverCall_foot nsK w0 act orig fb))
    (fun _ h => h) (fun _ _ h => h.2) (fun _ _ h => h)

theorem deliverExecute_k (act : Action) (o : AOutcome) :
    ⦃fun w => ⌜badN cfg w.trace = false⌝⦄ deliverExecute cfg tl act o ⦃keepOk cfg⦄ :=
  triple_mono (okK' cfg (fun w0 => deliverExecute_foot nsK w0 rfl rfl cfg tl act o))
    (fun _ h => h) (fun _ _ h => h.2) (fun _ _ h => h)

theorem ok_cons {cfg : Cfg} {tr : List (Req × Ans)} (h : badN cfg tr = false) (r : Req) (a : Ans)
    (hk : nsK r.kind = true) : badN cfg ((r, a) :: tr) = false :=
  (badN_cons_ns cfg r a tr hk).trans h

theorem Rdy.poll {cfg : Cfg} {tr : List (Req × Ans)} (h : badN cfg tr = false) (a : Ans) :
    Rdy cfg ((.abortIf, a) :: tr) :=
  ⟨ok_cons h _ a rfl, by simp [rdyN, pstepR]⟩

theorem Rdy.sleep {cfg : Cfg} {tr : List (Req × Ans)} (h : Rdy cfg tr) (l : Lvl) (d : Nat) (a : Ans) :
    badN cfg ((.sleeper l d, a) :: tr) = false := by
  have hr := h.may
  simp only [rdyN, Bool.or_eq_true, Bool.not_eq_true'] at hr
  rw [← h.ok]
  simp only [badN, cur_cons, pstepR]
  rcases hr with hr | hr <;> simp [hr]

/-- what `_sync_failure_outcome` starts from: after a decision to raise no sleep is due -/
theorem ok_raise {cfg : Cfg} {tr : List (Req × Ans)} {d : Decision} (h : badN cfg tr = false)
    (hr : d.isRaise = true) : badN cfg tr = false ∧ (d.isRaise = false → Rdy cfg tr) :=
  ⟨h, fun h' => Bool.noConfusion (hr.symm.trans h')⟩

theorem Rdy.imp {cfg : Cfg} {tr : List (Req × Ans)} (h : Rdy cfg tr) (p : Prop) :
    badN cfg tr = false ∧ (p → Rdy cfg tr) := ⟨h.ok, fun _ => h⟩

theorem invokeOp_k (a : Nat) : ⦃fun w => ⌜badN cfg w.trace = false⌝⦄ invokeOp a ⦃keepOk cfg⦄ := by
  mvcgen [invokeOp, ask_trace]
  · exact (‹_ ∧ _›).2 ▸ ok_cons ‹_› _ _ rfl
  · exact (‹_ ∧ _›).2 ▸ ok_cons ‹_› _ _ rfl
  · exact fun ⟨_, h⟩ => h ▸ ok_cons ‹_› _ _ rfl

theorem budgetConsume_k : ⦃fun w => ⌜badN cfg w.trace = false⌝⦄ budgetConsume cfg ⦃keepOk cfg⦄ := by
  mvcgen -leave -trivial [budgetConsume]
  vc_intro
  all_goals assumption

theorem askAbort_k :
    ⦃fun w => ⌜badN cfg w.trace = false⌝⦄ ask .abortIf
    ⦃post⟨fun _ w => ⌜Rdy cfg w.trace⌝, fun _ w => ⌜badN cfg w.trace = false⌝⟩⦄ :=
  ask_triple .abortIf (fun _ a h _ => Rdy.poll h a) (fun _ _ _ h => ok_cons h _ _ rfl)

theorem callSleeper_k (s : Nat) :
    ⦃fun w => ⌜Rdy cfg w.trace⌝⦄ callSleeper cfg s ⦃keepOk cfg⦄ := by
  mvcgen [callSleeper, ask_trace]
  · exact (‹_ ∧ _›).2 ▸ Rdy.sleep ‹_› _ _ _
  · exact fun ⟨_, h⟩ => h ▸ Rdy.sleep ‹_› _ _ _

theorem callSleepHandler_r (lvl : Lvl) (ctx : BackoffCtx) (s : Nat) :
    ⦃fun w => ⌜Rdy cfg w.trace⌝⦄ callSleepHandler lvl ctx s ⦃keepRdy cfg⦄ :=
  rdyK cfg (fun w0 => callSleepHandler_foot preK w0 rfl lvl ctx s)

theorem callBeforeSleep_r (ctx : BackoffCtx) (s : Nat) :
    ⦃fun w => ⌜Rdy cfg w.trace⌝⦄ callBeforeSleep cfg ctx s ⦃keepRdy cfg⦄ :=
  rdyK cfg (fun w0 => callBeforeSleep_foot preK w0 rfl cfg ctx s)

end leaves


/-- `_RetryState.check_abort`: when it returns, a sleep may start -/
theorem checkAbort_k (cfg : Cfg) (tl : Bool) (a : Nat) :
    ⦃fun w => ⌜badN cfg w.trace = false⌝⦄ checkAbort cfg tl a
    ⦃post⟨fun _ w => ⌜Rdy cfg w.trace⌝,
          fun _ w => ⌜badN cfg w.trace = false⌝⟩⦄ := by
  have h1 := askAbort_k cfg
  have h2 := setStop_k cfg .aborted
  have h3 := emit_k cfg tl .aborted a 0 none none (some .aborted) none none
  mvcgen -leave -trivial [checkAbort, h1, h2, h3]
  vc_intro
  case vc3 => exact Rdy.ok ‹_›
  case vc5 => exact Rdy.ok ‹_›
  case vc6 => exact ⟨‹_›, by simp [rdyN, ‹¬cfg.abortIf = true›]⟩
  all_goals assumption

/-- `try: state.check_abort(attempt) except AbortRetryError: …` -/
theorem checkAbortCaught_k (cfg : Cfg) (tl : Bool) (a : Nat) :
    ⦃fun w => ⌜badN cfg w.trace = false⌝⦄ checkAbortCaught cfg tl a
    ⦃post⟨fun b w => ⌜badN cfg w.trace = false ∧ (b = false → Rdy cfg w.trace)⌝,
          fun _ w => ⌜badN cfg w.trace = false⌝⟩⦄ := by
  have h1 := checkAbort_k cfg tl a
  mvcgen -leave -trivial [checkAbortCaught, abortToTrue, h1]
  vc_intro
  case vc2 => exact Rdy.imp ‹_› _
  case vc3 => exact ⟨‹_›, fun h => Bool.noConfusion h⟩
  all_goals assumption

/-- `_handle_sleep_decision`: SLEEP is decided without another request -/
theorem handleSleepDecision_r (cfg : Cfg) (tl : Bool) (act : SleepDecision) (a s : Nat) :
    ⦃fun w => ⌜Rdy cfg w.trace⌝⦄ handleSleepDecision cfg tl act a s
    ⦃post⟨fun r w => ⌜badN cfg w.trace = false ∧ (r = .sleep → Rdy cfg w.trace)⌝,
          fun _ w => ⌜badN cfg w.trace = false⌝⟩⦄ := by
  have h1 := setStop_k cfg .scheduled
  have h2 := fun k ex cs => emit_k cfg tl .scheduled a s k ex (some .scheduled) cs none
  have h3 := emitAbortedOnce_k cfg tl a
  mvcgen -leave -trivial [handleSleepDecision, getRS, h1, h2, h3]
  vc_intro
  case vc1 => exact Rdy.imp ‹_› _
  case vc2 => exact Rdy.ok ‹_›
  case vc4 => exact ⟨‹_›, fun h => SleepDecision.noConfusion h⟩
  case vc5 => exact Rdy.ok ‹_›
  case vc6 => exact ⟨‹_›, fun h => SleepDecision.noConfusion h⟩
  case vc7 => exact Rdy.ok ‹_›
  all_goals assumption

/-- `_sync_sleep_action` / `_async_sleep_action`: from the poll to the sleep -/
theorem sleepAction_k (cfg : Cfg) (tl : Bool) (a s : Nat) (ctx : BackoffCtx) :
    ⦃fun w => ⌜Rdy cfg w.trace⌝⦄ sleepAction cfg tl a s ctx ⦃keepOk cfg⦄ := by
  have h1 := callBeforeSleep_r cfg ctx s
  have h2 := callSleeper_k cfg s
  have h3 := fun lvl => callSleepHandler_r cfg lvl ctx s
  have h4 := fun act => handleSleepDecision_r cfg tl act a s
  mvcgen -leave -trivial [sleepAction, h1, h2, h3, h4]
  vc_intro
  case vc5 => exact (‹_ ∧ (_ → _)›).2 ‹_›
  case vc7 => exact (‹_ ∧ _›).1
  all_goals assumption

/-! ### the failure handler: the strategy, the budget, the `retry` event — no sleeper -/

theorem grantRetry_k (cfg : Cfg) (tl : Bool) (c : Classification) (a : Nat) (cause : Cause) (e : Option Exn)
    (key : SKey) (kind : SKind) (rem : Nat) :
    ⦃fun w => ⌜badN cfg w.trace = false⌝⦄ grantRetry cfg tl c a cause e key kind rem ⦃keepOk cfg⦄ := by
  have h1 := fun ctx => callStrategy_k cfg key kind ctx
  have h2 := budgetConsume_k cfg
  have h3 := fun sl k ex cs cl => emit_k cfg tl .retry a sl k ex none cs cl
  have h4 := stopWith_k cfg tl .budgetExhausted .budgetExhausted a c.klass e cause
  mvcgen -leave -trivial [grantRetry, getRS, modifyRS, h1, h2, h3, h4]
  vc_intro
  all_goals assumption

theorem handleFailure2_k (cfg : Cfg) (tl : Bool) (c : Classification) (a : Nat) (cause : Cause) (e : Option Exn) :
    ⦃fun w => ⌜badN cfg w.trace = false⌝⦄ handleFailure2 cfg tl c a cause e ⦃keepOk cfg⦄ := by
  have h1 := fun key kind rem => grantRetry_k cfg tl c a cause e key kind rem
  have h2 := fun sr ev => stopWith_k cfg tl sr ev a c.klass e cause
  have h3 := fun key => stratRecordFailure_k cfg key c.klass
  mvcgen -leave -trivial [handleFailure2, elapsed, modifyRS, h1, h2, h3]
  vc_intro
  all_goals assumption

theorem handleUnknown_k (cfg : Cfg) (tl : Bool) (c : Classification) (a : Nat) (cause : Cause) (e : Option Exn) :
    ⦃fun w => ⌜badN cfg w.trace = false⌝⦄ handleUnknown cfg tl c a cause e ⦃keepOk cfg⦄ := by
  have h1 := handleFailure2_k cfg tl c a cause e
  have h2 := fun sr ev => stopWith_k cfg tl sr ev a c.klass e cause
  mvcgen -leave -trivial [handleUnknown, getRS, modifyRS, h1, h2]
  vc_intro
  all_goals assumption

theorem handleFailure1_k (cfg : Cfg) (tl : Bool) (c : Classification) (a : Nat) (cause : Cause) (e : Option Exn) :
    ⦃fun w => ⌜badN cfg w.trace = false⌝⦄ handleFailure1 cfg tl c a cause e ⦃keepOk cfg⦄ := by
  have h1 := handleFailure2_k cfg tl c a cause e
  have h2 := handleUnknown_k cfg tl c a cause e
  have h3 := fun sr ev => stopWith_k cfg tl sr ev a c.klass e cause
  mvcgen -leave -trivial [handleFailure1, getRS, h1, h2, h3]
  vc_intro
  all_goals assumption

theorem handleFailure_k (cfg : Cfg) (tl : Bool) (c : Classification) (a : Nat) (cause : Cause) (e : Option Exn)
    (r : Option Nat) :
    ⦃fun w => ⌜badN cfg w.trace = false⌝⦄ handleFailure cfg tl c a cause e r ⦃keepOk cfg⦄ := by
  have h1 := handleFailure1_k cfg tl c a cause e
  mvcgen -leave -trivial [handleFailure, Retry.recordFailure, modifyRS, h1]
  vc_intro
  all_goals assumption

theorem handleException_k (cfg : Cfg) (tl : Bool) (e : Exn) (a : Nat) :
    ⦃fun w => ⌜badN cfg w.trace = false⌝⦄ handleException cfg tl e a ⦃keepOk cfg⦄ := by
  have h1 := callClassifier_k cfg e
  have h2 := fun c => handleFailure_k cfg tl c a .exception (some e) none
  mvcgen -leave -trivial [handleException, h1, h2]
  vc_intro
  all_goals assumption

theorem finalizeAttempt_k (cfg : Cfg) (tl : Bool) (a : Nat) (d : Decision) (act : Option SleepDecision)
    (cls : Option Classification) (e : Option Exn) (r : Option Nat) (c : Option Cause) :
    ⦃fun w => ⌜badN cfg w.trace = false⌝⦄ finalizeAttempt cfg tl a d act cls e r c ⦃keepOk cfg⦄ := by
  have h1 := fun sr => setStop_k cfg sr
  have h2 := fun ev k ex st cs => emit_k cfg tl ev a 0 k ex st cs none
  mvcgen -leave -trivial [finalizeAttempt, getRS, elapsed, h1, h2]
  vc_intro
  all_goals assumption

/-- `_sync_failure_outcome`: a granted retry's sleep starts right after the poll -/
theorem failureOutcome_k (cfg : Cfg) (tl : Bool) (a : Nat) (d : Decision) (cls : Option Classification)
    (e : Option Exn) (r : Option Nat) (c : Option Cause) :
    ⦃fun w => ⌜badN cfg w.trace = false ∧ (d.isRaise = false → Rdy cfg w.trace)⌝⦄
    failureOutcome cfg tl a d cls e r c ⦃keepOk cfg⦄ := by
  have h1 := fun d act => finalizeAttempt_k cfg tl a d act cls e r c
  have h2 := fun s ctx => sleepAction_k cfg tl a s ctx
  mvcgen -leave -trivial [failureOutcome, h1, h2]
  vc_intro
  case vc1 => exact (‹_ ∧ _›).1
  case vc2 => exact (‹_ ∧ (_ → _)›).2 rfl
  all_goals assumption


theorem callExceptionPath_k (cfg : Cfg) (a : Nat) (e : Exn) :
    ⦃fun w => ⌜badN cfg w.trace = false⌝⦄ callExceptionPath cfg a e ⦃keepOk cfg⦄ := by
  have h1 := checkAbort_k cfg false a
  have h2 := handleException_k cfg false e a
  have h3 := fun d cls => failureOutcome_k cfg false a d cls (some e) none (some .exception)
  have h4 := fun o => callAttemptEndFromOutcome_k cfg a o
  have h5 := fun act => deliverCall_k cfg act (some e) default
  mvcgen -leave -trivial [callExceptionPath, getRS, modifyAS, h1, h2, h3, h4, h5]
  vc_intro
  case vc2 => exact Rdy.ok ‹_›
  case vc3 => exact ok_raise ‹_› ‹_›
  case vc7 => exact Rdy.imp ‹_› _
  all_goals assumption

theorem callResultFailure_k (cfg : Cfg) (a x : Nat) (c : Classification) :
    ⦃fun w => ⌜badN cfg w.trace = false⌝⦄ callResultFailure cfg a x c ⦃keepOk cfg⦄ := by
  have h1 := checkAbort_k cfg false a
  have h2 := handleFailure_k cfg false c a .result none (some x)
  have h3 := fun d cls => failureOutcome_k cfg false a d cls none (some x) (some .result)
  have h4 := fun o => callAttemptEndFromOutcome_k cfg a o
  have h5 := fun act fb => deliverCall_k cfg act none fb
  mvcgen -leave -trivial [callResultFailure, getRS, modifyAS, h1, h2, h3, h4, h5]
  vc_intro
  case vc2 => exact Rdy.ok ‹_›
  case vc3 => exact ok_raise ‹_› ‹_›
  case vc7 => exact Rdy.imp ‹_› _
  all_goals assumption

theorem callResultPath_k (cfg : Cfg) (a x : Nat) :
    ⦃fun w => ⌜badN cfg w.trace = false⌝⦄ callResultPath cfg a x ⦃keepOk cfg⦄ := by
  have h1 := shouldClassifyResult_k cfg x
  have h2 := handleSuccessAttemptEnd_k cfg false a x
  have h3 := fun c => callResultFailure_k cfg a x c
  mvcgen -leave -trivial [callResultPath, h1, h2, h3]
  vc_intro
  all_goals assumption

/-- One iteration of the loop of `_run_sync_call` (the `except` ladder around `func()` included). -/
theorem callAttempt_k (cfg : Cfg) (a : Nat) :
    ⦃fun w => ⌜badN cfg w.trace = false⌝⦄ callAttempt cfg a ⦃keepOk cfg⦄ := by
  have h1 := fun n => checkAbort_k cfg false n
  have h2 := callAttemptStart_k cfg a
  have h3 := invokeOp_k cfg a
  have h4 := fun x => callResultPath_k cfg a x
  have h5 := fun e => handleAbortAttemptEnd_k cfg a e
  have h6 := emitAbortedOnce_k cfg false a
  have h7 := fun e => callExceptionPath_k cfg a e
  mvcgen -leave -trivial [callAttempt, callOpHandler, modifyAS, h1, h2, h3, h4, h5, h6, h7]
  vc_intro
  case vc2 => exact Rdy.ok ‹_›
  all_goals assumption

theorem callLoop_k (cfg : Cfg) : ∀ (fuel a : Nat),
    ⦃fun w => ⌜badN cfg w.trace = false⌝⦄ callLoop cfg fuel a ⦃keepOk cfg⦄ := by
  intro fuel
  induction fuel with
  | zero =>
    intro a
    have h1 := raiseExhaustedCall_k cfg
    mvcgen -leave -trivial [callLoop, h1]
    vc_intro
    all_goals assumption
  | succ f ih =>
    intro a
    have h1 := callAttempt_k cfg a
    have h2 := ih (a + 1)
    mvcgen -leave -trivial [callLoop, h1, h2]
    vc_intro
    all_goals assumption

theorem runCall_k (cfg : Cfg) :
    ⦃fun w => ⌜badN cfg w.trace = false⌝⦄ runCall cfg ⦃keepOk cfg⦄ := by
  have h2 := callLoop_k cfg cfg.maxAttempts 1
  mvcgen -leave -trivial [runCall, initState, h2]
  vc_intro
  all_goals assumption

theorem execAbortExit_k (cfg : Cfg) (tl : Bool) (a : Nat) (e : Exn) :
    ⦃fun w => ⌜badN cfg w.trace = false⌝⦄ execAbortExit cfg tl a e ⦃keepOk cfg⦄ := by
  have h1 := handleAbortAttemptEnd_k cfg a e
  have h2 := fun n => abortOutcome_k cfg tl n
  mvcgen -leave -trivial [execAbortExit, h1, h2]
  vc_intro
  all_goals assumption

theorem execExceptionPath3_k (cfg : Cfg) (tl : Bool) (a : Nat) (e : Exn) (d : Decision) :
    ⦃fun w => ⌜badN cfg w.trace = false ∧ (d.isRaise = false → Rdy cfg w.trace)⌝⦄
    execExceptionPath3 cfg tl a e d ⦃keepOk cfg⦄ := by
  have h3 := fun cls => failureOutcome_k cfg tl a d cls (some e) none (some .exception)
  have h4 := fun o => callAttemptEndFromOutcome_k cfg a o
  have h5 := fun act o => deliverExecute_k cfg tl act o
  mvcgen -leave -trivial [execExceptionPath3, getRS, modifyAS, h3, h4, h5]
  vc_intro
  all_goals assumption

theorem execExceptionPath2_k (cfg : Cfg) (tl : Bool) (a : Nat) (e : Exn) :
    ⦃fun w => ⌜badN cfg w.trace = false⌝⦄ execExceptionPath2 cfg tl a e ⦃keepOk cfg⦄ := by
  have h2 := handleException_k cfg tl e a
  have h3 := fun d => execExceptionPath3_k cfg tl a e d
  have h4 := checkAbortCaught_k cfg tl a
  have h5 := execAbortExit_k cfg tl a e
  mvcgen -leave -trivial [execExceptionPath2, getRS, modifyAS, h2, h3, h4, h5]
  vc_intro
  case vc2 => exact ok_raise ‹_› ‹_›
  case vc4 => exact (‹_ ∧ _›).1
  case vc5 => exact ⟨(‹_ ∧ _›).1, fun _ => (‹_ ∧ (_ → _)›).2 (Bool.eq_false_iff.mpr ‹_›)⟩
  all_goals assumption

theorem execExceptionPath_k (cfg : Cfg) (tl : Bool) (a : Nat) (e : Exn) :
    ⦃fun w => ⌜badN cfg w.trace = false⌝⦄ execExceptionPath cfg tl a e ⦃keepOk cfg⦄ := by
  have h3 := execExceptionPath2_k cfg tl a e
  have h4 := checkAbortCaught_k cfg tl a
  have h5 := execAbortExit_k cfg tl a e
  mvcgen -leave -trivial [execExceptionPath, modifyAS, h3, h4, h5]
  vc_intro
  case vc2 => exact (‹_ ∧ _›).1
  case vc3 => exact (‹_ ∧ _›).1
  all_goals assumption

theorem execResultFailure_k (cfg : Cfg) (tl : Bool) (a x : Nat) (c : Classification) :
    ⦃fun w => ⌜badN cfg w.trace = false⌝⦄ execResultFailure cfg tl a x c ⦃keepOk cfg⦄ := by
  have h1 := checkAbort_k cfg tl a
  have h2 := handleFailure_k cfg tl c a .result none (some x)
  have h3 := fun d cls => failureOutcome_k cfg tl a d cls none (some x) (some .result)
  have h4 := fun o => callAttemptEndFromOutcome_k cfg a o
  have h5 := fun act o => deliverExecute_k cfg tl act o
  mvcgen -leave -trivial [execResultFailure, getRS, modifyAS, h1, h2, h3, h4, h5]
  vc_intro
  case vc2 => exact Rdy.ok ‹_›
  case vc3 => exact ok_raise ‹_› ‹_›
  case vc7 => exact Rdy.imp ‹_› _
  all_goals assumption

theorem execResultPath_k (cfg : Cfg) (tl : Bool) (a x : Nat) :
    ⦃fun w => ⌜badN cfg w.trace = false⌝⦄ execResultPath cfg tl a x ⦃keepOk cfg⦄ := by
  have h1 := shouldClassifyResult_k cfg x
  have h2 := handleSuccessAttemptEnd_k cfg tl a x
  have h3 := fun c => execResultFailure_k cfg tl a x c
  have h4 := fun ok val n ns => buildOutcome_k cfg ok val n ns
  mvcgen -leave -trivial [execResultPath, h1, h2, h3, h4]
  vc_intro
  all_goals assumption

theorem execPre_k (cfg : Cfg) (tl : Bool) (a : Nat) :
    ⦃fun w => ⌜badN cfg w.trace = false⌝⦄ execPre cfg tl a ⦃keepOk cfg⦄ := by
  have h1 := fun n => checkAbort_k cfg tl n
  have h2 := callAttemptStart_k cfg a
  have h3 := invokeOp_k cfg a
  mvcgen -leave -trivial [execPre, modifyAS, h1, h2, h3]
  vc_intro
  case vc2 => exact Rdy.ok ‹_›
  all_goals assumption

theorem execHandler_k (cfg : Cfg) (tl : Bool) (a : Nat) (e : Exn) :
    ⦃fun w => ⌜badN cfg w.trace = false⌝⦄ execHandler cfg tl a e ⦃keepOk cfg⦄ := by
  have h3 := execAbortExit_k cfg tl a e
  have h4 := execExceptionPath_k cfg tl a e
  mvcgen -leave -trivial [execHandler, h3, h4]
  vc_intro
  all_goals assumption

theorem execReturnedHandler_k (cfg : Cfg) (tl : Bool) (a : Nat) (e : Exn) :
    ⦃fun w => ⌜badN cfg w.trace = false⌝⦄ execReturnedHandler cfg tl a e ⦃keepOk cfg⦄ := by
  have h3 := execAbortExit_k cfg tl a e
  mvcgen -leave -trivial [execReturnedHandler, h3]
  vc_intro
  all_goals assumption

theorem execAttempt_k (cfg : Cfg) (tl : Bool) (a : Nat) :
    ⦃fun w => ⌜badN cfg w.trace = false⌝⦄ execAttempt cfg tl a ⦃keepOk cfg⦄ := by
  have h1 := execPre_k cfg tl a
  have h2 := fun x => execResultPath_k cfg tl a x
  have h3 := fun e => execHandler_k cfg tl a e
  have h4 := fun e => execReturnedHandler_k cfg tl a e
  mvcgen -leave -trivial [execAttempt, h1, h2, h3, h4]
  vc_intro
  all_goals assumption

theorem execLoop_k (cfg : Cfg) (tl : Bool) : ∀ (fuel a : Nat),
    ⦃fun w => ⌜badN cfg w.trace = false⌝⦄ execLoop cfg tl fuel a ⦃keepOk cfg⦄ := by
  intro fuel
  induction fuel with
  | zero =>
    intro a
    have h1 := buildExhaustedOutcome_k cfg tl
    mvcgen -leave -trivial [execLoop, h1]
    vc_intro
    all_goals assumption
  | succ f ih =>
    intro a
    have h1 := execAttempt_k cfg tl a
    have h2 := ih (a + 1)
    mvcgen -leave -trivial [execLoop, h1, h2]
    vc_intro
    all_goals assumption

theorem runExecute_k (cfg : Cfg) :
    ⦃fun w => ⌜badN cfg w.trace = false⌝⦄ runExecute cfg ⦃keepOk cfg⦄ := by
  have h2 := execLoop_k cfg cfg.timeline cfg.maxAttempts 1
  mvcgen -leave -trivial [runExecute, initState, h2]
  vc_intro
  all_goals assumption


/-! ### policy level: nothing around the loop calls the sleeper -/

theorem shell_ns : ∀ k, shellK k = true → nsK k = true := by
  intro k; cases k <;> simp [shellK, nsK]

theorem admit_ns : ∀ k, admitK k = true → nsK k = true := by
  intro k; cases k <;> simp [admitK, nsK]

theorem call_k (cfg : Cfg) : ⦃fun w => ⌜badN cfg w.trace = false⌝⦄ Policy.call cfg ⦃keepOk cfg⦄ := by
  have hP := fun w w' (h : Foot admitK w w') (hi : badN cfg w.trace = false) =>
    (bad_foot cfg (h.mono admit_ns)).trans hi
  have hI := fun w w' (h : Foot shellK w w') (hi : badN cfg w.trace = false) =>
    (bad_foot cfg (h.mono shell_ns)).trans hi
  cases hret : cfg.hasRetry
  · exact call_nr_frame cfg hP hI (fun _ h => h) hret (invokeOp_k cfg 1)
  · exact call_retry_frame cfg (fun w w' h => hP w w' (h.mono admitK_of_allowK)) hI (fun _ h => h) hret (runCall_k cfg)

theorem execute_k (cfg : Cfg) : ⦃fun w => ⌜badN cfg w.trace = false⌝⦄ Policy.execute cfg ⦃keepOk cfg⦄ := by
  have hP := fun w w' (h : Foot admitK w w') (hi : badN cfg w.trace = false) =>
    (bad_foot cfg (h.mono admit_ns)).trans hi
  have hI := fun w w' (h : Foot shellK w w') (hi : badN cfg w.trace = false) =>
    (bad_foot cfg (h.mono shell_ns)).trans hi
  cases hret : cfg.hasRetry
  · exact execute_nr_frame cfg hP hI (fun _ h => h) hret (invokeOp_k cfg 1)
  · exact execute_retry_frame cfg (fun w w' h => hP w w' (h.mono admitK_of_allowK)) hI (fun _ h => h) hret (runExecute_k cfg)

/-- in every run of every entry point (with or without a retry component), no sleep starts without a
    fresh poll -/
theorem never_bad (cfg : Cfg) (e : Entry) (w : World) : badN cfg (runEntry cfg e w).2.trace = false := by
  cases e with
  | call => exact toRes_of_triple (Q := fun _ w => badN cfg w.trace = false) (runCall_k cfg) _ rfl
  | execute => exact toResO_of_triple (Q := fun _ w => badN cfg w.trace = false) _ (runExecute_k cfg) _ rfl
  | pcall => exact toRes_of_triple (Q := fun _ w => badN cfg w.trace = false) (call_k cfg) _ rfl
  | pexecute => exact toResO_of_triple (Q := fun _ w => badN cfg w.trace = false) _ (execute_k cfg) _ rfl

/--
**C13, fresh poll (tight).**  For every configuration, every entry point and every world: in the run's
log, between a `.sleeper` exchange and the last `abort_if` poll before it there is nothing but the sleep
handler and the before-sleep hook — in particular the poll was made after the strategy computed the
delay, after the budget was consulted and after the `retry` event was reported.
-/
theorem poll_tight_hold (cfg : Cfg) (e : Entry) (w : World) :
    Mon.C13.pollFreshTight cfg e (runEntry cfg e w).2.trace.reverse (runEntry cfg e w).1 = true := by
  have := never_bad cfg e w
  simp only [badN] at this
  simp only [pollFreshTight, pollFreshR, run_reverse, this, Bool.not_false, Bool.or_true]

/-- **C13, fresh poll (late).**  The poll that precedes a sleep was made after the strategy, the budget
    and the `retry` event's metric / log hooks. -/
theorem poll_late_hold (cfg : Cfg) (e : Entry) (w : World) :
    Mon.C13.pollFreshLate cfg e (runEntry cfg e w).2.trace.reverse (runEntry cfg e w).1 = true :=
  pollFreshR_mono grantReq_tight cfg e _ _ (poll_tight_hold cfg e w)

/-- **C13, fresh poll.**  Every backoff sleep is preceded by an abort poll made AFTER the delay of that
    retry was computed. -/
theorem poll_fresh_hold (cfg : Cfg) (e : Entry) (w : World) :
    Mon.C13.pollFresh cfg e (runEntry cfg e w).2.trace.reverse (runEntry cfg e w).1 = true := by
  rw [pollFresh_eq]
  exact pollFreshR_mono stratReq_grant cfg e _ _ (poll_late_hold cfg e w)

/-- `poll_fresh_hold` for every call in every script of calls and clock advances on ONE policy object. -/
theorem poll_fresh_hold_script (cfg : Cfg) : ∀ (steps : List Step) (w : World),
    ∀ l ∈ (runScript cfg steps w).1, Mon.C13.pollFresh cfg l.entry l.trace l.res = true :=
  forall_script (P := fun e t r => Mon.C13.pollFresh cfg e t r = true) cfg (poll_fresh_hold cfg)

theorem poll_tight_hold_script (cfg : Cfg) : ∀ (steps : List Step) (w : World),
    ∀ l ∈ (runScript cfg steps w).1, Mon.C13.pollFreshTight cfg l.entry l.trace l.res = true :=
  forall_script (P := fun e t r => Mon.C13.pollFreshTight cfg e t r = true) cfg (poll_tight_hold cfg)


/-! ### the monitors can say no (tests, not theorems) -/

def ctxE : BackoffCtx := ⟨1, .transient, none, none, 60, .exception⟩
def ctxR : BackoffCtx := ⟨1, .transient, none, none, 60, .result⟩

/-- a log (exception path) whose only poll after the attempt precedes the strategy -/
def dropped : Trace :=
  [(.abortIf, .bool false 0), (.op 1, .raise (.ordinary 0 .transient) 0),
   (.classify "o0", .klass ⟨.transient, none⟩ 0), (.abortIf, .bool false 0),
   (.strategy .default .ctx ctxE, .delay (.fin 5) 0), (.sleeper .dflt 5, .unit 5)]

/-- the same log with the poll the library makes right before the sleep -/
def kept : Trace :=
  [(.abortIf, .bool false 0), (.op 1, .raise (.ordinary 0 .transient) 0),
   (.classify "o0", .klass ⟨.transient, none⟩ 0), (.abortIf, .bool false 0),
   (.strategy .default .ctx ctxE, .delay (.fin 5) 0), (.abortIf, .bool false 0), (.sleeper .dflt 5, .unit 5)]

/-- `Mon.C13.ok`'s fold sees nothing wrong with `dropped` -/
example : (Mon.C13.run { abortIf := true } dropped).bad = false := by decide

example : Mon.C13.pollFresh { abortIf := true } .call dropped (.raised .keyboardInterrupt) = false := by decide

example : Mon.C13.pollFresh { abortIf := true } .call kept (.raised .keyboardInterrupt) = true := by decide

example : Mon.C13.pollFreshTight { abortIf := true } .call kept (.raised .keyboardInterrupt) = true := by decide

/-- the same without the poll before the attempt (`Mon.C13.ok` objects to that, so this is about
    `pollFresh` only) -/
example : Mon.C13.pollFresh { abortIf := true } .call
    [(.op 1, .raise (.ordinary 0 .transient) 0), (.classify "o0", .klass ⟨.transient, none⟩ 0),
     (.abortIf, .bool false 0), (.strategy .default .ctx ctxE, .delay (.fin 5) 0), (.sleeper .dflt 5, .unit 5)]
    (.raised .keyboardInterrupt) = false := by decide

example : Mon.C13.pollFresh { abortIf := true } .call
    [(.op 1, .raise (.ordinary 0 .transient) 0), (.classify "o0", .klass ⟨.transient, none⟩ 0),
     (.abortIf, .bool false 0), (.strategy .default .ctx ctxE, .delay (.fin 5) 0), (.abortIf, .bool false 0),
     (.sleeper .dflt 5, .unit 5)]
    (.raised .keyboardInterrupt) = true := by decide

/-- the result-classifier path (where the library polls twice after the operation returned), a whole
    run: `Mon.C13.ok` ACCEPTS the log without the second poll, `pollFresh` rejects it -/
def droppedR : Trace :=
  [(.abortIf, .bool false 0), (.op 1, .value 5 0), (.resultClassify 5, .klass ⟨.transient, none⟩ 0),
   (.abortIf, .bool false 0), (.strategy .default .ctx ctxR, .delay (.fin 5) 0), (.sleeper .dflt 5, .unit 5),
   (.abortIf, .bool false 0), (.op 2, .value 7 0), (.resultClassify 7, .noFailure 0)]

def keptR : Trace :=
  [(.abortIf, .bool false 0), (.op 1, .value 5 0), (.resultClassify 5, .klass ⟨.transient, none⟩ 0),
   (.abortIf, .bool false 0), (.strategy .default .ctx ctxR, .delay (.fin 5) 0), (.abortIf, .bool false 0),
   (.sleeper .dflt 5, .unit 5),
   (.abortIf, .bool false 0), (.op 2, .value 7 0), (.resultClassify 7, .noFailure 0)]

example : Mon.C13.ok { abortIf := true, resultClassifier := true } .call droppedR (.ret 7) = true := by decide

example : Mon.C13.pollFresh { abortIf := true, resultClassifier := true } .call droppedR (.ret 7) = false := by
  decide

example : Mon.C13.pollFresh { abortIf := true, resultClassifier := true } .call keptR (.ret 7) = true := by decide

/-- the model makes the second poll: the result-classifier path polls between the verdict and the
    recording of the failure, and again after the strategy (the sleeper is then interrupted) -/
example :
    (runEntry { abortIf := true, resultClassifier := true } .call
      { answers := [.bool false 0, .value 5 0, .klass ⟨.transient, none⟩ 0, .bool false 0, .delay (.fin 5) 0,
                    .bool false 0, .raise .keyboardInterrupt 0] }).2.trace.reverse.map (·.1.kind)
      = [.abortIf, .op, .resultClassify, .abortIf, .strategy, .abortIf, .sleeper] := by decide

/-- with everything switched on the order of a granted retry in the model is: strategy, budget, the
    `retry` event's metric and log hooks, THE POLL, the sleep handler, the before-sleep hook, the sleeper -/
example :
    (runEntry { abortIf := true, metric := true, log := true, budget := some { maxRetries := 3, window := 100 },
                cHandler := true, cBeforeSleep := true } .call
      { answers := [.bool false 0, .raise (.ordinary 0 .transient) 0, .bool false 0, .klass ⟨.transient, none⟩ 0,
                    .delay (.fin 5) 0, .unit 0, .unit 0, .bool false 0, .decision .sleep 0, .unit 0,
                    .raise .keyboardInterrupt 0] }).2.trace.reverse.map (·.1.kind)
      = [.abortIf, .op, .abortIf, .classify, .strategy, .budgetConsume, .metric, .log, .abortIf, .sleepHandler,
         .beforeSleep, .sleeper] := by decide

/-- the later resets are strictly stronger: a poll made after the strategy but BEFORE the `retry` event is
    fresh for `pollFresh`, stale for `pollFreshLate` … -/
example :
    let t : Trace :=
      [(.abortIf, .bool false 0), (.op 1, .raise (.ordinary 0 .transient) 0),
       (.classify "o0", .klass ⟨.transient, none⟩ 0), (.strategy .default .ctx ctxE, .delay (.fin 5) 0),
       (.abortIf, .bool false 0), (.metric .retry 1 5 {}, .unit 0), (.sleeper .dflt 5, .unit 5)]
    Mon.C13.pollFresh { abortIf := true, metric := true } .call t (.raised .keyboardInterrupt) = true ∧
    Mon.C13.pollFreshLate { abortIf := true, metric := true } .call t (.raised .keyboardInterrupt) = false := by
  decide

/-- a poll followed by anything but the sleep handler / the before-sleep hook is stale for
    `pollFreshTight` only -/
example :
    let t : Trace :=
      [(.abortIf, .bool false 0), (.op 1, .raise (.ordinary 0 .transient) 0),
       (.classify "o0", .klass ⟨.transient, none⟩ 0), (.strategy .default .ctx ctxE, .delay (.fin 5) 0),
       (.abortIf, .bool false 0), (.attemptEnd { attempt := 1, elapsed := 0 }, .unit 0), (.sleeper .dflt 5, .unit 5)]
    Mon.C13.pollFreshLate { abortIf := true } .call t (.raised .keyboardInterrupt) = true ∧
    Mon.C13.pollFreshTight { abortIf := true } .call t (.raised .keyboardInterrupt) = false := by
  decide

/-- accepted by all three: the handler and the hook between the poll and the sleep -/
example :
    Mon.C13.pollFreshTight { abortIf := true, cHandler := true, cBeforeSleep := true } .call
      [(.abortIf, .bool false 0), (.op 1, .raise (.ordinary 0 .transient) 0),
       (.classify "o0", .klass ⟨.transient, none⟩ 0), (.strategy .default .ctx ctxE, .delay (.fin 5) 0),
       (.abortIf, .bool false 0), (.sleepHandler .call ctxE 5, .decision .sleep 0),
       (.beforeSleep .call ctxE 5, .unit 0), (.sleeper .dflt 5, .unit 5)]
      (.raised .keyboardInterrupt) = true := by decide

/-- without `abort_if` there is nothing to poll -/
example : Mon.C13.pollFreshTight {} .call
    [(.op 1, .raise (.ordinary 0 .transient) 0), (.classify "o0", .klass ⟨.transient, none⟩ 0),
     (.strategy .default .ctx ctxE, .delay (.fin 5) 0), (.sleeper .dflt 5, .unit 5)]
    (.raised .keyboardInterrupt) = true := by decide


end Redress.Props.C13Poll

#print axioms Redress.Props.C13Poll.poll_fresh_hold
#print axioms Redress.Props.C13Poll.poll_fresh_hold_script
#print axioms Redress.Props.C13Poll.poll_late_hold
#print axioms Redress.Props.C13Poll.poll_tight_hold
#print axioms Redress.Props.C13Poll.poll_tight_hold_script
