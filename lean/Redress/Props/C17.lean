/-
  Redress.Props.C17 — "Budget and CircuitBreaker are atomic under concurrent threads".

  STATEMENT (properties.jsonl): when several threads use one Budget or one CircuitBreaker
  concurrently, every possible interleaving yields results equal to some sequential ordering of the
  same operations: two racing probes are never both let through, racing failures open the circuit
  exactly once, racing consume() calls never over-grant, and no interleaving deadlocks.

  WHAT IS PROVED HERE.  For the one-mutex calculus of `Redress.Model.Threads`, with no bound on the
  number of threads, the length of their programs or the length of the schedule:
  * `serializable`, `deadlock_free`: every complete fine-grained interleaving of a well-locked
    configuration ends where the coarse semantics (each `acq … rel` block one atomic step, in
    lock-acquisition order) also ends, and no reachable unfinished configuration is stuck;
    `observations_agree`: the coarse execution reads the same values, so it takes the same branches;
  * the tie to the code's lock structure: a configuration each of whose threads runs a sequence of
    paths taken LITERALLY from a list of well-locked shapes is well-locked (`FromShapes`,
    `WL_of_shapes`); instantiated at the list generated from the working tree
    (`Redress.Generated.LockShape.allShapes`, one straight-line shape per control-flow path of each
    public method, a loop body taken 0 times and once, each entry discharged by `decide`) this gives
    `serializable_extracted`, `deadlock_free_extracted`.  A run that takes a loop body more than
    once is not an instance of `FromShapes extractedShapes`; `Redress.Threads.wl_repeat` shows that
    the lock discipline of such a path follows from that of the path with the body taken once, but
    it is not applied here;
  * `linearizable`: for programs that are sequences of operations `local prefix; acq; section; rel`
    whose sections implement atomic operations `f : L → S → L × S`, every complete interleaving
    ends with the locals and shared state of running the `f`s one at a time in SOME order that
    respects each thread's program order (`qexec`);
  * for TWO racing threads with one operation each (`race_two`), the three named consequences
    `racing_probes_exactly_one_allowed`, `racing_failures_open_exactly_once`,
    `racing_consume_never_overgrants`, from sequential facts about the `Breaker` / `Budget` models
    (`seq_two_*`; `seq_probe_in_flight_rejects`, `seq_failures_open_at_most_once` and
    `seq_consume_full_refused` are stated for their own sake, for any number of calls).

  WHAT TIES THIS TO THE PYTHON CODE (not proved, checked on every run): (a) the extractor's
  classification of each source statement as `loc | acq | rel | sh` (`harness/extract_locks.py`),
  validated dynamically at line granularity by the lockset instrumentation of
  `harness/families/threads.py`; (b) "the critical section of `allow` implements `Breaker.allow`"
  etc. — the hypotheses `Implements …` of the racing theorems — which is the sequential correspondence of C06/C07/C10
  (and the linearizability check of the thread explorer).  CPython's scheduler below line granularity
  is not modelled.
-/
import Redress.Lemmas.ThreadsLemmas
import Redress.Generated.LockShape
import Redress.Lemmas.BreakerLemmas
import Redress.Lemmas.BudgetLemmas

namespace Redress.C17
open Redress.Threads

variable {L S : Type}

/-- C17 (atomicity): a well-locked program started with the lock free: any complete interleaving ends
    in a configuration (all thread-local states and the shared state) that the coarse
    (critical-sections-are-atomic) semantics also reaches. -/
theorem serializable (c cf : Conf L S) (sched : List Nat) (hwl : WL c) (h0 : c.holder = none)
    (hexec : exec c sched = some cf) (hterm : Terminal cf) :
    ∃ sched', aexec c sched' = some cf := by
  obtain ⟨sched', h⟩ := simulate sched c cf hwl hexec
  have hwlf : WL cf := wl_exec sched c cf hwl hexec
  have hf : complete cf = cf := by simp [complete, terminal_holder_none cf hwlf hterm]
  have hc : complete c = c := by simp [complete, h0]
  exact ⟨sched', by rw [← hc, ← hf]; exact h⟩

/-- C17 (no deadlock): a well-locked, unfinished configuration always has an enabled thread. -/
theorem deadlock_free (c : Conf L S) (hwl : WL c) (hnt : ¬ Terminal c) :
    ∃ i, (step c i).isSome = true := by
  cases hh : c.holder with
  | some h =>
    refine ⟨h, ?_⟩
    have hw := hwl h
    simp [hh] at hw
    unfold step
    cases hcode : (c.threads h).code with
    | nil => simp [hcode, wlc] at hw
    | cons ins r => cases ins <;> simp_all [wlc]
  | none =>
    have : ∃ i, (c.threads i).code ≠ [] := by
      by_cases hx : ∃ i, (c.threads i).code ≠ []
      · exact hx
      · exact absurd (fun i => by simpa using (not_exists.mp hx i)) hnt
    obtain ⟨i, hi⟩ := this
    refine ⟨i, ?_⟩
    have hw := hwl i
    simp [hh] at hw
    unfold step
    cases hcode : (c.threads i).code with
    | nil => exact absurd hcode hi
    | cons ins r => cases ins <;> simp_all [wlc]

/-- No interleaving deadlocks: every configuration reached by ANY schedule prefix from a well-locked
    configuration is either finished or has an enabled thread. -/
theorem no_deadlock_reachable (c c' : Conf L S) (sched : List Nat) (hwl : WL c)
    (hexec : exec c sched = some c') (hnt : ¬ Terminal c') : ∃ i, (step c' i).isSome = true :=
  deadlock_free c' (wl_exec sched c c' hwl hexec) hnt

/-- Branching programs.  The calculus is straight-line: a thread's `code` is the path it actually
    took through its methods, the `if`/`while` tests being ordinary `loc`/`sh` instructions.  For the
    matching coarse execution to be an execution of the *branching* program too, every test must
    evaluate there as it did in the fine-grained run.  It does: instrument every instruction so that
    it also appends what it read (its local state and, for `sh`, the shared state) to a log in the
    thread-local state (`Cmd.logged`, `Conf.withLogs`).  The instrumented fine run reaches `cf'` =
    `cf` plus the logs (`LoggedOf cf cf'`), and the coarse semantics reaches the very same `cf'`:
    under the coarse schedule every instruction of every thread reads exactly the values it read in
    the fine-grained interleaving, so every branch is decided the same way. -/
theorem observations_agree (c cf : Conf L S) (sched : List Nat) (hwl : WL c) (h0 : c.holder = none)
    (hexec : exec c sched = some cf) (hterm : Terminal cf) :
    ∃ cf' sched', exec c.withLogs sched = some cf' ∧ LoggedOf cf cf' ∧
      aexec c.withLogs sched' = some cf' := by
  obtain ⟨cf', he', hl⟩ := exec_logged sched c cf c.withLogs (loggedOf_withLogs c) hexec
  obtain ⟨sched', ha⟩ := serializable c.withLogs cf' sched
    (WL_logged c c.withLogs (loggedOf_withLogs c) hwl) h0 he' (terminal_logged cf cf' hl hterm)
  exact ⟨cf', sched', he', hl, ha⟩

def FromShapes (shapes : List (List Instr)) (c : Conf L S) : Prop :=
  ∀ i, ∃ ops : List (List Instr), (∀ s ∈ ops, s ∈ shapes) ∧
    (c.threads i).code.map Cmd.instr = ops.flatten

theorem WL_of_shapes (shapes : List (List Instr)) (hsh : ∀ s ∈ shapes, wl false s = true)
    (c : Conf L S) (h0 : c.holder = none) (hc : FromShapes shapes c) : WL c := by
  intro i
  obtain ⟨ops, hops, hcode⟩ := hc i
  have : (c.holder == some i) = false := by simp [h0]
  rw [this, wlc_eq_wl, hcode]
  exact wl_flatten ops (fun s hs => hsh s (hops s hs))

theorem serializable_of_shapes (shapes : List (List Instr)) (hsh : ∀ s ∈ shapes, wl false s = true)
    (c cf : Conf L S) (sched : List Nat) (h0 : c.holder = none) (hc : FromShapes shapes c)
    (hexec : exec c sched = some cf) (hterm : Terminal cf) :
    ∃ sched', aexec c sched' = some cf :=
  serializable c cf sched (WL_of_shapes shapes hsh c h0 hc) h0 hexec hterm

theorem deadlock_free_of_shapes (shapes : List (List Instr)) (hsh : ∀ s ∈ shapes, wl false s = true)
    (c c' : Conf L S) (sched : List Nat) (h0 : c.holder = none) (hc : FromShapes shapes c)
    (hexec : exec c sched = some c') (hnt : ¬ Terminal c') : ∃ i, (step c' i).isSome = true :=
  no_deadlock_reachable c c' sched (WL_of_shapes shapes hsh c h0 hc) hexec hnt

/-- The shapes extracted from the working tree (`Generated/LockShape.lean`), without their labels. -/
def extractedShapes : List (List Instr) := Redress.Generated.LockShape.allShapes.map (·.2)

theorem extractedShapes_wl : ∀ s ∈ extractedShapes, wl false s = true := by
  intro s hs
  simp only [extractedShapes, List.mem_map] at hs
  obtain ⟨p, hp, rfl⟩ := hs
  exact Redress.Generated.LockShape.allShapes_wl p hp

/-- C17 for the code as extracted: ANY number of threads, each running ANY sequence of extracted
    paths of the public operations of `CircuitBreaker` / `Budget` (`FromShapes` asks for literal
    membership in the generated list): every complete interleaving is matched by the
    atomic-sections semantics. -/
theorem serializable_extracted (c cf : Conf L S) (sched : List Nat) (h0 : c.holder = none)
    (hc : FromShapes extractedShapes c) (hexec : exec c sched = some cf) (hterm : Terminal cf) :
    ∃ sched', aexec c sched' = some cf :=
  serializable_of_shapes extractedShapes extractedShapes_wl c cf sched h0 hc hexec hterm

/-- … and no reachable configuration is stuck. -/
theorem deadlock_free_extracted (c c' : Conf L S) (sched : List Nat) (h0 : c.holder = none)
    (hc : FromShapes extractedShapes c) (hexec : exec c sched = some c') (hnt : ¬ Terminal c') :
    ∃ i, (step c' i).isSome = true :=
  deadlock_free_of_shapes extractedShapes extractedShapes_wl c c' sched h0 hc hexec hnt

/-! ## Linearizability: the coarse semantics IS a sequential ordering of whole operations -/

def runLocs : List (L → L) → L → L
  | [], l => l
  | g :: gs, l => runLocs gs (g l)

/-- One operation as it appears in a thread's code: a thread-local prefix (argument validation, clock
    read), then `acq`, then the critical section `body`, which ends with its `rel`. -/
structure OpCode (L S : Type) where
  pre : List (L → L)
  body : List (Cmd L S)

def OpCode.code (o : OpCode L S) : List (Cmd L S) := o.pre.map Cmd.loc ++ Cmd.acq :: o.body

/-- `o` implements the atomic operation `f`: whatever follows, running the prefix and then the
    section up to its `rel` produces exactly `f`'s local result and shared state. -/
def Implements (o : OpCode L S) (f : L → S → L × S) : Prop :=
  ∀ l s rest, finish (runLocs o.pre l) s (o.body ++ rest) = ((f l s).1, (f l s).2, rest)

inductive Prog : List (Cmd L S) → List (L → S → L × S) → Prop
  | nil : Prog [] []
  | cons (o : OpCode L S) (f : L → S → L × S) (rest : List (Cmd L S)) (fs : List (L → S → L × S)) :
      Implements o f → Prog rest fs → Prog (o.code ++ rest) (f :: fs)

/-- The sequential machine: per thread a local state and a queue of atomic operations. -/
structure QConf (L S : Type) where
  locals : Nat → L
  queue : Nat → List (L → S → L × S)
  shared : S

def qstep (q : QConf L S) (i : Nat) : Option (QConf L S) :=
  match q.queue i with
  | [] => none
  | f :: fs =>
    let p := f (q.locals i) q.shared
    some { locals := upd q.locals i p.1, queue := upd q.queue i fs, shared := p.2 }

def qexec (q : QConf L S) : List Nat → Option (QConf L S)
  | [] => some q
  | i :: is => (qstep q i).bind (fun q' => qexec q' is)

/-- The simulation relation between the coarse semantics and the sequential machine, for one thread:
    `t`, possibly in the middle of the local prefix of its next operation, stands for the local
    state `lq` and the queue `ops` of pending atomic operations.  With an operation pending, the
    rest of the prefix and the section compute what `f` computes from `lq`, and what follows is a
    program for the remaining queue. -/
def ThreadStands (t : TState L S) (lq : L) : List (L → S → L × S) → Prop
  | [] => t.code = [] ∧ t.loc = lq
  | f :: fs => ∃ pre body rest, t.code = pre.map Cmd.loc ++ Cmd.acq :: (body ++ rest) ∧
      (∀ s rest', finish (runLocs pre t.loc) s (body ++ rest') = ((f lq s).1, (f lq s).2, rest')) ∧
      Prog rest fs

theorem threadStands_of_prog (l : L) (code : List (Cmd L S)) (ops : List (L → S → L × S))
    (h : Prog code ops) : ThreadStands ⟨l, code⟩ l ops := by
  cases h with
  | nil => exact ⟨rfl, rfl⟩
  | cons o f rest fs hi hp =>
    refine ⟨o.pre, o.body, rest, ?_, ?_, hp⟩
    · simp [OpCode.code]
    · intro s rest'; exact hi l s rest'

def Stands (c : Conf L S) (q : QConf L S) : Prop :=
  c.holder = none ∧ c.shared = q.shared ∧ ∀ i, ThreadStands (c.threads i) (q.locals i) (q.queue i)

/-- A coarse step is a local step of a prefix, invisible to the sequential machine, or a whole
    critical section, which is the thread's next atomic operation. -/
theorem astep_sim (c c' : Conf L S) (q : QConf L S) (i : Nat) (hR : Stands c q)
    (hs : astep c i = some c') : Stands c' q ∨ ∃ q', qstep q i = some q' ∧ Stands c' q' := by
  obtain ⟨hh, hsh, htr⟩ := hR
  have hti := htr i
  cases hq : q.queue i with
  | nil =>
    rw [hq] at hti
    simp [astep, hti.1] at hs
  | cons f fs =>
    rw [hq] at hti
    obtain ⟨pre, body, rest, hcode, himpl, hprog⟩ := hti
    cases pre with
    | nil =>
      right
      simp only [List.map_nil, List.nil_append] at hcode
      simp only [astep, hcode, hh, if_true] at hs
      have hfin := himpl c.shared rest
      simp only [runLocs] at hfin
      refine ⟨{ locals := upd q.locals i (f (q.locals i) q.shared).1, queue := upd q.queue i fs,
                shared := (f (q.locals i) q.shared).2 }, by simp [qstep, hq], ?_⟩
      rw [hfin] at hs
      cases hs
      refine ⟨rfl, ?_, ?_⟩
      · simp [hsh]
      · intro j
        by_cases hj : j = i
        · subst hj
          simp only [upd_same, ← hsh]
          exact threadStands_of_prog _ _ _ hprog
        · simp only [upd, hj, if_false]
          exact htr j
    | cons g pre' =>
      left
      simp only [List.map_cons, List.cons_append] at hcode
      simp only [astep, hcode] at hs
      cases hs
      refine ⟨hh, hsh, ?_⟩
      intro j
      by_cases hj : j = i
      · subst hj
        simp only [upd_same, hq]
        exact ⟨pre', body, rest, rfl, fun s rest' => by simpa [runLocs] using himpl s rest', hprog⟩
      · simp only [upd, hj, if_false]
        exact htr j

/-- A coarse execution is matched by the sequential machine running whole operations in the order
    in which the sections were entered. -/
theorem aexec_sim (sched : List Nat) (c cf : Conf L S) (q : QConf L S) (hR : Stands c q)
    (h : aexec c sched = some cf) : ∃ order qf, qexec q order = some qf ∧ Stands cf qf := by
  induction sched generalizing c q with
  | nil => cases h; exact ⟨[], q, rfl, hR⟩
  | cons i is ih =>
    obtain ⟨c', hs, h⟩ := Option.bind_eq_some_iff.mp h
    rcases astep_sim c c' q i hR hs with hR' | ⟨q', hq', hR'⟩
    · exact ih c' q hR' h
    · obtain ⟨order, qf, hqe, hRf⟩ := ih c' q' hR' h
      exact ⟨i :: order, qf, by simp [qexec, hq', hqe], hRf⟩

/-- C17, "every possible interleaving yields results equal to some sequential ordering of the same
    operations": for ANY number of threads whose programs are sequences of operations
    (`prefix; acq; section; rel`) implementing the atomic operations `q.queue i`, every complete
    fine-grained interleaving ends with the thread-local results and the shared state obtained by
    running those atomic operations one at a time in some order `order` (each thread's operations in
    program order, since `qstep` pops the head of the thread's queue). -/
theorem linearizable (c cf : Conf L S) (q : QConf L S) (sched : List Nat)
    (hwl : WL c) (h0 : c.holder = none)
    (hprog : ∀ i, Prog (c.threads i).code (q.queue i))
    (hloc : ∀ i, (c.threads i).loc = q.locals i) (hsh : c.shared = q.shared)
    (hexec : exec c sched = some cf) (hterm : Terminal cf) :
    ∃ order qf, qexec q order = some qf ∧ (∀ i, qf.queue i = []) ∧
      (∀ i, (cf.threads i).loc = qf.locals i) ∧ cf.shared = qf.shared := by
  obtain ⟨sched', ha⟩ := serializable c cf sched hwl h0 hexec hterm
  have hR : Stands c q := ⟨h0, hsh, fun i => by
    have := threadStands_of_prog (c.threads i).loc (c.threads i).code (q.queue i) (hprog i)
    rw [← hloc i]; exact this⟩
  obtain ⟨order, qf, hqe, _, hshf, htrf⟩ := aexec_sim sched' c cf q hR ha
  -- a thread with an operation left would have code left
  have hq : ∀ i, qf.queue i = [] := fun i => by
    have := htrf i
    cases hq : qf.queue i with
    | nil => rfl
    | cons f fs =>
      rw [hq] at this
      obtain ⟨pre, body, rest, hcode, _⟩ := this
      rw [hterm i] at hcode
      cases pre <;> simp at hcode
  refine ⟨order, qf, hqe, hq, fun i => ?_, hshf⟩
  have := htrf i
  rw [hq i] at this
  exact this.2

/-! ### two racing operations: the only sequential orders are 0;1 and 1;0 -/

theorem forall_two {P : Nat → Prop} (h0 : P 0) (h1 : P 1) (h2 : ∀ n, P (n + 2)) : ∀ i, P i
  | 0 => h0
  | 1 => h1
  | n + 2 => h2 n

theorem qexec_all_done (q qf : QConf L S) (order : List Nat) (hd : ∀ i, q.queue i = [])
    (he : qexec q order = some qf) : qf = q := by
  cases order with
  | nil => simp [qexec] at he; exact he.symm
  | cons i is => simp [qexec, qstep, hd i] at he

theorem qexec_one (q qf : QConf L S) (order : List Nat) (j : Nat) (f : L → S → L × S)
    (hj : q.queue j = [f]) (hr : ∀ i, i ≠ j → q.queue i = [])
    (he : qexec q order = some qf) (hd : ∀ i, qf.queue i = []) :
    qf.locals = upd q.locals j (f (q.locals j) q.shared).1 ∧
    qf.shared = (f (q.locals j) q.shared).2 := by
  cases order with
  | nil =>
    simp [qexec] at he; subst he
    rw [hd j] at hj; cases hj
  | cons i is =>
    by_cases hij : i = j
    · subst hij
      simp only [qexec, qstep, hj, Option.bind_some] at he
      have hall : ∀ k, (upd q.queue i ([] : List (L → S → L × S))) k = [] := by
        intro k
        by_cases hk : k = i
        · subst hk; simp
        · simp [upd, hk, hr k hk]
      have := qexec_all_done _ qf is hall he
      subst this
      exact ⟨rfl, rfl⟩
    · simp [qexec, qstep, hr i hij] at he

theorem qexec_then (q qf : QConf L S) (is : List Nat) (i j : Nat) (fi fj : L → S → L × S)
    (hij : j ≠ i) (hi : q.queue i = [fi]) (hj : q.queue j = [fj])
    (hr : ∀ k, k ≠ i → k ≠ j → q.queue k = [])
    (he : qexec q (i :: is) = some qf) (hd : ∀ k, qf.queue k = []) :
    qf.locals i = (fi (q.locals i) q.shared).1 ∧
    qf.locals j = (fj (q.locals j) (fi (q.locals i) q.shared).2).1 ∧
    qf.shared = (fj (q.locals j) (fi (q.locals i) q.shared).2).2 := by
  simp only [qexec, qstep, hi, Option.bind_some] at he
  obtain ⟨hl, hs⟩ := qexec_one _ qf is j fj (by simp [upd, hij, hj]) (fun k hk => by
    by_cases hki : k = i
    · subst hki; simp
    · simp only [upd, hki, if_false]; exact hr k hki hk) he hd
  exact ⟨by simp [hl, upd, hij.symm], by simp [hl, upd, hij], by simpa [upd, hij] using hs⟩

/-- Two racing threads, one operation each (thread 0 runs an implementation of `f0`, thread 1 of
    `f1`, every other thread is idle): every complete fine-grained interleaving produces the results
    of `f0;f1` or of `f1;f0`. -/
theorem race_two (c cf : Conf L S) (sched : List Nat) (o0 o1 : OpCode L S) (f0 f1 : L → S → L × S)
    (hwl : WL c) (h0 : c.holder = none)
    (hc0 : (c.threads 0).code = o0.code) (hc1 : (c.threads 1).code = o1.code)
    (hrest : ∀ i, 2 ≤ i → (c.threads i).code = [])
    (hi0 : Implements o0 f0) (hi1 : Implements o1 f1)
    (hexec : exec c sched = some cf) (hterm : Terminal cf) :
    let l0 := (c.threads 0).loc
    let l1 := (c.threads 1).loc
    ((cf.threads 0).loc = (f0 l0 c.shared).1 ∧
     (cf.threads 1).loc = (f1 l1 (f0 l0 c.shared).2).1 ∧
     cf.shared = (f1 l1 (f0 l0 c.shared).2).2)
    ∨
    ((cf.threads 1).loc = (f1 l1 c.shared).1 ∧
     (cf.threads 0).loc = (f0 l0 (f1 l1 c.shared).2).1 ∧
     cf.shared = (f0 l0 (f1 l1 c.shared).2).2) := by
  intro l0 l1
  let q : QConf L S :=
    { locals := fun i => (c.threads i).loc
      queue := fun i => match i with | 0 => [f0] | 1 => [f1] | _ => []
      shared := c.shared }
  have single : ∀ (o : OpCode L S) f, Implements o f → Prog o.code [f] := fun o f hi => by
    simpa using Prog.cons o f [] [] hi Prog.nil
  have hprog : ∀ i, Prog (c.threads i).code (q.queue i) :=
    forall_two (hc0 ▸ single o0 f0 hi0) (hc1 ▸ single o1 f1 hi1)
      fun n => hrest (n + 2) (by omega) ▸ Prog.nil
  obtain ⟨order, qf, hqe, hd, hl, hs⟩ :=
    linearizable c cf q sched hwl h0 hprog (fun _ => rfl) rfl hexec hterm
  rw [hl 0, hl 1, hs]
  -- the sequential machine can only run them as 0;1 or 1;0
  have hr : ∀ k, k ≠ 0 → k ≠ 1 → q.queue k = [] :=
    forall_two (fun h _ => absurd rfl h) (fun _ h => absurd rfl h) fun _ _ _ => rfl
  cases order with
  | nil => cases hqe; exact nomatch hd 0
  | cons i is =>
    match i, hqe with
    | 0, he => exact .inl (qexec_then q qf is 0 1 f0 f1 (by decide) rfl rfl hr he hd)
    | 1, he =>
      exact .inr (qexec_then q qf is 1 0 f1 f0 (by decide) rfl rfl (fun k a b => hr k b a) he hd)
    | n + 2, he => cases he

section Sequential
open Redress

/-- OPEN at or past the recovery boundary: of two consecutive `allow()` calls exactly the first is
    allowed (as the half-open probe); the second is rejected and the probe stays in flight. -/
theorem seq_two_probes_from_open (cfg : Breaker.Cfg) (s : Breaker.St) (t now0 now1 : Nat)
    (hs : s.state = .opened) (ht : s.openedAt = some t) (hb : t + cfg.recovery ≤ now0) :
    (Breaker.allow cfg s now0).1.1 = true ∧
    (Breaker.allow cfg (Breaker.allow cfg s now0).2 now1).1.1 = false ∧
    (Breaker.allow cfg (Breaker.allow cfg s now0).2 now1).2.state = .halfOpen ∧
    (Breaker.allow cfg (Breaker.allow cfg s now0).2 now1).2.probe = true := by
  rw [Breaker.allow_opened cfg hs ht, if_pos hb, Breaker.allow_halfOpen cfg rfl]
  exact ⟨rfl, rfl, rfl, rfl⟩

/-- HALF_OPEN with no probe in flight: of two consecutive `allow()` calls exactly the first is
    allowed. -/
theorem seq_two_probes_from_half_open (cfg : Breaker.Cfg) (s : Breaker.St) (now0 now1 : Nat)
    (hs : s.state = .halfOpen) (hp : s.probe = false) :
    (Breaker.allow cfg s now0).1.1 = true ∧
    (Breaker.allow cfg (Breaker.allow cfg s now0).2 now1).1.1 = false ∧
    (Breaker.allow cfg (Breaker.allow cfg s now0).2 now1).2.state = .halfOpen ∧
    (Breaker.allow cfg (Breaker.allow cfg s now0).2 now1).2.probe = true := by
  have h1 : Breaker.allow cfg s now0 = ((true, .halfOpen, none), { s with probe := true }) := by
    rw [Breaker.allow_halfOpen cfg hs, hp]; rfl
  rw [h1, Breaker.allow_halfOpen cfg (s := { s with probe := true }) hs]
  exact ⟨rfl, rfl, hs, rfl⟩

/-- While a probe is in flight every further `allow()` is rejected and changes nothing: at most one
    probe is outstanding whatever the number of callers. -/
theorem seq_probe_in_flight_rejects (cfg : Breaker.Cfg) (s : Breaker.St) (now : Nat)
    (hs : s.state = .halfOpen) (hp : s.probe = true) :
    (Breaker.allow cfg s now).1.1 = false ∧ (Breaker.allow cfg s now).2 = s := by
  rw [Breaker.allow_halfOpen cfg hs, hp]
  exact ⟨rfl, rfl⟩

/-- `record_failure` in state OPEN is a no-op that reports nothing. -/
theorem seq_failure_when_open (cfg : Breaker.Cfg) (s : Breaker.St) (k : EClass) (now : Nat)
    (hs : s.state = .opened) : Breaker.recordFailure cfg s k now = (none, s) :=
  Breaker.recordFailure_opened cfg hs k now

/-- CLOSED and one counted failure short of opening (each of the two failures alone would reach a
    threshold): of two consecutive `record_failure` calls the first opens the circuit and the second
    sees OPEN, reports nothing and changes nothing — the circuit opens exactly once. -/
theorem seq_two_failures_open_once (cfg : Breaker.Cfg) (s : Breaker.St) (k0 k1 : EClass)
    (now0 now1 : Nat) (hs : s.state = .closed) (ht : cfg.tripOn k0 = true)
    (ho : (Breaker.noteFailure cfg s k0 now0).1 = true) :
    (Breaker.recordFailure cfg s k0 now0).1 = some .circuitOpened ∧
    (Breaker.recordFailure cfg s k0 now0).2.state = .opened ∧
    (Breaker.recordFailure cfg s k0 now0).2.openedAt = some now0 ∧
    Breaker.recordFailure cfg (Breaker.recordFailure cfg s k0 now0).2 k1 now1 =
      (none, (Breaker.recordFailure cfg s k0 now0).2) := by
  have h1 : Breaker.recordFailure cfg s k0 now0 =
      (some .circuitOpened, { Breaker.St.openedAtTime now0 with probe := s.probe }) := by
    rw [Breaker.recordFailure_closed cfg hs, ht, ho]; rfl
  rw [h1]
  exact ⟨rfl, rfl, rfl, seq_failure_when_open cfg _ k1 now1 rfl⟩

def runFailures (cfg : Breaker.Cfg) : Breaker.St → List (EClass × Nat) → List (Option Event)
  | _, [] => []
  | s, (k, now) :: r =>
    (Breaker.recordFailure cfg s k now).1 :: runFailures cfg (Breaker.recordFailure cfg s k now).2 r

theorem runFailures_open (cfg : Breaker.Cfg) (s : Breaker.St) (l : List (EClass × Nat))
    (hs : s.state = .opened) : (runFailures cfg s l).count (some Event.circuitOpened) = 0 := by
  induction l generalizing s with
  | nil => simp [runFailures]
  | cons x r ih =>
    obtain ⟨k, now⟩ := x
    simp only [runFailures, seq_failure_when_open cfg s k now hs]
    simp [ih s hs]

/-- ANY run of consecutive `record_failure` calls (any classes, any clock values, any number of
    them), from ANY state, reports `circuit_opened` at most once: once open, further failures cannot
    re-open. -/
theorem seq_failures_open_at_most_once (cfg : Breaker.Cfg) (s : Breaker.St)
    (l : List (EClass × Nat)) : (runFailures cfg s l).count (some Event.circuitOpened) ≤ 1 := by
  induction l generalizing s with
  | nil => simp [runFailures]
  | cons x r ih =>
    obtain ⟨k, now⟩ := x
    simp only [runFailures]
    rcases Breaker.recordFailure_cases cfg s k now with ⟨he, hst, -⟩ | ⟨he, -⟩
    · rw [he, List.count_cons_self, runFailures_open cfg _ r hst]; omega
    · rw [he]
      have := ih (Breaker.recordFailure cfg s k now).2
      simpa using this

/-- One slot left (after pruning at `now`): of two consecutive `consume(1)` calls at that instant
    exactly the first is granted; the second is refused and records nothing — no over-grant. -/
theorem seq_two_consumes_one_slot (cfg : Budget.Cfg) (s : Budget.St) (now : Nat)
    (hw : 0 < cfg.window)
    (hslot : (Budget.prune cfg.window now s.events).length + 1 = cfg.maxRetries) :
    (Budget.consume cfg s now 1).1 = true ∧
    (Budget.consume cfg (Budget.consume cfg s now 1).2 now 1).1 = false ∧
    (Budget.consume cfg (Budget.consume cfg s now 1).2 now 1).2.events.length = cfg.maxRetries := by
  have h1 : ¬ (Budget.prune cfg.window now s.events).length + 1 > cfg.maxRetries := by omega
  have hc : Budget.consume cfg s now 1 =
      (true, { events := Budget.prune cfg.window now s.events ++ [now] }) := by
    simp [Budget.consume, h1]
  rw [hc]
  have h2 : (Budget.prune cfg.window now s.events ++ [now]).length + 1 > cfg.maxRetries := by
    simp; omega
  simp only [Budget.consume, Budget.prune_prune_append cfg.window now hw, h2, if_true, true_and]
  simp; omega

/-- Full budget (after pruning at `now`): `consume(1)` is refused, in particular both of two
    consecutive calls are. -/
theorem seq_consume_full_refused (cfg : Budget.Cfg) (s : Budget.St) (now : Nat)
    (hfull : (Budget.prune cfg.window now s.events).length ≥ cfg.maxRetries) :
    (Budget.consume cfg s now 1).1 = false := by
  have : (Budget.prune cfg.window now s.events).length + 1 > cfg.maxRetries := by omega
  simp [Budget.consume, this]

end Sequential

/-! ## The named consequences, for two racing threads

  The thread-local state is `Option R` — `none` before the call, `some r` = the call returned `r`.
  `ret g` is the atomic operation "apply the component-model function `g` to the shared state and
  return its result".  Thread 0 runs code `o0` implementing `ret (model-op at clock value now0)`,
  thread 1 likewise (`Implements`, i.e. the sequential correspondence of C06/C07/C10). -/

def ret {R S : Type} (g : S → R × S) : Option R → S → Option R × S :=
  fun _ s => (some (g s).1, (g s).2)

section Named
open Redress

/-- **Two racing probes are never both let through** (and one is).  Two threads call `allow()` on a
    breaker that is OPEN at/after the recovery boundary or HALF_OPEN with no probe in flight; under
    every interleaving exactly one call is let through, the other is rejected, and the breaker ends
    HALF_OPEN with the probe in flight. -/
theorem racing_probes_exactly_one_allowed
    (cfg : Breaker.Cfg) (now0 now1 : Nat)
    (c cf : Conf (Option (Bool × CState × Option Event)) Breaker.St) (sched : List Nat)
    (o0 o1 : OpCode (Option (Bool × CState × Option Event)) Breaker.St)
    (hwl : WL c) (h0 : c.holder = none)
    (hc0 : (c.threads 0).code = o0.code) (hc1 : (c.threads 1).code = o1.code)
    (hrest : ∀ i, 2 ≤ i → (c.threads i).code = [])
    (hi0 : Implements o0 (ret fun s => Breaker.allow cfg s now0))
    (hi1 : Implements o1 (ret fun s => Breaker.allow cfg s now1))
    (hstate : (∃ t, c.shared.state = .opened ∧ c.shared.openedAt = some t ∧
                t + cfg.recovery ≤ now0 ∧ t + cfg.recovery ≤ now1) ∨
              (c.shared.state = .halfOpen ∧ c.shared.probe = false))
    (hexec : exec c sched = some cf) (hterm : Terminal cf) :
    ∃ r0 r1, (cf.threads 0).loc = some r0 ∧ (cf.threads 1).loc = some r1 ∧
      ((r0.1 = true ∧ r1.1 = false) ∨ (r0.1 = false ∧ r1.1 = true)) ∧
      cf.shared.state = .halfOpen ∧ cf.shared.probe = true := by
  have h := race_two c cf sched o0 o1 _ _ hwl h0 hc0 hc1 hrest hi0 hi1 hexec hterm
  simp only [ret] at h
  -- whichever call comes first is the probe
  have key : ∀ x y, x = now0 ∨ x = now1 →
      (Breaker.allow cfg c.shared x).1.1 = true ∧
      (Breaker.allow cfg (Breaker.allow cfg c.shared x).2 y).1.1 = false ∧
      (Breaker.allow cfg (Breaker.allow cfg c.shared x).2 y).2.state = .halfOpen ∧
      (Breaker.allow cfg (Breaker.allow cfg c.shared x).2 y).2.probe = true := by
    intro x y hx
    rcases hstate with ⟨t, hst, hto, hb0, hb1⟩ | ⟨hst, hp⟩
    · exact seq_two_probes_from_open cfg c.shared t x y hst hto
        (by rcases hx with rfl | rfl <;> assumption)
    · exact seq_two_probes_from_half_open cfg c.shared x y hst hp
  rcases h with ⟨ha, hb, hs⟩ | ⟨ha, hb, hs⟩
  · obtain ⟨k1, k2, k3⟩ := key now0 now1 (.inl rfl)
    exact ⟨_, _, ha, hb, .inl ⟨k1, k2⟩, hs ▸ k3⟩
  · obtain ⟨k1, k2, k3⟩ := key now1 now0 (.inr rfl)
    exact ⟨_, _, hb, ha, .inr ⟨k2, k1⟩, hs ▸ k3⟩

/-- **Racing failures open the circuit exactly once.**  Two threads call `record_failure` on a CLOSED
    breaker that is one counted failure short of opening (each failure alone would reach a
    threshold); under every interleaving exactly one call reports `circuit_opened`, the other
    reports nothing, and the breaker ends OPEN with `opened_at` = the clock value read by the call
    that opened it. -/
theorem racing_failures_open_exactly_once
    (cfg : Breaker.Cfg) (k0 k1 : EClass) (now0 now1 : Nat)
    (c cf : Conf (Option (Option Event)) Breaker.St) (sched : List Nat)
    (o0 o1 : OpCode (Option (Option Event)) Breaker.St)
    (hwl : WL c) (h0 : c.holder = none)
    (hc0 : (c.threads 0).code = o0.code) (hc1 : (c.threads 1).code = o1.code)
    (hrest : ∀ i, 2 ≤ i → (c.threads i).code = [])
    (hi0 : Implements o0 (ret fun s => Breaker.recordFailure cfg s k0 now0))
    (hi1 : Implements o1 (ret fun s => Breaker.recordFailure cfg s k1 now1))
    (hclosed : c.shared.state = .closed)
    (ht0 : cfg.tripOn k0 = true) (ht1 : cfg.tripOn k1 = true)
    (ho0 : (Breaker.noteFailure cfg c.shared k0 now0).1 = true)
    (ho1 : (Breaker.noteFailure cfg c.shared k1 now1).1 = true)
    (hexec : exec c sched = some cf) (hterm : Terminal cf) :
    (((cf.threads 0).loc = some (some .circuitOpened) ∧ (cf.threads 1).loc = some none ∧
        cf.shared.openedAt = some now0) ∨
     ((cf.threads 0).loc = some none ∧ (cf.threads 1).loc = some (some .circuitOpened) ∧
        cf.shared.openedAt = some now1)) ∧
    cf.shared.state = .opened := by
  have h := race_two c cf sched o0 o1 _ _ hwl h0 hc0 hc1 hrest hi0 hi1 hexec hterm
  simp only [ret] at h
  rcases h with ⟨ha, hb, hs⟩ | ⟨ha, hb, hs⟩
  · obtain ⟨e1, e2, e3, e4⟩ := seq_two_failures_open_once cfg c.shared k0 k1 now0 now1 hclosed ht0 ho0
    rw [e4] at hb hs
    exact ⟨.inl ⟨e1 ▸ ha, hb, hs ▸ e3⟩, hs ▸ e2⟩
  · obtain ⟨e1, e2, e3, e4⟩ := seq_two_failures_open_once cfg c.shared k1 k0 now1 now0 hclosed ht1 ho1
    rw [e4] at hb hs
    exact ⟨.inr ⟨hb, e1 ▸ ha, hs ▸ e3⟩, hs ▸ e2⟩

/-- **Racing consume() calls never over-grant.**  Two threads call `consume(1)` at the same clock
    reading on a budget with exactly one slot left; under every interleaving exactly one call is
    granted and the budget ends exactly full (never above `max_retries`). -/
theorem racing_consume_never_overgrants
    (cfg : Budget.Cfg) (now : Nat)
    (c cf : Conf (Option Bool) Budget.St) (sched : List Nat)
    (o0 o1 : OpCode (Option Bool) Budget.St)
    (hwl : WL c) (h0 : c.holder = none)
    (hc0 : (c.threads 0).code = o0.code) (hc1 : (c.threads 1).code = o1.code)
    (hrest : ∀ i, 2 ≤ i → (c.threads i).code = [])
    (hi0 : Implements o0 (ret fun s => Budget.consume cfg s now 1))
    (hi1 : Implements o1 (ret fun s => Budget.consume cfg s now 1))
    (hw : 0 < cfg.window)
    (hslot : (Budget.prune cfg.window now c.shared.events).length + 1 = cfg.maxRetries)
    (hexec : exec c sched = some cf) (hterm : Terminal cf) :
    (((cf.threads 0).loc = some true ∧ (cf.threads 1).loc = some false) ∨
     ((cf.threads 0).loc = some false ∧ (cf.threads 1).loc = some true)) ∧
    cf.shared.events.length = cfg.maxRetries := by
  have h := race_two c cf sched o0 o1 _ _ hwl h0 hc0 hc1 hrest hi0 hi1 hexec hterm
  simp only [ret] at h
  obtain ⟨e1, e2, e3⟩ := seq_two_consumes_one_slot cfg c.shared now hw hslot
  rcases h with ⟨ha, hb, hs⟩ | ⟨ha, hb, hs⟩
  · exact ⟨.inl ⟨e1 ▸ ha, e2 ▸ hb⟩, hs ▸ e3⟩
  · exact ⟨.inr ⟨e2 ▸ hb, e1 ▸ ha⟩, hs ▸ e3⟩

end Named

/-! ## Non-vacuity: concrete instances of every hypothesis, and the teeth of `wl` -/

section Examples
open Redress Redress.Generated.LockShape

/-- what a `record_cancel` without its `with self._lock:` extracts to — rejected -/
example : wl false [.sh, .sh] = false := by decide
/-- `allow` reading `self._state` before taking the lock — rejected -/
example : wl false [.loc, .sh, .acq, .loc, .sh, .sh, .rel] = false := by decide
/-- nested acquisition — rejected -/
example : wl false [.acq, .acq, .rel, .rel] = false := by decide
/-- lock still held at the end — rejected -/
example : wl false [.acq, .sh] = false := by decide
/-- a method split into two locked halves passes the lock discipline: `wl` makes each section
    atomic; that a method is ONE atomic operation is the separate hypothesis `Implements` -/
example : wl false [.loc, .loc, .acq, .sh, .sh, .rel, .acq, .loc, .sh, .loc, .loc, .rel] = true := by
  decide

/-- The fine semantics really lets unlocked accesses race: two threads doing an unlocked
    read-then-write increment lose an update (shared counter ends at 1, not 2).  So `WL` is what
    carries `serializable`, not the semantics. -/
def racy : Conf Nat Nat :=
  { threads := fun i => if i < 2 then ⟨0, [.sh (fun _ s => (s, s)), .sh (fun l _ => (l, l + 1))]⟩
                        else ⟨0, []⟩,
    shared := 0, holder := none }
example : (exec racy [0, 1, 0, 1]).map (·.shared) = some 1 := by rfl

def shapeCode : List Instr → List (Cmd Unit Unit)
  | [] => []
  | .loc :: r => .loc id :: shapeCode r
  | .acq :: r => .acq :: shapeCode r
  | .rel :: r => .rel :: shapeCode r
  | .sh :: r => .sh (fun l s => (l, s)) :: shapeCode r

theorem shapeCode_instr (s : List Instr) : (shapeCode s).map Cmd.instr = s := by
  induction s with
  | nil => rfl
  | cons x r ih => cases x <;> simp [shapeCode, Cmd.instr, ih]

/-- `FromShapes extractedShapes` is satisfiable: infinitely many threads, each running `allow`
    (path 0: OPEN → half-open probe), `record_failure` (path 3: counted failure that opens) and
    `record_cancel`. -/
def manyThreads : Conf Unit Unit :=
  { threads := fun _ => ⟨(), shapeCode (CircuitBreaker_allow_p0_shape ++
      (CircuitBreaker_record_failure_p3_shape ++ CircuitBreaker_record_cancel_p0_shape))⟩,
    shared := (), holder := none }

example : FromShapes extractedShapes manyThreads := by
  intro i
  refine ⟨[CircuitBreaker_allow_p0_shape, CircuitBreaker_record_failure_p3_shape,
    CircuitBreaker_record_cancel_p0_shape], ?_, ?_⟩
  · intro s hs
    simp only [List.mem_cons, List.not_mem_nil, or_false] at hs
    rcases hs with rfl | rfl | rfl <;> decide
  · simp [manyThreads, shapeCode_instr]

/-- an operation shaped like the real methods: clock read; `with self._lock:`; section; release -/
def lockedOp (f : L → S → L × S) : OpCode L S := ⟨[id], [.sh f, .rel]⟩

theorem implements_lockedOp (f : L → S → L × S) : Implements (lockedOp f) f := by
  intro l s rest; simp [lockedOp, finish, runLocs]

/-- a section made of several shared steps also implements its composite: `consume(1)` as
    `_prune(now)` followed by test-and-append -/
def consumeOp (cfg : Budget.Cfg) (now : Nat) : OpCode (Option Bool) Budget.St :=
  ⟨[id, id],
   [.sh (fun l s => (l, { events := Budget.prune cfg.window now s.events })),
    .sh (fun _ s => if s.events.length + 1 > cfg.maxRetries then (some false, s)
                    else (some true, { events := s.events ++ [now] })),
    .rel]⟩

theorem implements_consumeOp (cfg : Budget.Cfg) (now : Nat) :
    Implements (consumeOp cfg now) (ret fun s => Budget.consume cfg s now 1) := by
  intro l s rest
  simp only [consumeOp, runLocs, finish, List.cons_append, List.nil_append, ret, Budget.consume]
  split <;> simp

def twoThreads {R : Type} (o0 o1 : OpCode (Option R) S) (s : S) : Conf (Option R) S :=
  { threads := fun i => match i with
      | 0 => ⟨none, o0.code⟩
      | 1 => ⟨none, o1.code⟩
      | _ => ⟨none, []⟩,
    shared := s, holder := none }

def cfgEx : Breaker.Cfg :=
  { failureThreshold := 2, window := 10, recovery := 5, tripOn := fun _ => true,
    classThreshold := fun _ => none }

/-- OPEN since 0, clock now at the recovery boundary 5 -/
def openAtBoundary : Breaker.St := { state := .opened, openedAt := some 0 }
/-- CLOSED with one failure at 0 (threshold 2) -/
def closedOneShort : Breaker.St := { failures := [0] }

def probeRace := twoThreads (lockedOp (ret fun s => Breaker.allow cfgEx s 5))
  (lockedOp (ret fun s => Breaker.allow cfgEx s 5)) openAtBoundary

theorem probeRace_WL : WL probeRace :=
  forall_two rfl rfl fun _ => rfl

/-- the hypotheses of `racing_probes_exactly_one_allowed` hold of `probeRace`, a complete
    interleaving exists (thread 1 overtakes thread 0 between its clock read and its `with`), and the
    theorem applies to it -/
example : ∃ cf, exec probeRace [0, 1, 1, 1, 1, 0, 0, 0] = some cf ∧ Terminal cf ∧
    ∃ r0 r1, (cf.threads 0).loc = some r0 ∧ (cf.threads 1).loc = some r1 ∧
      ((r0.1 = true ∧ r1.1 = false) ∨ (r0.1 = false ∧ r1.1 = true)) ∧
      cf.shared.state = .halfOpen ∧ cf.shared.probe = true := by
  refine ⟨_, rfl, ?_, ?_⟩
  · exact forall_two rfl rfl fun _ => rfl
  · refine racing_probes_exactly_one_allowed cfgEx 5 5 probeRace _ [0, 1, 1, 1, 1, 0, 0, 0]
      _ _ probeRace_WL rfl rfl rfl (forall_two (by omega) (by omega) fun _ _ => rfl)
      (implements_lockedOp _) (implements_lockedOp _)
      (Or.inl ⟨0, rfl, rfl, by decide, by decide⟩) rfl (forall_two rfl rfl fun _ => rfl)

def failureRace := twoThreads
  (lockedOp (ret fun s => Breaker.recordFailure cfgEx s .transient 3))
  (lockedOp (ret fun s => Breaker.recordFailure cfgEx s .serverError 4)) closedOneShort

/-- hypotheses of `racing_failures_open_exactly_once` are satisfiable -/
example : WL failureRace ∧ failureRace.shared.state = .closed ∧
    (Breaker.noteFailure cfgEx failureRace.shared .transient 3).1 = true ∧
    (Breaker.noteFailure cfgEx failureRace.shared .serverError 4).1 = true ∧
    ∃ cf, exec failureRace [1, 0, 0, 0, 0, 1, 1, 1] = some cf ∧ Terminal cf := by
  refine ⟨?_, rfl, by decide, by decide, _, rfl, ?_⟩
  · exact forall_two rfl rfl fun _ => rfl
  · exact forall_two rfl rfl fun _ => rfl

def budgetCfgEx : Budget.Cfg := { maxRetries := 2, window := 10 }

def consumeRace := twoThreads (consumeOp budgetCfgEx 7) (consumeOp budgetCfgEx 7) ({ events := [3] } : Budget.St)

/-- hypotheses of `racing_consume_never_overgrants` are satisfiable (with the multi-step section) -/
example : WL consumeRace ∧ 0 < budgetCfgEx.window ∧
    (Budget.prune budgetCfgEx.window 7 consumeRace.shared.events).length + 1 = budgetCfgEx.maxRetries ∧
    ∃ cf, exec consumeRace [0, 1, 0, 1, 1, 1, 1, 1, 0, 0, 0, 0] = some cf ∧ Terminal cf := by
  refine ⟨?_, by decide, by decide, _, rfl, ?_⟩
  · exact forall_two rfl rfl fun _ => rfl
  · exact forall_two rfl rfl fun _ => rfl

/-- the sequential facts are not vacuous -/
example : (Breaker.allow cfgEx openAtBoundary 5).1.1 = true ∧
    (Breaker.allow cfgEx (Breaker.allow cfgEx openAtBoundary 5).2 5).1.1 = false := by decide
example : (Budget.consume budgetCfgEx { events := [3] } 7 1).1 = true ∧
    (Budget.consume budgetCfgEx (Budget.consume budgetCfgEx { events := [3] } 7 1).2 7 1).1 = false := by
  decide

end Examples

end Redress.C17
