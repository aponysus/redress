/-
  C18 — "Built-in backoff strategies are total and stay inside their envelopes", and the last
  sentence of C20 ("a policy using retry_after_or waits at least the hinted time and at most the
  hint plus jitter_s, except where the remaining deadline is smaller").

  All theorems are about `Redress.Model.Strategies`, i.e. about `strategies.py` with floats read
  as exact rationals, and quantify over *every* attempt number (all of `Nat`, in particular
  every attempt ≥ 1), every previous delay ≥ 0 (or `None`), every parameterisation with
  `0 ≤ base ≤ max`, every draw `u ∈ [0,1]`, every event history and every clock reading.

  Totality ("none of them raises") is free in the model: every definition is a total Lean
  function into `Rat`, so every value is finite by construction.

  PARTIAL (by design, see the header of Model/Strategies.lean): the model has no IEEE-754
  overflow/rounding, so "does not raise `OverflowError` for very large attempts" and "the float
  result is finite" are *not* theorems here; they are checked on the real code by the
  correspondence family `strategies` (attempts up to 10^6, parameters at 0/denormal/huge).
-/
import Redress.Lemmas.StrategyLemmas
import Redress.Model.Retry

namespace Redress.Strategies

/-- The executable early-exit `cap` is `min(max_s, base_s * g ** attempt)` (the body of `capSpec`). -/
theorem cap_eq_capSpec (base mx g : Rat) (attempt : Nat) (hb : 0 ≤ base) (hg : 1 ≤ g) :
    cap base mx g attempt = min mx (base * g ^ attempt) :=
  min_growCapped mx g hg attempt base hb

-- Non-vacuity: each `example :=` below instantiates the theorem before it at concrete values.  The
-- attempts 1024 and 1751 are where `2.0 ** n` and `1.5 ** n` overflow a double in the implementation
-- (finding F3); over `Rat` they are ordinary instances.
example := cap_eq_capSpec (1 / 4) 30 (3 / 2) 5 (by norm_num) (by norm_num)

theorem cap_le_max (base mx g : Rat) (attempt : Nat) : cap base mx g attempt ≤ mx :=
  min_le_left _ _

/-- The cap never drops below `base_s` (so the delay is at least `base_s / 2`). -/
theorem cap_ge_base (base mx g : Rat) (attempt : Nat) (hb : 0 ≤ base) (hm : base ≤ mx)
    (hg : 1 ≤ g) : base ≤ cap base mx g attempt := by
  rw [cap_eq_capSpec base mx g attempt hb hg]
  exact le_min hm (le_mul_of_one_le_right hb (one_le_pow₀ hg))

example := cap_ge_base (1 / 4) 30 (3 / 2) 1751 (by norm_num) (by norm_num) (by norm_num)

theorem cap_nonneg (base mx g : Rat) (attempt : Nat) (hb : 0 ≤ base) (hm : base ≤ mx)
    (hg : 1 ≤ g) : 0 ≤ cap base mx g attempt :=
  hb.trans (cap_ge_base base mx g attempt hb hm hg)

example := cap_nonneg (1 / 4) 30 2 1024 (by norm_num) (by norm_num) (by norm_num)

theorem cap_mono (base mx g : Rat) (a : Nat) (hb : 0 ≤ base) (hg : 1 ≤ g) :
    cap base mx g a ≤ cap base mx g (a + 1) := by
  rw [cap_eq_capSpec base mx g a hb hg, cap_eq_capSpec base mx g (a + 1) hb hg]
  exact min_le_min_left _ (mul_le_mul_of_nonneg_left (pow_le_pow_right₀ hg a.le_succ) hb)

example := cap_mono (1 / 4) 30 2 6 (by norm_num) (by norm_num)

/--
`decorrelated_jitter` returns a value in `[0, max_s]`; sharper: it lies between
`min(base, 3·prev')` and `min(max_s, max(base, 3·prev'))` where `prev' = prev_sleep or base_s`.
(The lower bound is *not* `base_s` in general: a previous delay below `base_s / 3` — possible
when the runner clipped the previous delay to a small remaining deadline — gives a draw from
`[3·prev, base_s]`.)
-/
theorem decorrelated_in_range (base mx : Rat) (prev : Option Rat) (u : Rat)
    (hb : 0 ≤ base) (hm : base ≤ mx) (hp : ∀ p, prev = some p → 0 ≤ p)
    (hu0 : 0 ≤ u) (hu1 : u ≤ 1) :
    let f := decorrelatedJitter base mx prev u
    let p := prevOr base prev
    0 ≤ f ∧ f ≤ mx ∧ min base (p * 3) ≤ f ∧ f ≤ min mx (max base (p * 3)) := by
  intro f p
  have hp0 : 0 ≤ p := prevOr_nonneg base prev hb hp
  obtain ⟨hlo, hhi⟩ := uniform_between base (p * 3) u hu0 hu1
  have hmin0 : 0 ≤ min base (p * 3) := le_min hb (by linarith)
  have hminm : min base (p * 3) ≤ mx := le_trans (min_le_left _ _) hm
  exact ⟨le_min (le_trans hb hm) (le_trans hmin0 hlo), min_le_left _ _, le_min hminm hlo,
    min_le_min_left _ hhi⟩

example := decorrelated_in_range (1 / 4) 30 (some (7 / 2)) (1 / 3) (by norm_num) (by norm_num)
  (by intro p h; cases h; norm_num : ∀ p : Rat, some (7 / 2 : Rat) = some p → 0 ≤ p) (by norm_num) (by norm_num)

/-- First retry (`prev_sleep` is `None`) or a previous delay of `0.0`: the draw is from
`[base_s, 3·base_s]`, clamped to `max_s`. -/
theorem decorrelated_first (base mx : Rat) (prev : Option Rat) (u : Rat)
    (hb : 0 ≤ base) (hm : base ≤ mx) (hprev : prev = none ∨ prev = some 0)
    (hu0 : 0 ≤ u) (hu1 : u ≤ 1) :
    base ≤ decorrelatedJitter base mx prev u ∧
      decorrelatedJitter base mx prev u ≤ min mx (base * 3) := by
  have hp : ∀ p, prev = some p → 0 ≤ p := by rcases hprev with rfl | rfl <;> simp
  have hpo : prevOr base prev = base := by rcases hprev with rfl | rfl <;> simp [prevOr]
  obtain ⟨_, _, h3, h4⟩ := decorrelated_in_range base mx prev u hb hm hp hu0 hu1
  have hb3 : base ≤ base * 3 := le_mul_of_one_le_right hb (by norm_num)
  rw [hpo, min_eq_left hb3] at h3
  rw [hpo, max_eq_right hb3] at h4
  exact ⟨h3, h4⟩

example := decorrelated_first (1 / 4) 30 (some 0) 1 (by norm_num) (by norm_num) (Or.inr rfl) (by norm_num) (by norm_num)

/-- When the previous delay is at least `base_s / 3` the result is at least `base_s`. -/
theorem decorrelated_ge_base (base mx p u : Rat)
    (hb : 0 ≤ base) (hm : base ≤ mx) (hp : base ≤ p * 3) (hu0 : 0 ≤ u) (hu1 : u ≤ 1) :
    base ≤ decorrelatedJitter base mx (some p) u := by
  have hp0 : 0 ≤ p := by linarith
  obtain ⟨_, _, h3, _⟩ := decorrelated_in_range base mx (some p) u hb hm
    (fun q h => Option.some.inj h ▸ hp0) hu0 hu1
  -- `prev or base_s` is `base_s` itself when the previous delay is `0.0`
  have : base ≤ prevOr base (some p) * 3 := by
    simp only [prevOr]
    split
    · linarith
    · exact hp
  rw [min_eq_left this] at h3
  exact h3

example := decorrelated_ge_base (1 / 4) 30 (1 / 12) 0 (by norm_num) (by norm_num) (by norm_num) (by norm_num) (by norm_num)

/-- Both strategies draw from `[cap/2, cap]` for their growth factor `g ≥ 1`
(`cap/2 + uniform(0, cap/2)` is `uniform(cap/2, cap)`), hence from `[base_s/2, max_s]`. -/
theorem cap_jitter_envelope (base mx g : Rat) (attempt : Nat) (u : Rat) (hb : 0 ≤ base)
    (hm : base ≤ mx) (hg : 1 ≤ g) (hu0 : 0 ≤ u) (hu1 : u ≤ 1) :
    let c := min mx (base * g ^ attempt)
    let x := uniform (cap base mx g attempt / 2) (cap base mx g attempt) u
    (c / 2 ≤ x ∧ x ≤ c) ∧ base / 2 ≤ x ∧ x ≤ mx := by
  intro c x
  have hc0 := cap_nonneg base mx g attempt hb hm hg
  have hcb := cap_ge_base base mx g attempt hb hm hg
  have hcm := cap_le_max base mx g attempt
  obtain ⟨h1, h2⟩ := uniform_mem_of_le (cap base mx g attempt / 2) (cap base mx g attempt) u
    (by linarith) hu0 hu1
  rw [show c = cap base mx g attempt from (cap_eq_capSpec base mx g attempt hb hg).symm]
  exact ⟨⟨h1, h2⟩, by linarith, h2.trans hcm⟩

theorem equalJitter_eq (base mx : Rat) (attempt : Nat) (u : Rat) :
    equalJitter base mx attempt u
      = uniform (cap base mx 2 attempt / 2) (cap base mx 2 attempt) u := by
  unfold equalJitter uniform
  ring

/-- `equal_jitter` returns a value in `[cap/2, cap]`, `cap = min(max_s, base_s · 2^attempt)`. -/
theorem equal_jitter_envelope (base mx : Rat) (attempt : Nat) (u : Rat)
    (hb : 0 ≤ base) (hm : base ≤ mx) (hu0 : 0 ≤ u) (hu1 : u ≤ 1) :
    let c := min mx (base * 2 ^ attempt)
    c / 2 ≤ equalJitter base mx attempt u ∧ equalJitter base mx attempt u ≤ c := by
  rw [equalJitter_eq]
  exact (cap_jitter_envelope base mx 2 attempt u hb hm (by norm_num) hu0 hu1).1

example := equal_jitter_envelope (1 / 4) 30 1024 1 (by norm_num) (by norm_num) (by norm_num) (by norm_num)

/-- `token_backoff` returns a value in `[cap/2, cap]`, `cap = min(max_s, base_s · 1.5^attempt)`. -/
theorem token_backoff_envelope (base mx : Rat) (attempt : Nat) (u : Rat)
    (hb : 0 ≤ base) (hm : base ≤ mx) (hu0 : 0 ≤ u) (hu1 : u ≤ 1) :
    let c := min mx (base * (3 / 2) ^ attempt)
    c / 2 ≤ tokenBackoff base mx attempt u ∧ tokenBackoff base mx attempt u ≤ c :=
  (cap_jitter_envelope base mx (3 / 2) attempt u hb hm (by norm_num) hu0 hu1).1

example := token_backoff_envelope (1 / 4) 20 1751 0 (by norm_num) (by norm_num) (by norm_num) (by norm_num)

/-- Both strategies return at least `base_s / 2` and at most `max_s`. -/
theorem exponential_in_range (base mx : Rat) (attempt : Nat) (u : Rat)
    (hb : 0 ≤ base) (hm : base ≤ mx) (hu0 : 0 ≤ u) (hu1 : u ≤ 1) :
    (base / 2 ≤ equalJitter base mx attempt u ∧ equalJitter base mx attempt u ≤ mx) ∧
    (base / 2 ≤ tokenBackoff base mx attempt u ∧ tokenBackoff base mx attempt u ≤ mx) := by
  rw [equalJitter_eq]
  exact ⟨(cap_jitter_envelope base mx 2 attempt u hb hm (by norm_num) hu0 hu1).2,
    (cap_jitter_envelope base mx (3 / 2) attempt u hb hm (by norm_num) hu0 hu1).2⟩

example := exponential_in_range (1 / 4) 20 3 (1 / 2) (by norm_num) (by norm_num) (by norm_num) (by norm_num)

/-- `_multiplier()`'s arithmetic stays in `[min_multiplier, max_multiplier]` for every deque
content and **every** `target_failure` (so also for the float-rounded `1.0 - target_success`). -/
theorem multiplierTF_bounds (minM maxM tf : Rat) (ev : Events) (hmm : minM ≤ maxM) :
    minM ≤ multiplierTF minM maxM tf ev ∧ multiplierTF minM maxM tf ev ≤ maxM := by
  unfold multiplierTF
  simp only
  split
  · exact ⟨le_refl _, hmm⟩
  · split
    · exact ⟨le_refl _, hmm⟩
    · split
      · exact ⟨hmm, le_refl _⟩
      · exact ⟨le_min hmm (le_max_left _ _), min_le_left _ _⟩

example := multiplierTF_bounds 1 5 (1 / 10) [(0, false), (1, false), (2, true)] (by norm_num)

/-- `adaptive()` raises `ValueError` unless all four of its checks pass: -/
theorem valid_iff (p : AdaptiveParams) :
    p.valid = true ↔ 0 < p.window ∧ 0 < p.targetSuccess ∧ p.targetSuccess ≤ 1 ∧ 1 ≤ p.minM ∧
      p.minM ≤ p.maxM := by
  have hite : ∀ (c : Prop) [Decidable c] (b : Bool), (if c then false else b) = true ↔ ¬ c ∧ b = true :=
    fun c _ b => by split <;> simp [*]
  simp only [AdaptiveParams.valid, hite, not_le, not_lt, not_not, and_true, and_assoc]

/-- The multiplier reported by an `AdaptiveStrategy` lies in `[min_multiplier, max_multiplier]`
for every parameterisation accepted by `adaptive()`, every event history (monotone clock or
not) and every clock reading. -/
theorem adaptive_multiplier_bounds (p : AdaptiveParams) (events : Events) (now : Rat)
    (hv : p.valid = true) :
    p.minM ≤ adaptiveMultiplier p events now ∧ adaptiveMultiplier p events now ≤ p.maxM := by
  exact multiplierTF_bounds _ _ _ _ ((valid_iff p).mp hv).2.2.2.2

example := adaptive_multiplier_bounds (⟨60, 9 / 10, 1, 5⟩ : AdaptiveParams) [(0, false), (1, false), (2, true)] 3
  ((valid_iff _).mpr (by norm_num) : (⟨60, 9 / 10, 1, 5⟩ : AdaptiveParams).valid = true)

/-- The same for a whole life of the object: every output of `_multiplier()` along any sequence
of `record_success` / `record_failure` / `_multiplier` / `__call__` operations is in range
(outputs of `__call__` are the fallback value times such a multiplier). -/
theorem runOps_outputs (p : AdaptiveParams) (tf? : Option Rat) (hmm : p.minM ≤ p.maxM) :
    ∀ (ops : List AOp) (ev : Events) (out : List Rat),
      (∀ x ∈ out, ∃ fb m, x = adaptive fb m ∧ p.minM ≤ m ∧ m ≤ p.maxM) →
      ∀ x ∈ (runOps p tf? ops ev out).1, ∃ fb m, x = adaptive fb m ∧ p.minM ≤ m ∧ m ≤ p.maxM := by
  intro ops
  induction ops with
  | nil => intro ev out h x hx; simp only [runOps, List.mem_reverse] at hx; exact h x hx
  | cons op ops ih =>
    intro ev out h
    cases op with
    | record now s => exact ih _ _ h
    | query now =>
      exact ih _ _ (List.forall_mem_cons.mpr
        ⟨⟨1, _, (one_mul _).symm, multiplierTF_bounds _ _ _ _ hmm⟩, h⟩)
    | call now fb =>
      exact ih _ _ (List.forall_mem_cons.mpr ⟨⟨fb, _, rfl, multiplierTF_bounds _ _ _ _ hmm⟩, h⟩)

example := runOps_outputs (⟨60, 9 / 10, 1, 5⟩ : AdaptiveParams) none (by norm_num)
  [.record 0 false, .query 1, .call 2 (3 / 2)] [] [] (by simp)

/-- `adaptive()` returns its fallback's value scaled by a factor within
`[min_multiplier, max_multiplier]`. -/
theorem adaptive_scaled (p : AdaptiveParams) (fb now : Rat) (ev : Events) (hv : p.valid = true) :
    ∃ m, (adaptiveCall p fb now ev).1 = fb * m ∧ p.minM ≤ m ∧ m ≤ p.maxM :=
  ⟨adaptiveMultiplier p ev now, rfl, adaptive_multiplier_bounds p ev now hv⟩

example := adaptive_scaled (⟨60, 9 / 10, 1, 5⟩ : AdaptiveParams) (3 / 2) 3 [(0, false), (1, false), (2, true)]
  ((valid_iff _).mpr (by norm_num) : (⟨60, 9 / 10, 1, 5⟩ : AdaptiveParams).valid = true)

/-- … hence never below a non-negative fallback (and between `fb·min` and `fb·max`). -/
theorem adaptive_ge_fallback (p : AdaptiveParams) (fb now : Rat) (ev : Events)
    (hv : p.valid = true) (hfb : 0 ≤ fb) :
    fb ≤ (adaptiveCall p fb now ev).1 ∧ fb * p.minM ≤ (adaptiveCall p fb now ev).1 ∧
      (adaptiveCall p fb now ev).1 ≤ fb * p.maxM := by
  obtain ⟨hlo, hhi⟩ := adaptive_multiplier_bounds p ev now hv
  have h1 : 1 ≤ p.minM := ((valid_iff p).mp hv).2.2.2.1
  exact ⟨le_mul_of_one_le_right hfb (h1.trans hlo), mul_le_mul_of_nonneg_left hlo hfb,
    mul_le_mul_of_nonneg_left hhi hfb⟩

example := adaptive_ge_fallback (⟨60, 9 / 10, 1, 5⟩ : AdaptiveParams) (3 / 2) 3 [(0, false), (1, false), (2, true)]
  ((valid_iff _).mpr (by norm_num) : (⟨60, 9 / 10, 1, 5⟩ : AdaptiveParams).valid = true) (by norm_num)

/-- Pruning only ever removes events (so the deque is always a sublist of what was recorded). -/
theorem record_sublist (p : AdaptiveParams) (now : Rat) (s : Bool) (ev : Events) :
    (record p now s ev).Sublist (ev ++ [(now, s)]) := prune_sublist _ _

/-- `retry_after_or` returns a delay that is non-negative and no larger
than the remaining deadline when one is given — for **every** hint (absent, NaN, ±inf, negative,
…), **every** fallback return value (NaN, ±inf, negative, …), every `jitter_s` and every draw.
Non-negativity under a remaining deadline needs that deadline to be non-negative (the runner
only calls strategies with `remaining_s > 0`, `state.py::_handle_failure`). -/
theorem retry_after_or_bounds (jitterS : Rat) (hint : Option FVal) (fb : FVal)
    (remaining : Option Rat) (u : Rat) :
    (∀ r, remaining = some r → retryAfterOr jitterS hint fb remaining u ≤ r) ∧
    ((∀ r, remaining = some r → 0 ≤ r) → 0 ≤ retryAfterOr jitterS hint fb remaining u) := by
  unfold retryAfterOr
  constructor
  · intro r hr
    subst hr
    exact min_le_right _ _
  · intro hr
    cases remaining with
    | none => exact le_max_left _ _
    | some r => exact le_min (le_max_left _ _) (hr r rfl)

/-- Without the side condition the claim is false: a negative `remaining_s` is returned as is. -/
example : retryAfterOr (1 / 4) none (.fin 1) (some (-1)) 0 = -1 := by decide

/-- With a finite hint `h` the result is exactly `min(max(0,h) + jitter·u, remaining)`, where
`jitter = jitterOf jitterS`, by definition `max 0 jitterS` (the spelling of `hint_honoured`). -/
theorem hint_value (jitterS h : Rat) (fb : FVal) (u : Rat) (hu0 : 0 ≤ u) :
    (retryAfterOr jitterS (some (.fin h)) fb none u = max 0 h + jitterOf jitterS * u) ∧
    (∀ r, retryAfterOr jitterS (some (.fin h)) fb (some r) u =
      min (max 0 h + jitterOf jitterS * u) r) := by
  have hj : 0 ≤ jitterOf jitterS := le_max_left _ _
  have hs : 0 ≤ max 0 h := le_max_left _ _
  -- `if jitter:` adds nothing when the jitter is 0, so both branches are `h⁺ + jitter·u ≥ 0`
  have key : max 0 (if jitterOf jitterS ≠ 0 then max 0 h + uniform 0 (jitterOf jitterS) u
      else max 0 h) = max 0 h + jitterOf jitterS * u := by
    split
    · unfold uniform
      rw [max_eq_right (by linarith [mul_nonneg hj hu0])]
      ring
    · next hz =>
      rw [not_not.mp hz, max_eq_right hs]
      ring
  exact ⟨key, fun r => congrArg (min · r) key⟩

example := hint_value (1 / 4) 2 .nan (1 / 2) (by norm_num)

/--
C20, last sentence.  For a finite hint `h` (a negative one counts as 0), a draw `u ∈ [0,1]` and
a remaining deadline `r`: the delay is `min(h⁺ + jitter·u, r)`; it never exceeds the hint plus
`jitter_s` nor `r`; it is at least the hinted time whenever the hinted time itself fits into the
remaining deadline (`h⁺ ≤ r`), and it is exactly the remaining deadline when it does not (`r ≤ h⁺`).
(In between, `h⁺ ≤ r < h⁺ + jitter`, the delay is `min(h⁺ + jitter·u, r) ∈ [h⁺, r]` — it need not
equal `r`.)
-/
theorem hint_honoured (jitterS h : Rat) (fb : FVal) (remaining : Option Rat) (u : Rat)
    (hu0 : 0 ≤ u) (hu1 : u ≤ 1) :
    let f := retryAfterOr jitterS (some (.fin h)) fb remaining u
    let hint := max 0 h
    let jitter := max 0 jitterS
    (remaining = none → hint ≤ f ∧ f ≤ hint + jitter) ∧
    (∀ r, remaining = some r →
      f = min (hint + jitter * u) r ∧
      (hint + jitter ≤ r → hint ≤ f ∧ f ≤ hint + jitter) ∧
      (min hint r ≤ f ∧ f ≤ min (hint + jitter) r) ∧
      (hint ≤ r → hint ≤ f) ∧ f ≤ hint + jitter ∧ f ≤ r ∧
      (r ≤ hint → f = r)) := by
  intro f hint jitter
  -- the delay before clipping, `a = h⁺ + jitter·u`, lies in `[h⁺, h⁺ + jitter]`
  have hj : 0 ≤ jitter := le_max_left _ _
  have ha1 : hint ≤ hint + jitter * u := le_add_of_nonneg_right (mul_nonneg hj hu0)
  have ha2 : hint + jitter * u ≤ hint + jitter := by have := mul_le_of_le_one_right hj hu1; linarith
  obtain ⟨hv1, hv2⟩ := hint_value jitterS h fb u hu0
  constructor
  · rintro rfl
    rw [show f = _ from hv1]
    exact ⟨ha1, ha2⟩
  · rintro r rfl
    have hup : min (hint + jitter * u) r ≤ hint + jitter := (min_le_left _ _).trans ha2
    rw [show f = _ from hv2 r]
    exact ⟨rfl, fun hfit => ⟨le_min ha1 (ha1.trans (ha2.trans hfit)), hup⟩,
      ⟨min_le_min_right _ ha1, min_le_min_right _ ha2⟩, le_min ha1, hup, min_le_right _ _,
      fun hle => min_eq_right (hle.trans ha1)⟩

example := hint_honoured (1 / 4) 2 .nan (some 1) (1 / 2) (by norm_num) (by norm_num)

/-- An absent or non-finite hint defers to the fallback (sanitised). -/
theorem no_hint_defers (jitterS : Rat) (hint : Option FVal) (fb : FVal) (remaining : Option Rat)
    (u : Rat) (hh : ∀ h, hint ≠ some (.fin h)) :
    retryAfterOr jitterS hint fb remaining u =
      match remaining with
      | some r => min (max 0 (finiteOrZero fb)) r
      | none => max 0 (finiteOrZero fb) := by
  unfold retryAfterOr
  match hint, hh with
  | none, _ => rfl
  | some .nan, _ => rfl
  | some .posInf, _ => rfl
  | some .negInf, _ => rfl
  | some (.fin h), hh => exact absurd rfl (hh h)

example := no_hint_defers (1 / 4) (some .posInf) (.fin 3) (some 2) 0 (by intro h; simp)

/-- The runner's own `sanitize` (non-finite ↦ 0, `max 0`, `min remaining`) changes nothing on a
value produced by `retry_after_or` for the same non-negative remaining deadline. -/
theorem sanitize_idempotent_on_retry_after_or (jitterS : Rat) (hint : Option FVal) (fb : FVal)
    (r u : Rat) (hr : 0 ≤ r) :
    sanitize (.fin (retryAfterOr jitterS hint fb (some r) u)) r =
      retryAfterOr jitterS hint fb (some r) u := by
  obtain ⟨h1, h2⟩ := retry_after_or_bounds jitterS hint fb (some r) u
  have hle := h1 r rfl
  have h0 := h2 (by intro r' h; cases h; exact hr)
  simp only [sanitize, finiteOrZero]
  rw [max_eq_right h0, min_eq_left hle]

example := sanitize_idempotent_on_retry_after_or (1 / 4) (some (.fin 2)) .nan 1 (1 / 2) (by norm_num)

/-- … and when `retry_after_or` was not told the deadline, the runner's `sanitize` imposes it. -/
theorem sanitize_after_retry_after_or_none (jitterS : Rat) (hint : Option FVal) (fb : FVal)
    (r u : Rat) :
    sanitize (.fin (retryAfterOr jitterS hint fb none u)) r =
      retryAfterOr jitterS hint fb (some r) u := by
  have h0 : 0 ≤ retryAfterOr jitterS hint fb none u :=
    (retry_after_or_bounds jitterS hint fb none u).2 (by intro r h; cases h)
  simp only [sanitize, finiteOrZero]
  rw [max_eq_right h0]
  rfl

/-- So the delay the sleeper sees honours the hint: runner-side `sanitize` of the
strategy's value equals `min(h⁺ + jitter·u, r)`. -/
theorem hint_honoured_after_sanitize (jitterS h : Rat) (fb : FVal) (r u : Rat)
    (hr : 0 ≤ r) (hu0 : 0 ≤ u) :
    sanitize (.fin (retryAfterOr jitterS (some (.fin h)) fb (some r) u)) r =
      min (max 0 h + max 0 jitterS * u) r := by
  rw [sanitize_idempotent_on_retry_after_or _ _ _ _ _ hr]
  exact (hint_value jitterS h fb u hu0).2 r

example := hint_honoured_after_sanitize (1 / 4) 2 .nan 1 (1 / 2) (by norm_num) (by norm_num)

/-! The executable envelope predicates (what the driver evaluates on the implementation's
return values) accept every value of the model, for every non-negative tolerance. -/

theorem within_of_mem (lo hi rel eps v : Rat) (hrel : 0 ≤ rel) (heps : 0 ≤ eps)
    (h1 : lo ≤ v) (h2 : v ≤ hi) : within lo hi rel eps v = true := by
  have habs : ∀ q : Rat, 0 ≤ absQ q := by
    intro q; unfold absQ; split <;> linarith
  simp only [within, Bool.and_eq_true, decide_eq_true_eq]
  exact ⟨(sub_le_self _ (add_nonneg (mul_nonneg hrel (habs lo)) heps)).trans h1,
    h2.trans (le_add_of_nonneg_right (add_nonneg (mul_nonneg hrel (habs hi)) heps))⟩

example := within_of_mem 1 2 (1 / 1024) 0 (3 / 2) (by norm_num) (by norm_num) (by norm_num) (by norm_num)

/-- With zero tolerance `within` *is* membership in `[lo, hi]`. -/
theorem within_zero_iff (lo hi v : Rat) : within lo hi 0 0 v = true ↔ lo ≤ v ∧ v ≤ hi := by
  simp [within]

theorem decorrelatedEnv_model (base mx : Rat) (prev : Option Rat) (u rel eps : Rat)
    (hb : 0 ≤ base) (hm : base ≤ mx) (hp : ∀ p, prev = some p → 0 ≤ p)
    (hu0 : 0 ≤ u) (hu1 : u ≤ 1) (hrel : 0 ≤ rel) (heps : 0 ≤ eps) :
    decorrelatedEnv mx rel eps (.fin (decorrelatedJitter base mx prev u)) = true := by
  obtain ⟨h1, h2, _, _⟩ := decorrelated_in_range base mx prev u hb hm hp hu0 hu1
  exact within_of_mem _ _ _ _ _ hrel heps h1 h2

example := decorrelatedEnv_model (1 / 4) 30 none (1 / 2) (1 / 1024) 0 (by norm_num) (by norm_num) (by simp) (by norm_num) (by norm_num)
  (by norm_num) (by norm_num)

theorem capEnv_model (base mx : Rat) (attempt : Nat) (u rel eps : Rat)
    (hb : 0 ≤ base) (hm : base ≤ mx) (hu0 : 0 ≤ u) (hu1 : u ≤ 1) (hrel : 0 ≤ rel) (heps : 0 ≤ eps) :
    capEnv (cap base mx 2 attempt) rel eps (.fin (equalJitter base mx attempt u)) = true ∧
    capEnv (cap base mx (3 / 2) attempt) rel eps (.fin (tokenBackoff base mx attempt u)) = true := by
  obtain ⟨e1, e2⟩ := equal_jitter_envelope base mx attempt u hb hm hu0 hu1
  obtain ⟨t1, t2⟩ := token_backoff_envelope base mx attempt u hb hm hu0 hu1
  rw [cap_eq_capSpec base mx 2 attempt hb (by norm_num),
    cap_eq_capSpec base mx (3 / 2) attempt hb (by norm_num)]
  exact ⟨within_of_mem _ _ _ _ _ hrel heps e1 e2, within_of_mem _ _ _ _ _ hrel heps t1 t2⟩

example := capEnv_model (1 / 4) 30 7 (1 / 2) (1 / 1024) 0 (by norm_num) (by norm_num) (by norm_num) (by norm_num) (by norm_num) (by norm_num)

theorem adaptiveEnv_model (p : AdaptiveParams) (fb now : Rat) (ev : Events) (rel eps : Rat)
    (hv : p.valid = true) (hfb : 0 ≤ fb) (hrel : 0 ≤ rel) (heps : 0 ≤ eps) :
    multiplierEnv p.minM p.maxM rel (.fin (adaptiveMultiplier p ev now)) = true ∧
    adaptiveEnv fb p.minM p.maxM rel eps (.fin (adaptiveCall p fb now ev).1) = true := by
  obtain ⟨m1, m2⟩ := adaptive_multiplier_bounds p ev now hv
  obtain ⟨a1, a2, a3⟩ := adaptive_ge_fallback p fb now ev hv hfb
  exact ⟨within_of_mem _ _ _ _ _ hrel (le_refl _) m1 m2,
    within_of_mem _ _ _ _ _ hrel heps (max_le a1 a2) a3⟩

example := adaptiveEnv_model (⟨60, 9 / 10, 1, 5⟩ : AdaptiveParams) (3 / 2) 3 [(0, false), (1, false), (2, true)] (1 / 1024) 0
  ((valid_iff _).mpr (by norm_num) : (⟨60, 9 / 10, 1, 5⟩ : AdaptiveParams).valid = true) (by norm_num) (by norm_num) (by norm_num)

theorem retryAfterOrEnv_model (jitterS : Rat) (hint : Option FVal) (fb : FVal)
    (remaining : Option Rat) (u : Rat) (hr : ∀ r, remaining = some r → 0 ≤ r) :
    retryAfterOrEnv remaining (.fin (retryAfterOr jitterS hint fb remaining u)) = true := by
  obtain ⟨h1, h2⟩ := retry_after_or_bounds jitterS hint fb remaining u
  cases remaining with
  | none => simpa [retryAfterOrEnv] using h2 hr
  | some r => simpa [retryAfterOrEnv] using And.intro (h2 hr) (h1 r rfl)

example := retryAfterOrEnv_model (1 / 4) (some .nan) .negInf (some 2) 1
  (by intro r h; cases h; norm_num)

theorem hintEnv_model (jitterS h : Rat) (fb : FVal) (remaining : Option Rat) (u rel eps : Rat)
    (hu0 : 0 ≤ u) (hu1 : u ≤ 1) (hrel : 0 ≤ rel) (heps : 0 ≤ eps) :
    hintEnv jitterS h remaining rel eps
      (.fin (retryAfterOr jitterS (some (.fin h)) fb remaining u)) = true := by
  obtain ⟨hn, hs⟩ := hint_honoured jitterS h fb remaining u hu0 hu1
  cases remaining with
  | none =>
    obtain ⟨a, b⟩ := hn rfl
    exact within_of_mem _ _ _ _ _ hrel heps a b
  | some r =>
    obtain ⟨_, _, ⟨a, b⟩, _⟩ := hs r rfl
    exact within_of_mem _ _ _ _ _ hrel heps a b

example := hintEnv_model (1 / 4) 2 .nan (some 1) (1 / 2) (1 / 1024) 0 (by norm_num) (by norm_num) (by norm_num) (by norm_num)

/-- A µs-grid strategy output of the loop model (`Redress.SOut`), read as a float. -/
def ofSOut : Redress.SOut → FVal
  | .nan => .nan | .posInf => .posInf | .negInf => .negInf
  | .fin us => .fin (us : Rat)

/-- The `sanitize` used in the theorems above is the one of the retry-loop model
(`Redress.Retry.sanitize`, on the integer µs grid) read over the rationals. -/
theorem sanitize_agrees_with_runner_model (s : Redress.SOut) (remaining : Nat) :
    ((Redress.Retry.sanitize s remaining : Nat) : Rat) = sanitize (ofSOut s) (remaining : Rat) := by
  cases s with
  | fin us =>
    -- on the grid the two branches of the runner's `if` agree: `us ≤ 0` gives `us.toNat = 0`
    have hnat : Redress.Retry.sanitize (.fin us) remaining = min us.toNat remaining := by
      simp only [Redress.Retry.sanitize]
      split
      · rw [Int.toNat_of_nonpos ‹_›, Nat.zero_min]
      · rfl
    rw [hnat, Nat.cast_min, ← Int.cast_natCast us.toNat, Int.toNat_eq_max, Int.cast_max, max_comm,
      Int.cast_zero]
    rfl
  | _ => simp [Redress.Retry.sanitize, sanitize, ofSOut, finiteOrZero]

end Redress.Strategies
