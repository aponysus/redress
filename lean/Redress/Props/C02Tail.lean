/-
  C02 (tail guard) — the deadline envelope under a WEAKER environment assumption than `Mon.C02.ok`'s.

  `Mon.C02.ok` judges a run only when it is `quiet`: every exchange other than the operation and the
  sleeper has duration 0.  The library, however, measures the time remaining AFTER the classifier, the
  result classifier and the strategy's `record_failure` hook have run (`handleFailure2` reads the clock
  a second time after `stratRecordFailure`, and `grantRetry` clamps the backoff to `deadline - el` of
  THAT reading).  So time may pass in those callbacks too.  `Mon.C02.okTail` is `Mon.C02.ok` with the
  guard `quietTail` (time passes only in `free` requests); this file proves it of every model run.

  `quietTail` is the guard `CalmX` under which Props/C02 proves its chain of procedure specifications
  (the `free` requests are those whose kind is not still), so the theorem is read off `fin_run`.
-/
import Redress.Props.C02
import Redress.MonitorsNR

open Std.Do

-- (`Mon.C02.free`, `quietTail`, `okTail` are defined in Redress/MonitorsNR.lean)

namespace Redress.Props.C02Tail
open Redress Redress.Retry Redress.Mon Redress.Mon.C02 Redress.Props.C02

/-! ### the guards compared -/

theorem free_of_op_sleeper (r : Req) (h : isOp r = true ∨ isSleeper r = true) : free r = true := by
  cases r <;> simp_all [isOp, isSleeper, free]

/-- `quietTail` is the weaker guard … -/
theorem quietTail_of_quiet (t : Trace) (h : quiet t = true) : quietTail t = true := by
  simp only [quiet, quietTail, List.all_eq_true, Bool.or_eq_true, beq_iff_eq] at h ⊢
  intro x hx
  rcases h x hx with (h | h) | h
  · exact Or.inl (free_of_op_sleeper _ (Or.inl h))
  · exact Or.inl (free_of_op_sleeper _ (Or.inr h))
  · exact Or.inr h

/-- … so `okTail` is the stronger monitor -/
theorem ok_of_okTail (cfg : Cfg) (e : Entry) (t : Trace) (r : Res) (h : okTail cfg e t r = true) :
    Mon.C02.ok cfg e t r = true := by
  unfold Mon.C02.ok
  split
  · rename_i hc
    simp only [Bool.and_eq_true] at hc
    simpa [okTail, hc.1, quietTail_of_quiet t hc.2] using h
  · rfl

/-! ### tail-quietness on the newest-first log -/

/-- `quietTail`, as a proposition on the newest-first log -/
def QuietT (tr : List (Req × Ans)) : Prop := ∀ x ∈ tr, free x.1 = true ∨ x.2.dur = 0

theorem quietTail_iff (t : Trace) : quietTail t = true ↔ QuietT t := by
  simp [quietTail, QuietT]

/-- the `free` requests are those whose kind is not still -/
theorem free_eq (r : Req) : free r = !stillK r.kind := by
  cases r <;> rfl

theorem calm_of_free (x : Req × Ans) (h : free x.1 = true ∨ x.2.dur = 0) : CalmX x := fun hk =>
  h.resolve_left (by rw [free_eq, hk]; decide)

/-- the snapshot the C02 argument looks at, with tail-quietness as its `quiet` -/
def snapT (cfg : Cfg) (w : World) : Snap :=
  ⟨QuietT w.trace, HonestTr w.trace, cur cfg w.trace, w.rs.start, w.now⟩

/-- "the snapshot `g` is kept" on both exits -/
abbrev keptT (cfg : Cfg) (g : Snap) : PostCond α (.except Exn (.arg World .pure)) :=
  post⟨fun _ w => ⌜Keep g (snapT cfg w)⌝, fun _ w => ⌜Keep g (snapT cfg w)⌝⟩

section leaves
variable (g : Snap) (cfg : Cfg) (tl : Bool)

theorem recordStrategySuccess_k : ⦃fun w => ⌜snapT cfg w = g⌝⦄ recordStrategySuccess cfg ⦃keptT cfg g⦄ :=
  keep_of_foot_spec still_sub_inert calm_of_free cfg
    (fun w0 => recordStrategySuccess_foot stillK w0 rfl cfg) g

end leaves

/-! ### the theorems -/

/--
**C02 under the tail guard.**  For every configuration, every entry point and every world (every
answer stream, clock value, state of a shared budget or breaker) the run satisfies `Mon.C02.okTail`:
measured on the monotonic clock from the start of the call, whenever time passes only in attempts,
sleeps, the classifier, the result classifier and `strategy.record_failure` (`quietTail`) —

* the operation is never invoked again once more than `deadline` has elapsed;
* every backoff sleep requested fits the time then remaining (`elapsed + d ≤ deadline`), where
  `elapsed` INCLUDES the time the classifier(s) and `record_failure` took;
* after a failure observed at `elapsed ≥ deadline` the operation is not invoked and no sleep is requested;
* if moreover every sleep lasts at least as long as requested (`honestSleeper`), the total sleep
  requested is at most `deadline`.
-/
theorem envelope_tail_hold (cfg : Cfg) (e : Entry) (w : World) :
    Mon.C02.okTail cfg e (runEntry cfg e w).2.trace.reverse (runEntry cfg e w).1 = true := by
  unfold Mon.C02.okTail
  split
  · rename_i hc
    rw [Bool.and_eq_true] at hc
    exact verdict_of_fin (fin_run cfg e w hc.1) fun x hx =>
      calm_of_free x ((quietTail_iff _).mp hc.2 x (List.mem_reverse.mpr hx))
  · rfl

/-- …and therefore of every call in every script of calls and clock advances on ONE policy object. -/
theorem envelope_tail_hold_script (cfg : Cfg) : ∀ (steps : List Step) (w : World),
    ∀ l ∈ (runScript cfg steps w).1, Mon.C02.okTail cfg l.entry l.trace l.res = true :=
  forall_script (P := fun e t r => Mon.C02.okTail cfg e t r = true) cfg (envelope_tail_hold cfg)

/-! ### what acceptance means, and that the weaker guard has teeth where `quiet` has none -/

/-- what acceptance by `okTail` means for a tail-quiet log of an entry point with a retry loop: the
    `Envelope` of Props/C02, whose conjuncts (`no_attempt_after_deadline`, `sleep_le_remaining`,
    `total_sleep_le_deadline`, `late_failure_not_retried`) are stated about the log alone -/
theorem envelope_of_okTail {cfg : Cfg} {e : Entry} {t : Trace} {r : Res} (h : Mon.C02.okTail cfg e t r = true)
    (hl : hasLoop cfg e = true) (hq : quietTail t = true) : Envelope cfg t := by
  unfold Mon.C02.okTail at h
  rw [if_pos (by simp [hl, hq])] at h
  exact envelope_of_verdict (fun x hx => calm_of_free x ((quietTail_iff t).mp hq x hx)) h

/-- every tail-quiet run of the model through an entry point with a retry loop is within the envelope -/
theorem run_envelope_tail (cfg : Cfg) (e : Entry) (w : World) (hl : hasLoop cfg e = true)
    (hq : quietTail (runEntry cfg e w).2.trace.reverse = true) :
    Envelope cfg (runEntry cfg e w).2.trace.reverse :=
  envelope_of_okTail (envelope_tail_hold cfg e w) hl hq

/-- `max_attempts=3 deadline=10`, a context strategy with `record_failure` / `record_success` -/
def recCfg : Cfg := { maxAttempts := 3, deadline := 10, stratRecords := fun _ => true }

/-- (a) `strategy.record_failure` takes 4: the first attempt fails at elapsed 1, the library measures
    `remaining = 10 - 5 = 5` AFTER the hook, the strategy asks for 9, the sleep is clamped to 5. -/
def slowRecordLog : Trace :=
  [(.op 1, .raise (.ordinary 1 .transient) 1),
   (.classify "o1", .klass ⟨.transient, none⟩ 0),
   (.stratRecordFailure .default .transient, .unit 4),
   (.strategy .default .ctx (ceCtx 1 none 5), .delay (.fin 9) 0),
   (.sleeper .dflt 5, .unit 5),
   (.op 2, .value 42 0),
   (.stratRecordSuccess .default, .unit 0)]

/-- the log is not `quiet` (so `Mon.C02.ok` does not look at it) but tail-quiet, and accepted -/
example : quiet slowRecordLog = false ∧ quietTail slowRecordLog = true ∧
    honestSleeper slowRecordLog = true ∧ (run recCfg (retryTrace slowRecordLog)).bad = false ∧
    Mon.C02.okTail recCfg .call slowRecordLog (.ret 42) = true := by decide

/-- …and it is the model's own run on these answers (kernel evaluation of `runEntry`) -/
def slowRecordWorld : World :=
  { answers := [.raise (.ordinary 1 .transient) 1, .klass ⟨.transient, none⟩ 0, .unit 4, .delay (.fin 9) 0,
                .unit 5, .value 42 0, .unit 0] }

example : (runEntry recCfg .call slowRecordWorld).2.trace.reverse = slowRecordLog ∧
    (runEntry recCfg .call slowRecordWorld).1 = .ret 42 := by decide +kernel

/-- (b) the same log as a library with a STALE `remaining` would produce it: the clock reading taken
    before `record_failure` (elapsed 1, remaining 9) is reused, the strategy's 9 is not clamped, and the
    sleep ends at 14 > 10. -/
def staleRemainingLog : Trace :=
  [(.op 1, .raise (.ordinary 1 .transient) 1),
   (.classify "o1", .klass ⟨.transient, none⟩ 0),
   (.stratRecordFailure .default .transient, .unit 4),
   (.strategy .default .ctx (ceCtx 1 none 9), .delay (.fin 9) 0),
   (.sleeper .dflt 9, .unit 9),
   (.stratRecordSuccess .default, .unit 0)]

/-- `Mon.C02.ok` accepts it vacuously (not `quiet`); `okTail` judges it and rejects it -/
example : quiet staleRemainingLog = false ∧ Mon.C02.ok recCfg .call staleRemainingLog (.ret 42) = true ∧
    quietTail staleRemainingLog = true ∧ (run recCfg (retryTrace staleRemainingLog)).bad = true ∧
    Mon.C02.okTail recCfg .call staleRemainingLog (.ret 42) = false := by decide

/-! ### the guard cannot be weakened to the strategy call

The library does NOT read the clock again after `strategy(ctx)`: time that passes in the strategy is
not accounted for.  `max_attempts=3 deadline=10`; the strategy takes 6 to answer 9: the model requests
a sleep of 9 at elapsed 7.  So `strategy` (like every callback between the second clock reading and
the sleeper: budget, `retry` event hooks, abort poll, sleep handler, `before_sleep`; and like the
hooks between the post-sleep check and the next attempt, see `slowHookLog` in Props/C02) must stay
outside `free`. -/

def slowStrategyWorld : World :=
  { answers := [.raise (.ordinary 1 .transient) 1, .klass ⟨.transient, none⟩ 0, .unit 0, .delay (.fin 9) 6,
                .unit 9] }

def slowStrategyLog : Trace :=
  [(.op 1, .raise (.ordinary 1 .transient) 1),
   (.classify "o1", .klass ⟨.transient, none⟩ 0),
   (.stratRecordFailure .default .transient, .unit 0),
   (.strategy .default .ctx (ceCtx 1 none 9), .delay (.fin 9) 6),
   (.sleeper .dflt 9, .unit 9)]

example : (runEntry recCfg .call slowStrategyWorld).2.trace.reverse = slowStrategyLog := by decide +kernel

example : quietTail slowStrategyLog = false ∧ (run recCfg slowStrategyLog).bad = true := by decide

end Redress.Props.C02Tail

#print axioms Redress.Props.C02Tail.envelope_tail_hold
#print axioms Redress.Props.C02Tail.envelope_tail_hold_script
#print axioms Redress.Props.C02Tail.ok_of_okTail

