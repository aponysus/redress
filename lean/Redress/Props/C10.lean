/-
  Redress.Props.C10 — "Shared retry budget: at most max_retries retries per rolling window".

  Object of the theorems: the MODEL `Redress.Budget.{prune, consume, remaining}`
  (`Model/Budget.lean`, a transcription of `redress/budget.py`) iterated over an arbitrary history
  of operations on ONE shared budget (`run c {} h`).  Which policy or call issued an operation is
  irrelevant to the budget — the lock serialises them into one history — so "across all policies
  and calls sharing one Budget" is `∀ h : History`.

  Quantifiers: every `c : Cfg` (all budget sizes, all windows), every history `h` of any length
  with a non-decreasing clock (`Monotone h`, an explicit hypothesis; clock steps of 0 and steps
  landing exactly on `g + window` included), every `cost` (the code rejects `cost < 1`; the
  theorems hold for `cost = 0` too), every `t : Nat`.

  `0 < c.window` is the constructor's validation (`window_s <= 0` raises).

  Granted tokens are read off the run's OUTPUTS (`Log.grants`): `cost` copies of `now` for each
  consume that returned `True`.
-/
import Redress.Lemmas.BudgetLemmas

namespace Redress.Budget.C10

open Redress.Budget

/-- Running the model from the empty budget over any monotone history keeps
    `events = the grants still inside the window as of the last prune`, oldest first, with the
    full grant history sorted and not later than the last clock value. -/
theorem refinement_invariant (c : Cfg) (hw : 0 < c.window) (h : History) (hm : Monotone h) :
    Inv c (run c {} h).2 (run c {} h).1.grants (lastNow 0 h) := by
  obtain ⟨hl, hi⟩ := run_inv hw (Inv.init c 0) h hm
  rw [hl]; simpa using hi

theorem events_eq_live (c : Cfg) (hw : 0 < c.window) (h : History) (hm : Monotone h) :
    (run c {} h).2.events = live c.window (lastNow 0 h) (run c {} h).1.grants ∧
      (run c {} h).2.events.Pairwise (· ≤ ·) :=
  ⟨(refinement_invariant c hw h hm).events_eq, (refinement_invariant c hw h hm).events_sorted⟩

/-- The model's outputs equal the history-based spec's outputs for every monotone history. -/
theorem run_refines_spec (c : Cfg) (hw : 0 < c.window) (h : History) (hm : Monotone h) :
    (run c {} h).1 = specLog c [] h :=
  (run_inv hw (Inv.init c 0) h hm).1

-- non-vacuity: a monotone history with repeated instants, cost > 1, and an exact-boundary step
example : Monotone [.consume 0 2, .consume 0 1, .remaining 2, .consume 3 2, .remaining 3] := by decide
example : (0 : Nat) < ({ maxRetries := 2, window := 3 } : Cfg).window := by decide
example :
    (run { maxRetries := 2, window := 3 } {}
      [.consume 0 2, .consume 0 1, .remaining 2, .consume 3 2, .remaining 3]).1.map Prod.snd
      = [.granted true, .granted false, .remaining 0, .granted true, .remaining 0] := by decide

/-- For every history and EVERY time `t` (not only operation times), the number of granted
    tokens `g` with `t − window < g ≤ t` is at most `max_retries`.  (No `0 < window` needed: the
    half-open window of length 0 is empty.) -/
theorem window_bound (c : Cfg) (h : History) (hm : Monotone h) (t : Nat) :
    countIn c.window t (run c {} h).1.grants ≤ c.maxRetries := by
  by_cases hw : 0 < c.window
  · rw [run_refines_spec c hw h hm]
    have := spec_window_bound c [] h (by simp [countIn]) t
    simpa using this
  · have : c.window = 0 := by omega
    rw [this, countIn_zero_window]; exact Nat.zero_le _

theorem window_bound_fwd (c : Cfg) (h : History) (hm : Monotone h) (t : Nat) :
    countInFwd c.window t (run c {} h).1.grants ≤ c.maxRetries := by
  by_cases hw : 0 < c.window
  · rw [countInFwd_eq _ _ _ hw]; exact window_bound c h hm _
  · have : c.window = 0 := by omega
    rw [this, countInFwd_zero]; exact Nat.zero_le _

/-- The driver's finite check (windows ending at a grant time) is equivalent to the statement for
    every `t`, for ANY list of grant times — this is what makes `windowBoundOk` a faithful monitor
    on the implementation's recorded grants. -/
theorem window_bound_checker (max w : Nat) (grants : List Nat) :
    windowBoundOk max w grants = true ↔ ∀ t, countIn w t grants ≤ max :=
  windowBoundOk_iff max w grants

/-- The CLOSED interval of length exactly `window` can hold `max_retries + 1` grants: a token
    granted at `0` ages out at exactly `0 + window`, so a new one is granted at that instant
    (the code's `<=` in `_prune`; the property calls this capacity *returning* at age `window_s`). -/
example :
    let c : Cfg := { maxRetries := 1, window := 3 }
    let l := (run c {} [.consume 0 1, .consume 3 1]).1
    l.map Prod.snd = [.granted true, .granted true] ∧
      countInClosed c.window 3 l.grants = 2 ∧ countIn c.window 3 l.grants = 1 := by decide

/-- What `consume(cost)` returns after any monotone history, at a clock value `now` not before the
    last operation. -/
theorem consume_verdict (c : Cfg) (hw : 0 < c.window) (h : History) (hm : Monotone h)
    (now cost : Nat) (hnow : lastNow 0 h ≤ now) :
    (consume c (run c {} h).2 now cost).1 =
      decide (liveCount c.window now (run c {} h).1.grants + cost ≤ c.maxRetries) :=
  Out.granted.inj (step_inv hw (refinement_invariant c hw h hm) (.consume now cost) hnow).1

/-- The live count after any monotone history never exceeds the budget. -/
theorem liveCount_le (c : Cfg) (hw : 0 < c.window) (h : History) (hm : Monotone h)
    (now : Nat) (hnow : lastNow 0 h ≤ now) :
    liveCount c.window now (run c {} h).1.grants ≤ c.maxRetries := by
  have hi := refinement_invariant c hw h hm
  rw [← countIn_eq_liveCount _ fun g hg => Nat.le_trans (hi.le_last g hg) hnow]
  exact window_bound c h hm now

/-- After any monotone history, a `consume(cost)` at a clock value `now` not before the last
    operation is refused iff `#{g granted | g + window > now} + cost > max_retries`. -/
theorem refuse_only_when_full (c : Cfg) (hw : 0 < c.window) (h : History) (hm : Monotone h)
    (now cost : Nat) (hnow : lastNow 0 h ≤ now) :
    (consume c (run c {} h).2 now cost).1 = false ↔
      liveCount c.window now (run c {} h).1.grants + cost > c.maxRetries := by
  rw [consume_verdict c hw h hm now cost hnow]
  simp

theorem granted_iff_fits (c : Cfg) (hw : 0 < c.window) (h : History) (hm : Monotone h)
    (now cost : Nat) (hnow : lastNow 0 h ≤ now) :
    (consume c (run c {} h).2 now cost).1 = true ↔
      liveCount c.window now (run c {} h).1.grants + cost ≤ c.maxRetries := by
  rw [consume_verdict c hw h hm now cost hnow]
  simp

/-- "The window really is full": when a unit-cost consume is refused at `now`, the window
    `(now − window, now]` holds exactly `max_retries` granted tokens. -/
theorem refusal_window_full (c : Cfg) (hw : 0 < c.window) (h : History) (hm : Monotone h)
    (now : Nat) (hnow : lastNow 0 h ≤ now)
    (href : (consume c (run c {} h).2 now 1).1 = false) :
    countIn c.window now (run c {} h).1.grants = c.maxRetries := by
  have h1 := (refuse_only_when_full c hw h hm now 1 hnow).mp href
  have h2 := liveCount_le c hw h hm now hnow
  rw [countIn_eq_liveCount _ fun g hg =>
    Nat.le_trans ((refinement_invariant c hw h hm).le_last g hg) hnow]
  omega

example : Monotone [.consume 0 2, .remaining 1] ∧ lastNow 0 [.consume 0 2, .remaining 1] ≤ 2 := by
  decide
example :
    (consume { maxRetries := 2, window := 3 }
      (run { maxRetries := 2, window := 3 } {} [.consume 0 2, .remaining 1]).2 2 1).1 = false := by
  decide

/-- `remaining()` at `now` is `max_retries − #{g granted | g + window > now}`. -/
theorem capacity_returns (c : Cfg) (hw : 0 < c.window) (h : History) (hm : Monotone h)
    (now : Nat) (hnow : lastNow 0 h ≤ now) :
    (remaining c (run c {} h).2 now).1 =
      c.maxRetries - liveCount c.window now (run c {} h).1.grants :=
  Out.remaining.inj (step_inv hw (refinement_invariant c hw h hm) (.remaining now) hnow).1

/-- A grant made at `g ≤ now` counts at `now` iff its age is `< window`:
    age ≥ window ⇒ not counted, age < window ⇒ counted. -/
theorem live_iff_age (w now g : Nat) (grants : List Nat) (hg : g ∈ grants) (hle : g ≤ now) :
    (g ∈ live w now grants ↔ now - g < w) ∧ (w ≤ now - g → g ∉ live w now grants) := by
  rw [mem_live]
  constructor
  · constructor
    · rintro ⟨_, h⟩; omega
    · intro h; exact ⟨hg, by omega⟩
  · rintro h ⟨_, h'⟩; omega

/-- Between two instants `now ≤ now'` with no operation in between, `remaining` grows by
    exactly the number of grants whose age reaches `window` in `(now, now']`
    (`now < g + window ≤ now'`) — no earlier, no later. -/
theorem capacity_returns_exactly (c : Cfg) (hw : 0 < c.window) (h : History) (hm : Monotone h)
    (now now' : Nat) (hnow : lastNow 0 h ≤ now) (hle : now ≤ now') :
    (remaining c (run c {} h).2 now').1 =
      (remaining c (run c {} h).2 now).1 +
        (run c {} h).1.grants.countP
          (fun g => decide (now < g + c.window) && decide (g + c.window ≤ now')) := by
  rw [capacity_returns c hw h hm now hnow, capacity_returns c hw h hm now' (Nat.le_trans hnow hle)]
  have hs := liveCount_split c.window hle (run c {} h).1.grants
  -- the live count at `now` never exceeds max, so the truncated subtraction is exact
  have hb := liveCount_le c hw h hm now hnow
  omega

-- the exact boundary: granted at 0 with window 3 → still counted at 2, returned at 3
example :
    let c : Cfg := { maxRetries := 1, window := 3 }
    let s := (run c {} [.consume 0 1]).2
    (remaining c s 2).1 = 0 ∧ (remaining c s 3).1 = 1 := by decide

/-- On ANY state (no hypothesis): either the call is granted and the deque grows by exactly
    `cost` copies of `now` (after the prune), or it is refused and nothing is appended. -/
theorem consume_atomic (c : Cfg) (s : St) (now cost : Nat) :
    ((consume c s now cost).1 = true ∧
        (consume c s now cost).2.events = prune c.window now s.events ++ List.replicate cost now) ∨
    ((consume c s now cost).1 = false ∧
        (consume c s now cost).2.events = prune c.window now s.events) := by
  simp only [consume]
  split <;> simp

/-- At the level of histories: one more consume extends the granted-token history by exactly
    `cost` copies of `now`, or not at all — never by `0 < k < cost` copies. -/
theorem grants_atomic (c : Cfg) (h : History) (now cost : Nat) :
    let g := (run c {} h).1.grants
    let g' := (run c {} (h ++ [.consume now cost])).1.grants
    g' = g ++ List.replicate cost now ∨ g' = g := by
  simp only [run_append, grants_append, run_cons, run_nil, grants_cons, grants_nil, List.append_nil,
    step]
  cases (consume c (run c {} h).2 now cost).1 <;> simp [entryGrants]

/-! ## Without the clock hypothesis -/

theorem run_events_length_le (c : Cfg) (s : St) (h : History)
    (hs : s.events.length ≤ c.maxRetries) : (run c s h).2.events.length ≤ c.maxRetries := by
  induction h generalizing s with
  | nil => simpa using hs
  | cons op rest ih =>
    rw [run_cons]
    apply ih
    have hp := prune_length_le c.window op.now s.events
    cases op with
    | remaining now => simp only [step, remaining, Op.now] at hp ⊢; omega
    | consume now cost =>
      simp only [step, consume, Op.now] at hp ⊢
      split
      · simp only; omega
      · simp only [List.length_append, List.length_replicate]; omega

/-- The deque never holds more than `max_retries` tokens, for EVERY history (monotone or not). -/
theorem events_length_le (c : Cfg) (h : History) :
    (run c {} h).2.events.length ≤ c.maxRetries :=
  run_events_length_le c {} h (Nat.zero_le _)

/-- Remark (what fails without `Monotone`): `prune` is a pop-left loop, not a filter.  If the clock
    values are not non-decreasing the deque can be unsorted; then
    (a) an expired token hidden behind a fresh head is NOT popped, so a consume is refused although
        the window is not full (`refuse_only_when_full` fails, conservatively), and
    (b) a token popped at a late instant is forgotten when the clock steps back, so the
        sliding-window bound itself fails.
    `time.monotonic` rules this out for one thread; two threads that read the clock *outside* the
    lock can still enqueue out of order — that is C17's subject, not C10's. -/
example :
    let c : Cfg := { maxRetries := 2, window := 3 }
    let h : History := [.consume 5 1, .consume 1 1]          -- clock went backwards
    ¬ Monotone h ∧ (run c {} h).2.events = [5, 1] ∧
      prune c.window 5 [5, 1] = [5, 1] ∧ live c.window 5 [5, 1] = [5] ∧
      (consume c (run c {} h).2 5 1).1 = false ∧                     -- refused …
      liveCount c.window 5 (run c {} h).1.grants + 1 ≤ c.maxRetries   -- … although it fits
    := by decide

example :
    let c : Cfg := { maxRetries := 1, window := 3 }
    let h : History := [.consume 10 1, .remaining 13, .consume 11 1]   -- 13 then 11
    ¬ Monotone h ∧ (run c {} h).1.grants = [10, 11] ∧
      countIn c.window 11 (run c {} h).1.grants = 2 := by decide

/-- The model's own log passes every monitor the driver evaluates on the implementation's log. -/
theorem model_passes_monitors (c : Cfg) (hw : 0 < c.window) (h : History) (hm : Monotone h) :
    c10Ok c (run c {} h).1 = true ∧
      eventsOk c (run c {} h).1 (run c {} h).2.events = true := by
  constructor
  · have hspec : (shapeOk (run c {} h).1 && refusalOk c (run c {} h).1 &&
        remainingOk c (run c {} h).1) = true := by
      rw [monitors_iff_spec, run_ops]; exact run_refines_spec c hw h hm
    have hwb : windowBoundOk c.maxRetries c.window (run c {} h).1.grants = true :=
      (windowBoundOk_iff _ _ _).mpr (window_bound c h hm)
    simp only [c10Ok, Bool.and_eq_true] at hspec ⊢
    exact ⟨hspec, hwb⟩
  · simp only [eventsOk, run_ops, beq_iff_eq]
    exact (refinement_invariant c hw h hm).events_eq

/-- Soundness of the monitors for ANY recorded log `l` (in particular the implementation's): if
    `c10Ok c l` then `l` is exactly the spec's log for its operations and its grants satisfy the
    sliding-window bound at every `t`.  So a recorded log on which the implementation departs from
    the spec, or exceeds the bound, is rejected by `c10Ok`. -/
theorem monitors_sound (c : Cfg) (l : Log) (hok : c10Ok c l = true) :
    l = specLog c [] l.ops ∧ ∀ t, countIn c.window t l.grants ≤ c.maxRetries := by
  simp only [c10Ok, Bool.and_eq_true] at hok
  refine ⟨(monitors_iff_spec c l).mp ?_, (windowBoundOk_iff _ _ _).mp hok.2⟩
  simp only [Bool.and_eq_true]; exact hok.1

/-- Conversely the spec's log passes the per-entry monitors, so they are exact (no false alarm). -/
theorem monitors_complete (c : Cfg) (h : History) :
    let l := specLog c [] h
    (shapeOk l && refusalOk c l && remainingOk c l) = true := by
  simp only [monitors_iff_spec, specLog_ops]

end Redress.Budget.C10
