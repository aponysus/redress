/-
  C12 — call() and execute() agree (model level: T1 Retry.call/execute, T3 Policy.call/execute with a
  retry loop, T4 sync = async at the Retry level).

  "For the same configuration and the same behaviour of the operation, clock and callbacks, every entry
  point performs the same operation invocations, strategy calls, sleeps, emitted events and breaker and
  budget interactions.  call() and execute() differ only in how the identical final result is delivered:
  return or raise versus RetryOutcome."

  Sync/async, Retry / Policy / RetryPolicy / decorator / context forms all map to one of the four model
  entries (that they do is checked by the correspondence).  This file proves the model-level statement for
  the pair `Entry.call` / `Entry.execute` (`Retry.runCall` vs `Retry.runExecute`), for ALL configurations
  and ALL worlds (answer streams, clock, component states), as a relational (two-run) theorem:

    the two runs consume the same answers, log exactly the same exchanges in the same order (operation
    invocations, classifier and strategy calls, sleeps, sleep-handler calls, every metric / log event, budget
    interactions), end with the same clock, `_RetryState`, budget and breaker state, and their results
    are related by `Twin.deliverRelated` (the relation the driver checks on every random case).

  Hypotheses (all about the configuration and the call() log; see `okX` in `Lemmas/SimLock.lean`):
    * `hs`, `he`   no attempt hooks (`on_attempt_start` / `on_attempt_end`): execute() calls the end hook on
                   every abort exit and treats a raising hook as a failed attempt; call() does neither;
    * `hclean`     the abort predicate never raises (DESIGN §6.2: a raising `abort_if` before the operation
                   runs is a failed attempt for execute() only);
    * `hab`        no callback other than the operation raises `AbortRetryError` itself — FOUND WHILE
                   PROVING: once the operation has returned, execute() turns such an exception (from the
                   result classifier, a strategy, `record_success`, the sleep handler or the sleeper) into
                   an aborted outcome and emits an `aborted` event / sets `last_stop_reason`; call()
                   re-raises it without either (smallest world: `resultClassifier := true`, answers
                   `[value 7, raise (abort 1)]`);
    * `hop`        the operation does not raise the library's own `RuntimeError` sentinel
                   (`Exn.libRuntimeError`) or a library-made `CircuitOpenError(state)` (`Exn.libCircuitOpen`)
                   — FOUND WHILE PROVING: for those two kinds `Twin.deliverRelated` has dedicated clauses
                   (exhausted-with-nothing-recorded, breaker rejection) that a failed attempt's outcome does
                   not satisfy (smallest world: answers `[raise libRuntimeError, klass permanent]`: the two
                   logs and states agree, `deliverRelated` is false).  Environment-made exceptions of those
                   Python types are `Exn.ordinary` / `Exn.circuitOpen id` and are covered.
  The stronger internal form `call_execute_agree_env` needs only `Env` (`okX` of every exchange), which
  allows the abort predicate to raise BaseException-only kinds and `RetryExhaustedError`.

  Proof: `Lemmas/Sim.lean` (the simulation relation `Sim` up to `π`, closure lemmas, tactic, one lemma per
  shared procedure), `Lemmas/SimFacts.lean` (what the shared procedures leave alone / guarantee),
  `Lemmas/SimLock.lean` (the two modes in lock step: delivery, failed-attempt tail, result path, exception
  path, handler ladders, one attempt, induction on the loop's fuel, `runCall` vs `runExecute`),
  `Lemmas/SimPolicy.lean` (the policy wrappers: breaker admission, what each wrapper does with the loop's
  result, `ensure_settled`).

  T3 (`pcall_pexecute_agree`), T3-NR (`pcall_pexecute_agree_nr`, retry-less policies; `Lemmas/SimPolicyNR.lean`),
  T2 (`pcall_eq_call`, `pexecute_eq_execute`, `pcall_vs_retry_call`, `pexecute_vs_retry_execute`: a Policy
  without a breaker vs its Retry; `Lemmas/SimPolicy.lean`, `SimXc.lean`) and T4 (`async_irrelevant`,
  `async_irrelevant_policy`, `async_irrelevant_policy_log`; `Lemmas/SimPolicyNR.lean`, `SimCanc.lean`) have their
  own headers further down.
  Not proved: the general form of T3 in which execute() runs on the world with the breaker-classification
  answer removed (see the T3 header).
-/
import Redress.Lemmas.SimPolicyNR
import Redress.Lemmas.SimXc
import Redress.Lemmas.SimCanc

namespace Redress.Props.C12

open Redress Twin Retry

theorem toRes_world (r : EStateM.Result Exn World Nat) : (toRes r).2 = finalWorld r := by
  cases r <;> rfl

theorem toResO_world (tl : Bool) (r : EStateM.Result Exn World Outcome) : (toResO tl r).2 = finalWorld r := by
  cases r <;> rfl

theorem toRes_raised {r : EStateM.Result Exn World Nat} {e : Exn} (h : (toRes r).1 = .raised e) :
    r = .error e (toRes r).2 := by
  cases r with
  | ok v w => cases h
  | error e' w => injection h with h; rw [h]; rfl

theorem toResO_raised {tl : Bool} {r : EStateM.Result Exn World Outcome} {e : Exn}
    (h : (toResO tl r).1 = .raised e) : r = .error e (toResO tl r).2 := by
  cases r with
  | ok v w => cases h
  | error e' w => injection h with h; rw [h]; rfl

/-- an exchange whose answer is not a raise is always fine -/
theorem okX_of_not_raise (r : Req) (a : Ans) (h : ∀ e d, a ≠ .raise e d) : okX (r, a) := by
  unfold okX
  split <;> first | trivial | (rename_i heq; injection heq with _ h2; exact absurd h2 (h _ _))

/-- the three log hypotheses of T1 give the internal environment predicate -/
theorem env_of_hyps (t : List (Req × Ans))
    (hclean : ∀ x ∈ t, x.1 = .abortIf → ∀ e d, x.2 ≠ .raise e d)
    (hab : ∀ x ∈ t, (∀ n, x.1 ≠ .op n) → ∀ e d, x.2 = .raise e d → e.isAbort = false)
    (hop : ∀ x ∈ t, ∀ n e d, x = (.op n, .raise e d) → e ≠ .libRuntimeError ∧ ∀ st, e ≠ .libCircuitOpen st) :
    Env t := by
  intro x hx
  obtain ⟨r, a⟩ := x
  cases a with
  | raise e d =>
    cases r with
    | op n => exact hop _ hx n e d rfl
    | abortIf => exact absurd rfl (hclean _ hx rfl e d)
    | _ => exact hab _ hx (fun n h => by cases h) e d rfl
  | _ => exact okX_of_not_raise _ _ (fun e d h => by cases h)

/-- **T1, internal form**: under the environment predicate `Env` on the call() log. -/
theorem call_execute_agree_env (cfg : Cfg) (w : World)
    (hs : cfg.attemptStart = none) (he : cfg.attemptEnd = none)
    (henv : Env (runEntry cfg .call w).2.trace) :
    let rc := runEntry cfg .call w
    let re := runEntry cfg .execute w
    re.2.trace = rc.2.trace ∧ re.2.answers = rc.2.answers ∧ re.2.now = rc.2.now ∧
    re.2.budget = rc.2.budget ∧ re.2.breaker = rc.2.breaker ∧ re.2.rs = rc.2.rs ∧
    re.2.opCalls = rc.2.opCalls ∧ Twin.deliverRelated rc.1 re.1 = true := by
  intro rc re
  have hrc : rc.2 = finalWorld (runCall cfg (startWorld w)) := toRes_world _
  have hre : re.2 = finalWorld (runExecute cfg (startWorld w)) := toResO_world cfg.timeline _
  obtain ⟨hπ, hd⟩ := (run_rel hs he (startWorld w) (by rw [← hrc]; exact henv)).resRel.res cfg.timeline
  obtain ⟨h1, h2, h3, h4, h5, h6, h7, _, _⟩ := (π_iff _ _).mp hπ
  rw [hrc, hre]
  exact ⟨h3, h1, h2, h6, h7, h4, h5, hd⟩

/-- **T1 (C12, call() vs execute())**.  Without attempt hooks, if in the call() run the abort predicate
    never raises, no callback but the operation raises `AbortRetryError`, and the operation does not raise
    the library's own `RuntimeError` / `CircuitOpenError(state)` objects, then execute() on the same world
    logs exactly the same exchanges, consumes the same answers, ends with the same clock, `_RetryState`,
    budget and breaker, and delivers the related result. -/
theorem call_execute_agree (cfg : Cfg) (w : World)
    (hs : cfg.attemptStart = none) (he : cfg.attemptEnd = none)
    (hclean : ∀ x ∈ (runEntry cfg .call w).2.trace, x.1 = .abortIf → ∀ e d, x.2 ≠ .raise e d)
    (hab : ∀ x ∈ (runEntry cfg .call w).2.trace, (∀ n, x.1 ≠ .op n) →
      ∀ e d, x.2 = .raise e d → e.isAbort = false)
    (hop : ∀ x ∈ (runEntry cfg .call w).2.trace, ∀ n e d, x = (.op n, .raise e d) →
      e ≠ .libRuntimeError ∧ ∀ st, e ≠ .libCircuitOpen st) :
    let rc := runEntry cfg .call w
    let re := runEntry cfg .execute w
    re.2.trace = rc.2.trace ∧ re.2.answers = rc.2.answers ∧ re.2.now = rc.2.now ∧
    re.2.budget = rc.2.budget ∧ re.2.breaker = rc.2.breaker ∧ re.2.rs = rc.2.rs ∧
    Twin.deliverRelated rc.1 re.1 = true := by
  intro rc re
  have h := call_execute_agree_env cfg w hs he (env_of_hyps _ hclean hab hop)
  exact ⟨h.1, h.2.1, h.2.2.1, h.2.2.2.1, h.2.2.2.2.1, h.2.2.2.2.2.1, h.2.2.2.2.2.2.2⟩

/-! ### the environment the driver's self-check `Twin.callExecuteAgree` uses -/

/-- `Twin.c12Env` (what the driver requires of both logs before comparing the two modes) implies every
    hypothesis of T1. -/
theorem hyps_of_c12Env (cfg : Cfg) (t : List (Req × Ans)) (h : Twin.c12Env cfg t = true) :
    cfg.attemptStart = none ∧ cfg.attemptEnd = none ∧
    (∀ x ∈ t, x.1 = .abortIf → ∀ e d, x.2 ≠ .raise e d) ∧
    (∀ x ∈ t, (∀ n, x.1 ≠ .op n) → ∀ e d, x.2 = .raise e d → e.isAbort = false) := by
  unfold Twin.c12Env at h
  simp only [Bool.and_eq_true, Option.isNone_iff_eq_none, List.all_eq_true] at h
  obtain ⟨⟨h1, h2⟩, h3⟩ := h
  refine ⟨h1, h2, ?_, ?_⟩
  · intro x hx hr e d hxa
    have := h3 x hx
    rw [hr, hxa] at this
    simp at this
  · intro x hx hr e d hxa
    have := h3 x hx
    obtain ⟨r, a⟩ := x
    simp only at hr hxa
    subst hxa
    cases r with
    | op n => exact absurd rfl (hr n)
    | abortIf => simp at this
    | _ =>
      simp only [Bool.not_eq_true', Bool.or_eq_false_iff] at this
      exact this.1.1

/-- … and `hop` -/
theorem hop_of_c12Env (cfg : Cfg) (t : List (Req × Ans)) (h : Twin.c12Env cfg t = true) :
    ∀ x ∈ t, ∀ n e d, x = (.op n, .raise e d) → e ≠ .libRuntimeError ∧ ∀ st, e ≠ .libCircuitOpen st := by
  unfold Twin.c12Env at h
  simp only [Bool.and_eq_true, List.all_eq_true] at h
  intro x hx n e d hxe
  have := h.2 x hx
  subst hxe
  simp only [Bool.not_eq_true'] at this
  constructor
  · rintro rfl; simp [Twin.isLibMadeTerminal] at this
  · rintro st rfl; simp [Twin.isLibMadeTerminal] at this

/-- T1 under the driver's own environment predicate (on the call() log, oldest first as the driver
    passes it). -/
theorem call_execute_agree_c12Env (cfg : Cfg) (w : World)
    (h : Twin.c12Env cfg (runEntry cfg .call w).2.trace.reverse = true) :
    let rc := runEntry cfg .call w
    let re := runEntry cfg .execute w
    re.2.trace = rc.2.trace ∧ re.2.answers = rc.2.answers ∧ re.2.now = rc.2.now ∧
    re.2.budget = rc.2.budget ∧ re.2.breaker = rc.2.breaker ∧ re.2.rs = rc.2.rs ∧
    Twin.deliverRelated rc.1 re.1 = true := by
  obtain ⟨hs, he, hclean, hab⟩ := hyps_of_c12Env cfg _ h
  have hop := hop_of_c12Env cfg _ h
  exact call_execute_agree cfg w hs he
    (fun x hx => hclean x (List.mem_reverse.mpr hx))
    (fun x hx => hab x (List.mem_reverse.mpr hx))
    (fun x hx => hop x (List.mem_reverse.mpr hx))

/-! ### named corollaries (same hypotheses as T1, bundled) -/

/-- the hypotheses of T1 -/
structure Hyp (cfg : Cfg) (w : World) : Prop where
  noStartHook : cfg.attemptStart = none
  noEndHook : cfg.attemptEnd = none
  abortIfQuiet : ∀ x ∈ (runEntry cfg .call w).2.trace, x.1 = .abortIf → ∀ e d, x.2 ≠ .raise e d
  noForeignAbort : ∀ x ∈ (runEntry cfg .call w).2.trace, (∀ n, x.1 ≠ .op n) →
    ∀ e d, x.2 = .raise e d → e.isAbort = false
  opNotLibMade : ∀ x ∈ (runEntry cfg .call w).2.trace, ∀ n e d, x = (.op n, .raise e d) →
    e ≠ .libRuntimeError ∧ ∀ st, e ≠ .libCircuitOpen st

theorem same_log (cfg : Cfg) (w : World) (h : Hyp cfg w) :
    (runEntry cfg .execute w).2.trace = (runEntry cfg .call w).2.trace :=
  (call_execute_agree cfg w h.1 h.2 h.3 h.4 h.5).1

/-- the same operation invocations, strategy calls, sleeps and sleep-handler calls, in the same order, with
    the same arguments and answers -/
theorem same_invocations_and_sleeps (cfg : Cfg) (w : World) (h : Hyp cfg w) (p : Req → Bool) :
    (runEntry cfg .execute w).2.trace.filter (fun x => p x.1)
      = (runEntry cfg .call w).2.trace.filter (fun x => p x.1) := by
  rw [same_log cfg w h]

/-- the same emitted events (every metric / log hook invocation, with tags, in order) -/
theorem same_events (cfg : Cfg) (w : World) (h : Hyp cfg w) :
    (runEntry cfg .execute w).2.trace.filter (fun x => Twin.isHook x.1)
      = (runEntry cfg .call w).2.trace.filter (fun x => Twin.isHook x.1) :=
  same_invocations_and_sleeps cfg w h Twin.isHook

/-- the same budget and breaker interactions and final component states (and the C12 projection of the
    log that the driver compares is the same) -/
theorem same_budget_and_breaker (cfg : Cfg) (w : World) (h : Hyp cfg w) :
    (runEntry cfg .execute w).2.budget = (runEntry cfg .call w).2.budget ∧
    (runEntry cfg .execute w).2.breaker = (runEntry cfg .call w).2.breaker ∧
    Twin.projC12 (runEntry cfg .execute w).2.trace.reverse
      = Twin.projC12 (runEntry cfg .call w).2.trace.reverse := by
  have := call_execute_agree cfg w h.1 h.2 h.3 h.4 h.5
  exact ⟨this.2.2.2.1, this.2.2.2.2.1, by rw [this.1]⟩

/-- the identical final result, delivered by return / raise or as a RetryOutcome -/
theorem result_delivered_either_way (cfg : Cfg) (w : World) (h : Hyp cfg w) :
    Twin.deliverRelated (runEntry cfg .call w).1 (runEntry cfg .execute w).1 = true :=
  (call_execute_agree cfg w h.1 h.2 h.3 h.4 h.5).2.2.2.2.2.2

/-- call() returns `v` iff execute() returns a successful outcome carrying `v` -/
theorem returns_iff_ok (cfg : Cfg) (w : World) (h : Hyp cfg w) (v : Nat)
    (hv : (runEntry cfg .call w).1 = .ret v) :
    ∃ o t, (runEntry cfg .execute w).1 = .outcome o t ∧ o.ok = true ∧ o.value = some v := by
  have hd := result_delivered_either_way cfg w h
  rw [hv] at hd
  cases hx : (runEntry cfg .execute w).1 with
  | outcome o t =>
    rw [hx] at hd
    simp only [deliverRelated, Bool.and_eq_true, beq_iff_eq] at hd
    exact ⟨o, t, rfl, hd.1, hd.2⟩
  | ret v' => rw [hx] at hd; simp [deliverRelated] at hd
  | raised e => rw [hx] at hd; simp [deliverRelated] at hd

/-! ### T3: `Policy.call` vs `Policy.execute`, with a retry loop (`cfg.hasRetry = true`)

The wrappers differ in more than delivery (all found while proving; the first three are implementation
findings F11–F13 of the project, the fourth is an observation):
  * `max_attempts = 0`: call() classifies the library's own `RuntimeError` for the breaker, execute()
    records `UNKNOWN` (F11) — excluded by `hmax`;
  * the operation's `CircuitOpenError` (nested policy) re-raised by the loop: call() records a *cancel*,
    execute() a *failure* (F12) — excluded by `hco`;
  * (no-retry mode, F13, is outside this theorem: `hret`);
  * call() runs `record_success()` inside its `try`, execute() outside: a hook raising a BaseException-only
    kind on the `circuit_closed` event gives call() an extra `record_cancel` — excluded by `hhook`;
  * when the loop re-raises the operation's last exception, call() classifies it once more for the breaker
    (`classify_for_breaker`), execute() uses `outcome.last_class`.  That extra classifier call consumes an
    oracle answer and lets its duration pass, so on the SAME world the two runs can only agree when it
    returns the recorded class (`hclsOK`), takes no time and is not followed by further callback
    invocations (`hclsLast`: the newest callback exchange of the call() log is that classification).  The
    general statement — execute() on the world with that one answer removed — needs an
    "answers beyond those consumed are irrelevant" lemma for every procedure and is not proved here.
Conclusion: the logs agree after `Twin.projC12` (which drops classifier calls and attempt hooks), the clock,
budget, breaker, `_RetryState` and `ExecutionContext` agree, and the results are `deliverRelated`. -/

/-- the world in which a policy call passes admission: a fresh log, timeline and `ExecutionContext` -/
def admitWorld (w : World) : World := { startWorld w with xc := { start := w.now } }

/-- `runEntry` for `Policy.call`: the admitted part, then `ensure_settled` -/
theorem runEntry_pcall (cfg : Cfg) (w : World) :
    runEntry cfg .pcall w = ((toRes (Policy.callAdmitted cfg (admitWorld w))).1,
      settle cfg (finalWorld (Policy.callAdmitted cfg (admitWorld w)))) := by
  show toRes (Policy.call cfg (startWorld w)) = _
  rw [policy_run_call, toRes_mapRes, toRes_world]
  rfl

theorem runEntry_pexecute (cfg : Cfg) (w : World) :
    runEntry cfg .pexecute w =
      ((toResO (cfg.timeline && cfg.hasRetry) (Policy.executeAdmitted cfg (admitWorld w))).1,
        settle cfg (finalWorld (Policy.executeAdmitted cfg (admitWorld w)))) := by
  show toResO _ (Policy.execute cfg (startWorld w)) = _
  rw [policy_run_execute, toResO_mapRes _ (settle_timeline cfg), toResO_world]
  rfl

/-- **T3 (C12, Policy.call() vs Policy.execute(), retrying policies).** -/
theorem pcall_pexecute_agree (cfg : Cfg) (w : World)
    (hret : cfg.hasRetry = true) (hs : cfg.attemptStart = none) (he : cfg.attemptEnd = none)
    (hmax : 0 < cfg.maxAttempts)
    (hclean : ∀ x ∈ (runEntry cfg .pcall w).2.trace, x.1 = .abortIf → ∀ e d, x.2 ≠ .raise e d)
    (hab : ∀ x ∈ (runEntry cfg .pcall w).2.trace, (∀ n, x.1 ≠ .op n) →
      ∀ e d, x.2 = .raise e d → e.isAbort = false)
    (hop : ∀ x ∈ (runEntry cfg .pcall w).2.trace, ∀ n e d, x = (.op n, .raise e d) →
      e ≠ .libRuntimeError ∧ ∀ st, e ≠ .libCircuitOpen st)
    (hco : ∀ id, (runEntry cfg .pcall w).1 ≠ .raised (.circuitOpen id))
    (hhook : HookOK (runEntry cfg .pcall w).2.trace)
    (hclsOK : ∀ x ∈ (runEntry cfg .pcall w).2.trace, ∀ e,
      (runEntry cfg .pcall w).2.rs.lastExc = some e → x.1 = .classify e.ref →
      ∃ c d, x.2 = .klass c d ∧ (runEntry cfg .pcall w).2.rs.lastClass = some c.klass)
    (hclsLast : ∀ e, (runEntry cfg .pcall w).1 = .raised e →
      (runEntry cfg .pcall w).2.rs.lastExc = some e → e.isException = true →
      ∃ a rest, (runEntry cfg .pcall w).2.trace.filter (fun x => !Twin.isInternal x.1)
          = (.classify e.ref, a) :: rest ∧ a.dur = 0) :
    let rc := runEntry cfg .pcall w
    let re := runEntry cfg .pexecute w
    Twin.projC12 re.2.trace = Twin.projC12 rc.2.trace ∧ re.2.now = rc.2.now ∧
    re.2.budget = rc.2.budget ∧ re.2.breaker = rc.2.breaker ∧ re.2.rs = rc.2.rs ∧ re.2.xc = rc.2.xc ∧
    re.2.opCalls = rc.2.opCalls ∧ Twin.deliverRelated rc.1 re.1 = true := by
  intro rc re
  have henv := env_of_hyps _ hclean hab hop
  rw [runEntry_pcall] at henv hco hhook hclsOK hclsLast
  obtain ⟨hp, hd⟩ := (admitted_rel hret hs he hmax (admitWorld w) rfl
    (PolHyp.of_settled henv hhook hco hclsOK hclsLast)).res (cfg.timeline && cfg.hasRetry)
  rw [show rc = _ from runEntry_pcall cfg w, show re = _ from runEntry_pexecute cfg w]
  exact ⟨hp.trace, hp.now, hp.budget, hp.breaker, hp.rs, hp.xc, hp.opCalls, hd⟩

/-! ### T3-NR: `Policy.call` vs `Policy.execute` without a retry loop (`cfg.hasRetry = false`)

Both wrappers run from the same world and — under the hypotheses — do exactly the same things in the same
order, so the conclusion is EQUALITY of the two final worlds (log, clock, answers, breaker, budget, …) and
`deliverRelated` results.  What has to be excluded (model = code; found while proving unless marked):
  * `hend` — the call-level `on_attempt_end` hook.  The two paths call it at different moments:
    call() runs it BEFORE `record_success` / `record_failure` / `record_cancel` and inside its `try`,
    execute() AFTER them and (on success) outside any `try`.  So (a) with a breaker that emits an event, or
    a hook that takes time, the oracle answers / the clock seen by the breaker differ; (b) a hook that
    raises after a successful operation makes call() record a FAILURE (or a cancel) on the breaker via its
    ladder while execute() has already recorded SUCCESS; (c) for `RetryExhaustedError` and circuit-open
    kinds call() does not run the hook at all, execute() does.  The start hook is harmless (both paths run
    it first and treat its exception like the operation's), so `cAttemptStart` is not restricted;
  * `LadderOK` for whatever the operation (or the start hook) raises: not the library's own
    `RuntimeError` / `CircuitOpenError(state)` / `RetryExhaustedError(...)` objects (`deliverRelated` has
    dedicated clauses for them); a circuit-open kind only without a breaker (F12: call() → nothing, then
    cancel; execute() → failure); a `RetryExhaustedError` only without a breaker or with `last_class`
    unset / UNKNOWN (F13: call() records `exc.last_class`, execute() `default_classifier(exc)` = UNKNOWN);
  * `hhook` — as in T3: call() runs `record_success()` inside its `try`, so a hook raising a
    BaseException-only kind on the `circuit_closed` event gives call() an extra `record_cancel`. -/

/-- **T3-NR (C12, Policy.call() vs Policy.execute(), retry-less policies).** -/
theorem pcall_pexecute_agree_nr (cfg : Cfg) (w : World)
    (hret : cfg.hasRetry = false) (hend : cfg.cAttemptEnd = false)
    (hlad : ∀ x ∈ (runEntry cfg .pcall w).2.trace, entersLadder x.1 = true →
      ∀ e d, x.2 = .raise e d → LadderOK cfg e)
    (hhook : HookOK (runEntry cfg .pcall w).2.trace) :
    (runEntry cfg .pexecute w).2 = (runEntry cfg .pcall w).2 ∧
    Twin.deliverRelated (runEntry cfg .pcall w).1 (runEntry cfg .pexecute w).1 = true := by
  rw [runEntry_pcall] at hlad hhook
  obtain ⟨hw, hd⟩ := (admitted_nr hret hend (admitWorld w) rfl
    ⟨fun x hx => hlad x (settle_grows cfg _ x hx), hhook.mono (settle_grows cfg _)⟩).res (cfg.timeline && cfg.hasRetry)
  rw [runEntry_pcall, runEntry_pexecute]
  exact ⟨by rw [hw], hd⟩

/-- T3-NR in the shape of T3: projected logs, clock, budget, breaker, `ExecutionContext` -/
theorem pcall_pexecute_agree_nr' (cfg : Cfg) (w : World)
    (hret : cfg.hasRetry = false) (hend : cfg.cAttemptEnd = false)
    (hlad : ∀ x ∈ (runEntry cfg .pcall w).2.trace, entersLadder x.1 = true →
      ∀ e d, x.2 = .raise e d → LadderOK cfg e)
    (hhook : HookOK (runEntry cfg .pcall w).2.trace) :
    let rc := runEntry cfg .pcall w
    let re := runEntry cfg .pexecute w
    Twin.projC12 re.2.trace = Twin.projC12 rc.2.trace ∧ re.2.trace = rc.2.trace ∧ re.2.answers = rc.2.answers ∧
    re.2.now = rc.2.now ∧ re.2.budget = rc.2.budget ∧ re.2.breaker = rc.2.breaker ∧ re.2.xc = rc.2.xc ∧
    Twin.deliverRelated rc.1 re.1 = true := by
  intro rc re
  obtain ⟨h1, h2⟩ := pcall_pexecute_agree_nr cfg w hret hend hlad hhook
  have h1' : re.2 = rc.2 := h1
  rw [h1']
  exact ⟨rfl, rfl, rfl, rfl, rfl, rfl, rfl, h2⟩

/-- `LadderOK` is satisfiable by the interesting kinds: an ordinary exception, an abort, a
    `RetryExhaustedError` without `last_class`, KeyboardInterrupt — with any breaker -/
example (cfg : Cfg) : LadderOK cfg (.ordinary 1 .transient) ∧ LadderOK cfg (.abort 2) ∧
    LadderOK cfg (.exhausted 3 none) ∧ LadderOK cfg .keyboardInterrupt := by
  refine ⟨?_, ?_, ?_, ?_⟩ <;>
    exact ⟨(fun h => by cases h), (fun h => by cases h), (fun _ h => by cases h),
      (fun _ => by first | exact Or.inr rfl | contradiction)⟩

/-! ### T2: a Policy without a breaker does what its Retry does (`cfg.breaker = none`, `cfg.hasRetry = true`)

Exact equations, no environment hypotheses.  The only difference: when the retry loop ends by RAISING an
`Exception` that is neither an abort, nor a `RetryExhaustedError`, nor a circuit-open kind
(`needsBreakerClass e`), both `Policy.call` and `Policy.execute` classify it once more
(`_handle_exception_call` → `classify_for_breaker`, although there is no breaker): one more `classify`
exchange at the end of the log, and if that classifier call itself fails, its exception replaces the
original one (`classifyAgain`).  `Retry.call/execute` start from whatever `ExecutionContext` the world
holds (they never look at it); `Policy.*` creates a fresh one, hence `xc := { start := w.now }` on the right. -/

/-- **T2 (call)**. -/
theorem pcall_eq_call (cfg : Cfg) (w : World) (hret : cfg.hasRetry = true) (hb : cfg.breaker = none) :
    runEntry cfg .pcall w =
      (match runEntry cfg .call { w with xc := { start := w.now } } with
       | (Res.raised e, w') =>
         if needsBreakerClass e = true then (Res.raised (classifyAgain e w').1, (classifyAgain e w').2)
         else (Res.raised e, w')
       | r => r) := by
  exact policyCall_nb hret hb (startWorld w)

/-- **T2 (execute)**. -/
theorem pexecute_eq_execute (cfg : Cfg) (w : World) (hret : cfg.hasRetry = true) (hb : cfg.breaker = none) :
    runEntry cfg .pexecute w =
      (match runEntry cfg .execute { w with xc := { start := w.now } } with
       | (Res.raised e, w') =>
         if needsBreakerClass e = true then (Res.raised (classifyAgain e w').1, (classifyAgain e w').2)
         else (Res.raised e, w')
       | r => r) := by
  show toResO (cfg.timeline && cfg.hasRetry) _ = _
  rw [hret, Bool.and_true]
  exact policyExecute_nb hret hb cfg.timeline (startWorld w)

/-- whenever `Retry.execute` returns an outcome (it raises only what a callback raised in the handler
    region, BaseException-only kinds, …), `Policy.execute` is the same run: identical result, log, state -/
theorem pexecute_same_outcome (cfg : Cfg) (w : World) (hret : cfg.hasRetry = true) (hb : cfg.breaker = none)
    (o : Outcome) (t : List TimelineEv)
    (h : (runEntry cfg .execute { w with xc := { start := w.now } }).1 = .outcome o t) :
    runEntry cfg .pexecute w = runEntry cfg .execute { w with xc := { start := w.now } } := by
  rw [pexecute_eq_execute cfg w hret hb]
  generalize runEntry cfg .execute { w with xc := { start := w.now } } = r at h ⊢
  obtain ⟨r1, r2⟩ := r
  simp only at h
  subst h
  rfl

/-- `Policy.call` returns / raises what `Retry.call` does, with the same log, unless the loop raised an
    exception that gets classified for the breaker -/
theorem pcall_same (cfg : Cfg) (w : World) (hret : cfg.hasRetry = true) (hb : cfg.breaker = none)
    (h : ∀ e, (runEntry cfg .call { w with xc := { start := w.now } }).1 = .raised e →
      needsBreakerClass e = false) :
    runEntry cfg .pcall w = runEntry cfg .call { w with xc := { start := w.now } } := by
  rw [pcall_eq_call cfg w hret hb]
  generalize runEntry cfg .call { w with xc := { start := w.now } } = r at h ⊢
  obtain ⟨r1, r2⟩ := r
  cases r1 with
  | raised e =>
    simp only
    rw [h e rfl]
    simp
  | _ => rfl

/-- in every case: the same `_RetryState`, budget, breaker, operation count and C12-projection of the log;
    the log itself is the Retry's log plus at most one `classify` exchange; the result is the same
    provided that extra classifier call (if any) returns a class -/
theorem pcall_vs_call (cfg : Cfg) (w : World) (hret : cfg.hasRetry = true) (hb : cfg.breaker = none) :
    let rp := runEntry cfg .pcall w
    let rc := runEntry cfg .call { w with xc := { start := w.now } }
    rp.2.rs = rc.2.rs ∧ rp.2.budget = rc.2.budget ∧ rp.2.breaker = rc.2.breaker ∧
    rp.2.opCalls = rc.2.opCalls ∧ rp.2.xc = rc.2.xc ∧
    Twin.projC12 rp.2.trace = Twin.projC12 rc.2.trace ∧
    (rp = rc ∨ ∃ e a, rc.1 = .raised e ∧ needsBreakerClass e = true ∧
      rp.2.trace = (.classify e.ref, a) :: rc.2.trace ∧ rp.2.now = rc.2.now + a.dur ∧
      ((∃ c d, a = .klass c d) → rp.1 = rc.1)) := by
  intro rp rc
  obtain ⟨h1, h2, h3, h4, h5, h6, h7⟩ := reclassify_spec rc
  rw [show rp = reclassify rc from pcall_eq_call cfg w hret hb]
  exact ⟨h1, h2, h3, h4, h5, h6, h7.imp (·.1) id⟩

/-! #### …and the `ExecutionContext` the world happens to hold is irrelevant to `Retry.call/execute`

(`Lemmas/SimXc.lean`: every procedure of the loop commutes with replacing `World.xc`), so T2 can be stated
against `runEntry cfg .call w` itself. -/

theorem call_xc (cfg : Cfg) (w : World) (c : XCtx) :
    runEntry cfg .call { w with xc := c }
      = ((runEntry cfg .call w).1, { (runEntry cfg .call w).2 with xc := c }) := by
  show toRes (runCall cfg (θ c (startWorld w))) = _
  rw [(runCall_xq (xc0 := c) cfg).eq, toRes_mapRes]
  rfl

theorem execute_xc (cfg : Cfg) (w : World) (c : XCtx) :
    runEntry cfg .execute { w with xc := c }
      = ((runEntry cfg .execute w).1, { (runEntry cfg .execute w).2 with xc := c }) := by
  show toResO cfg.timeline (runExecute cfg (θ c (startWorld w))) = _
  rw [(runExecute_xq (xc0 := c) cfg).eq, toResO_mapRes (θ c) (fun _ => rfl)]
  rfl

/-- **T2 (call), against `Retry.call` on the same world**: same `_RetryState`, budget, breaker, operation
    count, the same log up to one trailing `classify` exchange (present exactly when `Retry.call` raised
    an exception `e` with `needsBreakerClass e`), and the same result provided that classifier call (if
    any) returns a class. -/
theorem pcall_vs_retry_call (cfg : Cfg) (w : World) (hret : cfg.hasRetry = true) (hb : cfg.breaker = none) :
    let rp := runEntry cfg .pcall w
    let rc := runEntry cfg .call w
    rp.2.rs = rc.2.rs ∧ rp.2.budget = rc.2.budget ∧ rp.2.breaker = rc.2.breaker ∧
    rp.2.opCalls = rc.2.opCalls ∧ Twin.projC12 rp.2.trace = Twin.projC12 rc.2.trace ∧
    ((rp.1 = rc.1 ∧ rp.2.trace = rc.2.trace ∧ rp.2.answers = rc.2.answers ∧ rp.2.now = rc.2.now ∧
        ∀ e, rc.1 = .raised e → needsBreakerClass e = false) ∨
     ∃ e a, rc.1 = .raised e ∧ needsBreakerClass e = true ∧
      rp.2.trace = (.classify e.ref, a) :: rc.2.trace ∧ rp.2.now = rc.2.now + a.dur ∧
      ((∃ c d, a = .klass c d) → rp.1 = rc.1)) := by
  intro rp rc
  obtain ⟨h1, h2, h3, h4, _, h6, h7⟩ := reclassify_spec (rc.1, { rc.2 with xc := { start := w.now } })
  have hrp : rp = reclassify (rc.1, { rc.2 with xc := { start := w.now } }) :=
    (pcall_eq_call cfg w hret hb).trans (by rw [call_xc]; rfl)
  rw [hrp]
  exact ⟨h1, h2, h3, h4, h6, h7.imp (fun h => by rw [h.1]; exact ⟨rfl, rfl, rfl, rfl, h.2⟩) id⟩

/-- **T2 (execute), against `Retry.execute` on the same world**: whenever `Retry.execute` returns an
    outcome, `Policy.execute` returns the same outcome (and timeline) with the identical log and state
    (but for the `ExecutionContext` it created) -/
theorem pexecute_vs_retry_execute (cfg : Cfg) (w : World) (hret : cfg.hasRetry = true)
    (hb : cfg.breaker = none) (o : Outcome) (t : List TimelineEv)
    (h : (runEntry cfg .execute w).1 = .outcome o t) :
    runEntry cfg .pexecute w
      = (.outcome o t, { (runEntry cfg .execute w).2 with xc := { start := w.now } }) := by
  have h1 := pexecute_same_outcome cfg w hret hb o t (by rw [execute_xc]; exact h)
  rw [h1, execute_xc, h]

/-! ### T4 (Retry level): sync and async entry points are the same model function

The async runner differs from the sync one only by `await` and, at the Policy level, by the extra
`except asyncio.CancelledError` arm (`cfg.isAsync`).  `Retry.call` / `Retry.execute` never read the flag. -/

/-- **T4 (Retry level)**: `cfg.isAsync` is irrelevant for `call` and `execute` — the sync and async
    `Retry` entry points are the same function of configuration and world. -/
theorem async_irrelevant (cfg : Cfg) (b : Bool) (w : World) :
    runEntry { cfg with isAsync := b } .call w = runEntry cfg .call w ∧
    runEntry { cfg with isAsync := b } .execute w = runEntry cfg .execute w := by
  constructor
  · show toRes ((runCall { cfg with isAsync := b }).run _) = toRes ((runCall cfg).run _)
    rw [runCall_async]
  · show toResO cfg.timeline ((runExecute { cfg with isAsync := b }).run _) = toResO cfg.timeline ((runExecute cfg).run _)
    rw [runExecute_async]

/-! ### T4 for the policy entries

`cfg.isAsync` is read only by the `except` ladders of `Policy.call` and `_execute_without_retry`
(`except asyncio.CancelledError: record_cancel(); raise`).  When a `CancelledError` reaches such a ladder
the call ends by raising it — in both flavours; they then differ only in WHEN the cancel is recorded
(at once / by `ensure_settled`), which is observable when the breaker was already settled (e.g. the
`circuit_closed` hook raised the CancelledError after `record_success`).  So: unless the call ends by
raising `CancelledError`, the sync and the async policy are the same function
(`async_irrelevant_policy`).  A run whose log contains no exchange answered `raise cancelled` cannot end
that way (`cancelled_comes_from_log`, from `Lemmas/SimCanc.lean`), which gives the statement about the
log (`async_irrelevant_policy_log`); the result-based hypothesis is the weaker one. -/

theorem settle_async (cfg : Cfg) (b : Bool) (w : World) : settle { cfg with isAsync := b } w = settle cfg w := rfl

/-- **T4 (policy level)**. -/
theorem async_irrelevant_policy (cfg : Cfg) (b : Bool) (w : World) :
    ((runEntry cfg .pcall w).1 ≠ .raised .cancelled →
      runEntry { cfg with isAsync := b } .pcall w = runEntry cfg .pcall w) ∧
    ((runEntry cfg .pexecute w).1 ≠ .raised .cancelled →
      runEntry { cfg with isAsync := b } .pexecute w = runEntry cfg .pexecute w) := by
  constructor
  · intro h
    rw [runEntry_pcall] at h
    rw [runEntry_pcall, runEntry_pcall, settle_async]
    rcases callAdmitted_async cfg b (admitWorld w) with heq | ⟨w', hc⟩
    · rw [heq]
    · rw [hc] at h
      exact absurd rfl h
  · intro h
    rw [runEntry_pexecute] at h
    rw [runEntry_pexecute, runEntry_pexecute, settle_async]
    rcases executeAdmitted_async cfg b (admitWorld w) with heq | ⟨w', hc⟩
    · rw [heq]
    · rw [hc] at h
      exact absurd rfl h

/-- an escaping `CancelledError` comes from the log: a call of any entry point that ends by raising
    `CancelledError` has an exchange answered `raise cancelled` in its log (`Lemmas/SimCanc.lean`: the
    library never raises it itself, `_RetryState.last_exc` never holds it) -/
theorem cancelled_comes_from_log (cfg : Cfg) (e : Entry) (w : World)
    (h : (runEntry cfg e w).1 = .raised .cancelled) : HasC (runEntry cfg e w).2.trace := by
  have key : ∀ {α : Type} {x : M α} {w0 w' : World}, NC JT none x → x w0 = .error .cancelled w' → HasC w'.trace :=
    fun hx hw' => ((hx.run _ trivial).2.2 _ hw').resolve_right (fun h1 => by cases h1)
  cases e with
  | call => exact key (runCall_nc cfg) (toRes_raised h)
  | execute => exact key (runExecute_nc cfg) (toResO_raised h)
  | pcall => exact key (call_nc cfg) (toRes_raised h)
  | pexecute => exact key (execute_nc cfg) (toResO_raised h)

/-- **T4 (policy level), as a statement about the log**: if no exchange of the run is answered
    `raise CancelledError`, the sync and the async policy are the same function. -/
theorem async_irrelevant_policy_log (cfg : Cfg) (b : Bool) (w : World) (e : Entry)
    (he : e = .pcall ∨ e = .pexecute)
    (hlog : ∀ x ∈ (runEntry cfg e w).2.trace, ∀ d, x.2 ≠ .raise .cancelled d) :
    runEntry { cfg with isAsync := b } e w = runEntry cfg e w := by
  have hne : (runEntry cfg e w).1 ≠ .raised .cancelled := by
    intro h
    obtain ⟨r, d, hm⟩ := cancelled_comes_from_log cfg e w h
    exact hlog _ hm d rfl
  rcases he with rfl | rfl
  · exact (async_irrelevant_policy cfg b w).1 hne
  · exact (async_irrelevant_policy cfg b w).2 hne

/-! ### call() does not look at `capture_timeline`

The driver's self-check `Twin.callExecuteAgree` runs the twin with `timeline := false`; for call() that is
the same run, so T1 (any `cfg.timeline` on the execute side) covers what the driver compares. -/

theorem call_ignores_timeline (cfg : Cfg) (b : Bool) (w : World) :
    runEntry { cfg with timeline := b } .call w = runEntry cfg .call w := by
  show toRes ((runCall { cfg with timeline := b }).run _) = toRes ((runCall cfg).run _)
  unfold runCall
  rw [callLoop_congr (cfg' := { cfg with timeline := b }) (cfg := cfg) (fun _ => rfl) rfl]

/-! ### the hypotheses are satisfiable by non-trivial logs (about the hypotheses only; no run is evaluated) -/

/-- a log with a failing operation, a poll, a metric hook that raises, a strategy call, a sleep, then an
    operation that raises AbortRetryError: every exchange is within the environment -/
example : Env
    [ (.op 2, .raise (.abort 5) 1),
      (.abortIf, .bool false 0),
      (.sleeper .dflt 3, .unit 3),
      (.metric .retry 1 3 {}, .raise (.ordinary 9 .unknown) 0),
      (.strategy .default .ctx { attempt := 1, klass := .transient, retryAfter := none, prev := none,
                                 remaining := 60, cause := .exception }, .delay (.fin 3) 0),
      (.classify "o1", .klass { klass := .transient } 0),
      (.abortIf, .bool false 0),
      (.op 1, .raise (.ordinary 1 .transient) 2) ] := by
  intro x hx
  simp only [List.mem_cons, List.not_mem_nil, or_false] at hx
  rcases hx with rfl | rfl | rfl | rfl | rfl | rfl | rfl | rfl <;> simp [okX, Exn.isAbort]

/-- …and it satisfies the three log hypotheses of `call_execute_agree` as stated -/
example :
    let t : List (Req × Ans) :=
      [ (.op 2, .raise (.abort 5) 1), (.abortIf, .bool true 0),
        (.metric .retry 1 3 {}, .raise (.ordinary 9 .unknown) 0),
        (.op 1, .raise (.ordinary 1 .transient) 2) ]
    (∀ x ∈ t, x.1 = .abortIf → ∀ e d, x.2 ≠ .raise e d) ∧
    (∀ x ∈ t, (∀ n, x.1 ≠ .op n) → ∀ e d, x.2 = .raise e d → e.isAbort = false) ∧
    (∀ x ∈ t, ∀ n e d, x = (.op n, .raise e d) → e ≠ .libRuntimeError ∧ ∀ st, e ≠ .libCircuitOpen st) := by
  intro t
  refine ⟨?_, ?_, ?_⟩
  · intro x hx
    simp only [t, List.mem_cons, List.not_mem_nil, or_false] at hx
    rcases hx with rfl | rfl | rfl | rfl <;> simp
  · intro x hx
    simp only [t, List.mem_cons, List.not_mem_nil, or_false] at hx
    rcases hx with rfl | rfl | rfl | rfl <;> simp [Exn.isAbort]
  · intro x hx
    simp only [t, List.mem_cons, List.not_mem_nil, or_false] at hx
    rcases hx with rfl | rfl | rfl | rfl <;> simp

/-- T3's hook hypothesis: a `circuit_*` hook may raise an `Exception` (it is swallowed), any other hook may
    even raise KeyboardInterrupt -/
example : HookOK
    [ (.metric .circuitOpened 0 0 {}, .raise (.ordinary 1 .unknown) 0),
      (.metric .retry 1 3 {}, .raise .keyboardInterrupt 0),
      (.log .circuitClosed 0 0 {} none, .unit 0) ] := by
  intro x hx
  simp only [List.mem_cons, List.not_mem_nil, or_false] at hx
  rcases hx with rfl | rfl | rfl <;> simp [circuitHook, FX.circuitEv, Exn.isException]

/-- T3's positional hypothesis on a typical log of a call() that re-raises the operation's exception
    `ordinary 1` under a breaker: the newest callback exchange is the breaker classification, answered in
    no time (the loop's own classification of the same exception took 2 ticks) -/
example :
    ([ (Req.breakerFailure .permanent, Ans.recorded (some .circuitOpened) .opened),
       (Req.classify (Exn.ordinary 1 .transient).ref, Ans.klass { klass := .permanent } 0),
       (Req.classify (Exn.ordinary 1 .transient).ref, Ans.klass { klass := .permanent } 2),
       (Req.op 1, Ans.raise (.ordinary 1 .transient) 1),
       (Req.breakerAllow, Ans.admit true .closed none) ] : List (Req × Ans)).filter
        (fun x => !Twin.isInternal x.1)
      = (Req.classify (Exn.ordinary 1 .transient).ref, Ans.klass { klass := .permanent } 0) ::
        [ (Req.classify (Exn.ordinary 1 .transient).ref, Ans.klass { klass := .permanent } 2),
          (Req.op 1, Ans.raise (.ordinary 1 .transient) 1) ] := by
  rfl

/-- a configuration without attempt hooks -/
example : ({} : Cfg).attemptStart = none ∧ ({} : Cfg).attemptEnd = none := ⟨rfl, rfl⟩

end Redress.Props.C12
