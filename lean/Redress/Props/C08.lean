/-
  C08 — Every admitted call settles the breaker; no half-open probe slot is leaked.

  `Mon.C08.ok` (the monitor the driver also evaluates on implementation logs) is true of EVERY run of
  the model: every configuration, every entry point, every world — i.e. every answer stream (any
  exception kind raised by any callback at any invocation, which subsumes "thrown into the coroutine
  at any suspension point"), any clock, any state of the embedded breaker.

  The argument barely looks inside the retry loop: `runCall` / `runExecute` never touch the policy's
  `ExecutionContext` nor the breaker (`runCall_ext`, `runExecute_ext` in Lemmas/Footprint.lean), every
  `record_*` sets `settled`, and the `finally: ensure_settled(ctx)` records a cancel when an admitted
  call is about to end unsettled.  The walk through `call()` / `execute()` and their `except` ladders is
  the one of Lemmas/PolicyCall.lean, read with one invariant (`Inv`) in every position (`records`).

  This is the first file of the chain C08 → C07Policy → C09 → C09Once (the import order is not the numbering).
  C07, C08 and C09 are all stated over one monitor, `Mon.C09` (`St`, `step`, `run`); its step lemmas and the
  shared vocabulary `cur`, `cur_cons`, `run_reverse`, `decision` are here, and the later files `open` them.
  "The breaker admitted the call" is `decision bc w.breaker w.now = true` inside the proofs (`decision` abbreviates
  `(Breaker.allow …).1.1`) and `(Mon.C09.run …).admitted = some true` in the theorems about `runEntry`, which speak
  of the log only; `entry_decision` says the two agree.  Those theorems also write `phantom` out.
-/
import Redress.Lemmas.PolicyCall
import Redress.Props.C07Breaker

open Std.Do

namespace Redress.Mon.C09

/-- `count` looks at the admission and the records, `noteClassifier` at the last classifier exchange:
    neither touches the other's fields -/
theorem noteClassifier_core (s : St) (x : Req × Ans) :
    (noteClassifier s x).admitted = s.admitted ∧ (noteClassifier s x).admitState = s.admitState ∧
    (noteClassifier s x).records = s.records ∧ (noteClassifier s x).preRecords = s.preRecords := by
  unfold noteClassifier
  split <;> exact ⟨rfl, rfl, rfl, rfl⟩

theorem count_class (s : St) (x : Req × Ans) :
    (count s x).lastClass = s.lastClass ∧ (count s x).clsRaised = s.clsRaised := by
  unfold count
  split
  · exact ⟨rfl, rfl⟩
  · split
    · split <;> exact ⟨rfl, rfl⟩
    · split
      · exact ⟨rfl, rfl⟩
      · exact ⟨rfl, rfl⟩
      · split <;> exact ⟨rfl, rfl⟩

/-- requests of the retry loop and of the hooks move neither the admission nor the records -/
theorem step_loop (s : St) (x : Req × Ans) (h : loopK x.1.kind = true) :
    (step s x).admitted = s.admitted ∧ (step s x).admitState = s.admitState ∧
    (step s x).records = s.records ∧ (step s x).preRecords = s.preRecords := by
  have hc : (count s x).admitted = s.admitted ∧ (count s x).admitState = s.admitState ∧
      (count s x).records = s.records ∧ (count s x).preRecords = s.preRecords := by
    obtain ⟨r, a⟩ := x
    have hr : isRecord r = false := by cases r <;> first | rfl | cases h
    unfold count
    split
    · rename_i h1 _; cases h1; cases h
    · simp only [hr, Bool.false_eq_true, if_false]
      split
      · exact ⟨rfl, rfl, rfl, rfl⟩
      · exact ⟨rfl, rfl, rfl, rfl⟩
      · split <;> exact ⟨rfl, rfl, rfl, rfl⟩
  have hn := noteClassifier_core (count s x) x
  exact ⟨hn.1.trans hc.1, hn.2.1.trans hc.2.1, hn.2.2.1.trans hc.2.2.1, hn.2.2.2.trans hc.2.2.2⟩

/-- … and only the classifier's move the last classifier exchange -/
theorem step_notClassify (s : St) (x : Req × Ans) (h : x.1.kind ≠ .classify) :
    (step s x).lastClass = s.lastClass ∧ (step s x).clsRaised = s.clsRaised := by
  have hn : noteClassifier (count s x) x = count s x := by
    obtain ⟨r, a⟩ := x
    cases r <;> first | rfl | exact absurd rfl h
  unfold step
  rw [hn]
  exact count_class s x

theorem step_record (s : St) (r : Req) (ans : Ans) (hr : isRecord r = true) :
    step s (r, ans) = if s.admitted == some true then { s with records := s.records ++ [r] }
      else { s with preRecords := s.preRecords + 1 } := by
  cases r <;> first | rfl | cases hr

/-- a `record_*` after the admission is appended to the records -/
theorem step_admitted_record (s : St) (hs : s.admitted = some true) (r : Req) (ans : Ans)
    (hr : isRecord r = true) : step s (r, ans) = { s with records := s.records ++ [r] } := by
  rw [step_record s r ans hr, hs]
  rfl

theorem step_admitted_classify (s : St) (hs : s.admitted = some true) (ref : String) (a : Ans) :
    step s (.classify ref, a) =
      { s with lastClass := (match a with | .klass c _ => some (ref, c.klass) | _ => none),
               clsRaised := (match a with | .raise e _ => some e | _ => none) } := by
  obtain ⟨adm, _, _, _, _, _, _, _, _⟩ := s
  cases hs
  cases a <;> rfl

end Redress.Mon.C09

namespace Redress.Props.C08
open Redress Redress.Retry Redress.Policy Redress.Mon Redress.Mon.C09

/-- the monitor state as a function of the world's (newest-first) log -/
def cur (tr : List (Req × Ans)) : St := tr.foldr (fun x s => step s x) {}

@[simp] theorem cur_cons (x : Req × Ans) (t : List (Req × Ans)) : cur (x :: t) = step (cur t) x := rfl

theorem run_reverse (t : List (Req × Ans)) : run t.reverse = cur t := by
  simp [run, cur, List.foldl_reverse]

/-- what the exchanges of the retry loop and of the hooks leave alone in the monitor -/
theorem cur_ext {w w' : World} (h : Ext loopK w w') :
    (cur w'.trace).admitted = (cur w.trace).admitted ∧ (cur w'.trace).records = (cur w.trace).records ∧
    (cur w'.trace).preRecords = (cur w.trace).preRecords := by
  obtain ⟨δ, e, k⟩ := h.trace
  rw [e]
  have := foldr_append_proj step {} (fun s => (s.admitted, s.records, s.preRecords))
    (fun x => loopK x.1.kind = true)
    (fun s x hx => by obtain ⟨h1, -, h3, h4⟩ := step_loop s x hx; rw [h1, h3, h4]) δ w.trace k
  exact ⟨congrArg (·.1) this, congrArg (·.2.1) this, congrArg (·.2.2) this⟩

/-- a half-open breaker whose probe slot is taken -/
def phantom (s : Breaker.St) : Prop := s.state = .halfOpen ∧ s.probe = true

/-- no `record_*` leaves the probe slot taken (`Breaker.record_not_probing`, per operation) -/
theorem recordSuccess_free (s : Breaker.St) : ¬ phantom (Breaker.recordSuccess s).2 :=
  Breaker.record_not_probing Breaker.exCfg s .success nofun

theorem recordCancel_free (s : Breaker.St) : ¬ phantom (Breaker.recordCancel s) :=
  Breaker.record_not_probing Breaker.exCfg s .cancel nofun

theorem recordFailure_free (c : Breaker.Cfg) (s : Breaker.St) (k : EClass) (now : Nat) :
    ¬ phantom (Breaker.recordFailure c s k now).2 :=
  Breaker.record_not_probing c s (.failure k now) nofun

/-- What holds from the admission decision `a` on, whatever the call does:
    the monitor saw the decision; the execution context agrees with it; and once a `record_*` has
    been made (`settled`), it is in the monitor's list (if the call was admitted) and the breaker's
    probe slot is free.  (`F` = "no probe was outstanding when the call started": a rejection does not
    change that.) -/
structure Inv (a : Bool) (F : Prop) (w : World) : Prop where
  adm : (cur w.trace).admitted = some a
  xadm : w.xc.admitted = a
  recs : w.xc.settled = true → a = true → (cur w.trace).records ≠ []
  free : w.xc.settled = true → ¬ phantom w.breaker
  idle : a = false → F → ¬ phantom w.breaker

theorem Inv.ext {a : Bool} {F : Prop} {w w' : World} (h : Ext loopK w w') (hi : Inv a F w) : Inv a F w' := by
  obtain ⟨h1, h2, -⟩ := cur_ext h
  have hx := h.xc
  have hb := h.breaker
  refine ⟨?_, ?_, ?_, ?_, ?_⟩
  · rw [h1]; exact hi.adm
  · rw [hx]; exact hi.xadm
  · rw [hx, h2]; exact hi.recs
  · rw [hx, hb]; exact hi.free
  · rw [hb]; exact hi.idle

/-- a `record_*` keeps the invariant: it settles, is listed, and frees the probe slot -/
theorem Inv.record {a : Bool} {F : Prop} {w : World} (hi : Inv a F w) (r : Req) (ans : Ans) (hr : isRecord r = true)
    (st : Breaker.St) (hst : ¬ phantom st) :
    Inv a F { w with breaker := st, xc := { w.xc with settled := true }, trace := (r, ans) :: w.trace } := by
  have hs := step_record (cur w.trace) r ans hr
  refine ⟨?_, hi.xadm, ?_, fun _ => hst, fun _ _ => hst⟩
  · rw [cur_cons, hs]
    split <;> exact hi.adm
  · intro _ ha
    rw [cur_cons, hs, hi.adm, ha]
    simp

abbrev invPost (a : Bool) (F : Prop) : PostCond α (.except Exn (.arg World .pure)) :=
  post⟨fun _ w => ⌜Inv a F w⌝, fun _ w => ⌜Inv a F w⌝⟩

/-- the admitted call has been settled -/
structure Done (a : Bool) (F : Prop) (w : World) : Prop where
  inv : Inv a F w
  settled : a = true → w.xc.settled = true

section records
variable (a : Bool) (F : Prop) (cfg : Cfg) (bc : Breaker.Cfg) (hb : cfg.breaker = some bc)

theorem emitBreakerEvent_i (ev : Option Event) (st : CState) (k : Option EClass) :
    ⦃fun w => ⌜Inv a F w⌝⦄ emitBreakerEvent cfg ev st k ⦃invPost a F⦄ :=
  inv_of_ext (Inv a F) (fun w0 => emitBreakerEvent_ext loopK w0 rfl rfl cfg ev st k) (fun _ _ => Inv.ext)

include hb

theorem recordSuccess_i : ⦃fun w => ⌜Inv a F w⌝⦄ Policy.recordSuccess cfg ⦃invPost a F⦄ :=
  recordSuccess_triple hb (fun _ h => h.record _ _ rfl _ (recordSuccess_free _)) (emitBreakerEvent_i a F cfg)

theorem recordCancel_i : ⦃fun w => ⌜Inv a F w⌝⦄ Policy.recordCancel cfg
    ⦃post⟨fun _ w => ⌜Inv a F w⌝, fun _ _ => ⌜False⌝⟩⦄ :=
  recordCancel_triple hb fun _ h => h.record _ _ rfl _ (recordCancel_free _)

theorem recordFailure_i (k : EClass) : ⦃fun w => ⌜Inv a F w⌝⦄ Policy.recordFailure cfg k ⦃invPost a F⦄ :=
  recordFailure_triple hb k (fun _ h => h.record _ _ rfl _ (recordFailure_free _ _ _ _)) (emitBreakerEvent_i a F cfg)

/-- every reading of "nothing recorded" / "`r` recorded" / "about to end" is the invariant itself -/
theorem records : Records cfg (Inv a F) (fun _ => Inv a F) (fun _ => Inv a F) :=
  .of_stable (fun _ _ => Inv.ext) (fun _ _ _ => Inv.ext) (fun _ h => h) (fun _ _ h => h)
    (recordCancel_i a F cfg bc hb) (recordFailure_i a F cfg bc hb)

/-- `ensure_settled`, the `finally` of `call()` / `execute()` -/
theorem ensureSettled_spec :
    ⦃fun w => ⌜Inv a F w⌝⦄ ensureSettled cfg ⦃post⟨fun _ w => ⌜Done a F w⌝, fun _ _ => ⌜False⌝⟩⦄ :=
  ensureSettled_triple hb (fun _ h _ => ⟨h.record _ _ rfl _ (recordCancel_free _), fun _ => rfl⟩)
    fun w h hn => ⟨h, fun ha => by
      have := h.xadm
      simp_all⟩

end records

/-- a rejected `allow()` leaves state and probe flag alone -/
theorem allow_reject_free (c : Breaker.Cfg) (s : Breaker.St) (now : Nat)
    (hrej : (Breaker.allow c s now).1.1 = false) (h : ¬ phantom s) : ¬ phantom (Breaker.allow c s now).2 := by
  have := Breaker.rejections_count_nothing c s now hrej
  unfold phantom at *
  rw [this.2.2.1, this.2.2.2.1]
  exact h

/-- the admission decision of a call started with breaker state `b0` at clock value `now0` -/
abbrev decision (bc : Breaker.Cfg) (b0 : Breaker.St) (now0 : Nat) : Bool := (Breaker.allow bc b0 now0).1.1

section entry
variable (cfg : Cfg) (bc : Breaker.Cfg) (hb : cfg.breaker = some bc) (b0 : Breaker.St) (now0 : Nat)

/-- `breaker.allow()`: from a fresh log and an unsettled context to the invariant -/
theorem breakerAllow_spec :
    ⦃fun w => ⌜Start b0 now0 w⌝⦄ breakerAllow bc
    ⦃post⟨fun d w => ⌜d = (Breaker.allow bc b0 now0).1 ∧ Inv (decision bc b0 now0) (¬ phantom b0) w⌝,
          fun _ _ => ⌜False⌝⟩⦄ := by
  refine triple_mono (breakerAllow_start bc b0 now0) (fun _ h => h) (fun _ w h => ⟨h.1, ?_⟩) (fun _ _ h => h)
  obtain ⟨-, ht, hbk, hxa, hxs⟩ := h
  refine ⟨by rw [ht]; rfl, hxa, ?_, ?_, ?_⟩
  · intro hs; rw [hxs] at hs; cases hs
  · intro hs; rw [hxs] at hs; cases hs
  · intro ha hf
    rw [hbk]
    exact allow_reject_free bc _ _ ha hf

include hb

theorem checkBreaker_spec :
    ⦃fun w => ⌜Start b0 now0 w⌝⦄ checkBreaker cfg ⦃invPost (decision bc b0 now0) (¬ phantom b0)⦄ := by
  have h1 := breakerAllow_spec bc b0 now0
  have h2 := emitBreakerEvent_i (decision bc b0 now0) (¬ phantom b0) cfg
  unfold checkBreaker
  simp only [hb]
  mvcgen [h1, h2]
  rename_i h
  exact h.2

theorem callAdmitted_spec :
    ⦃fun w => ⌜Start b0 now0 w⌝⦄ callAdmitted cfg ⦃invPost (decision bc b0 now0) (¬ phantom b0)⦄ :=
  (records _ _ cfg bc hb).callAdmitted (fun _ _ h => h) (checkBreaker_spec cfg bc hb b0 now0)
    (fun _ => recordSuccess_i _ _ cfg bc hb) (records _ _ cfg bc hb).callLadder

theorem executeAdmitted_spec :
    ⦃fun w => ⌜Start b0 now0 w⌝⦄ executeAdmitted cfg ⦃invPost (decision bc b0 now0) (¬ phantom b0)⦄ := by
  have h1 := breakerAllow_spec bc b0 now0
  have h2 := emitBreakerEvent_i (decision bc b0 now0) (¬ phantom b0) cfg
  have h3 := (records (decision bc b0 now0) (¬ phantom b0) cfg bc hb).executeAdmitted2 bc hb
    (recordSuccess_i _ _ cfg bc hb)
  have h4 := policyOutcome_keeps (Inv (decision bc b0 now0) (¬ phantom b0))
  unfold executeAdmitted
  simp only [hb]
  mvcgen [h1, h2, h3, h4]
  · rename_i h; exact h.2
  · exact fun h _ _ _ _ _ => h

end entry


/-- What the policy entry points establish, as a statement about `runEntry`: the monitor saw the
    breaker's decision `a` for this call, and if it was an admission the call has settled. -/
theorem entry_done (cfg : Cfg) (bc : Breaker.Cfg) (hb : cfg.breaker = some bc) (e : Entry)
    (he : e.isPolicy = true) (w : World) :
    Done (decision bc w.breaker w.now) (¬ phantom w.breaker) (runEntry cfg e w).2 :=
  runEntry_policy (Q := fun _ _ => Inv _ _) (F := fun _ _ => Done _ _) e he w
    (callAdmitted_spec cfg bc hb w.breaker w.now) (executeAdmitted_spec cfg bc hb w.breaker w.now)
    (fun _ _ => ensureSettled_spec _ _ cfg bc hb) (fun _ _ _ h => h)

/--
**C08.**  For every configuration, every entry point and every world — every answer stream (every
exception kind, `CancelledError` / `KeyboardInterrupt` / `SystemExit` / `GeneratorExit` included, raised
by any callback at any invocation: operation, classifier, attempt hooks, abort predicate, strategy,
sleep handler, sleeper, metric and log hooks), every clock value and every state of the embedded
breaker: if the breaker admitted the call, at least one `record_success | record_failure |
record_cancel` follows the admission before `call()` / `execute()` returns or raises.
-/
theorem settled_hold (cfg : Cfg) (e : Entry) (w : World) :
    Mon.C08.ok cfg e (runEntry cfg e w).2.trace.reverse (runEntry cfg e w).1 = true := by
  unfold Mon.C08.ok
  cases he : e.isPolicy with
  | false => simp
  | true =>
    cases hb : cfg.breaker with
    | none => simp
    | some bc =>
      have hd := entry_done cfg bc hb e he w
      simp only [Bool.true_and, Option.isSome_some, if_true, run_reverse, hd.inv.adm]
      cases ha : decision bc w.breaker w.now with
      | false => rfl
      | true =>
        have := hd.inv.recs (hd.settled ha) ha
        simpa [List.isEmpty_iff] using this

/-- …and therefore of every call in every script of calls and clock advances on ONE policy object
    sharing one breaker, whatever state earlier calls left behind. -/
theorem settled_hold_script (cfg : Cfg) : ∀ (steps : List Step) (w : World),
    ∀ l ∈ (runScript cfg steps w).1, Mon.C08.ok cfg l.entry l.trace l.res = true :=
  forall_script (P := fun e t r => Mon.C08.ok cfg e t r = true) cfg (settled_hold cfg)

/-! ### with the embedded breaker: no phantom probe -/

/-- non-vacuity of `hb`, `he`: a policy entry point on a configuration with a breaker -/
example : ({ breaker := some Breaker.exCfg } : Cfg).breaker = some Breaker.exCfg ∧
    Entry.pcall.isPolicy = true ∧ Entry.pexecute.isPolicy = true := ⟨rfl, rfl, rfl⟩

/-- The monitor's `admitted` is exactly the embedded breaker's decision at the start of the call. -/
theorem entry_decision (cfg : Cfg) (bc : Breaker.Cfg) (hb : cfg.breaker = some bc) (e : Entry)
    (he : e.isPolicy = true) (w : World) :
    (Mon.C09.run (runEntry cfg e w).2.trace.reverse).admitted = some (decision bc w.breaker w.now) := by
  rw [run_reverse]
  exact (entry_done cfg bc hb e he w).inv.adm

/-- **admitted_call_frees_probe_slot.**  After ANY policy call that the breaker admitted — however it
    ended — the breaker is not left half-open with the probe slot taken. -/
theorem admitted_call_frees_probe_slot (cfg : Cfg) (bc : Breaker.Cfg) (hb : cfg.breaker = some bc)
    (e : Entry) (he : e.isPolicy = true) (w : World)
    (hadm : (Mon.C09.run (runEntry cfg e w).2.trace.reverse).admitted = some true) :
    ¬ ((runEntry cfg e w).2.breaker.state = .halfOpen ∧ (runEntry cfg e w).2.breaker.probe = true) := by
  have hd := entry_done cfg bc hb e he w
  rw [entry_decision cfg bc hb e he w] at hadm
  have ha : decision bc w.breaker w.now = true := by simpa using hadm
  exact hd.inv.free (hd.settled ha)

/-- **no_phantom_probe** (no call outstanding version).  If no probe was outstanding when the call
    started, none is outstanding when it has ended — admitted or rejected, however it ended. -/
theorem no_phantom_probe (cfg : Cfg) (bc : Breaker.Cfg) (hb : cfg.breaker = some bc)
    (e : Entry) (he : e.isPolicy = true) (w : World)
    (h0 : ¬ (w.breaker.state = .halfOpen ∧ w.breaker.probe = true)) :
    ¬ ((runEntry cfg e w).2.breaker.state = .halfOpen ∧ (runEntry cfg e w).2.breaker.probe = true) := by
  have hd := entry_done cfg bc hb e he w
  cases ha : decision bc w.breaker w.now with
  | true => exact hd.inv.free (hd.settled ha)
  | false => exact hd.inv.idle ha h0

/-- non-vacuity of `h0`: a fresh breaker, an OPEN one, a HALF_OPEN one whose slot is free -/
example : ¬ (Breaker.St.init.state = .halfOpen ∧ Breaker.St.init.probe = true) ∧
    ¬ ((Breaker.St.openedAtTime 7).state = .halfOpen ∧ (Breaker.St.openedAtTime 7).probe = true) ∧
    ¬ (({ state := .halfOpen, probe := false } : Breaker.St).state = .halfOpen ∧
       ({ state := .halfOpen, probe := false } : Breaker.St).probe = true) := by
  decide

/-- a breaker whose probe slot is free admits as soon as the recovery timeout has elapsed (always,
    when it is not OPEN) -/
theorem allow_of_free (c : Breaker.Cfg) (s : Breaker.St) (now : Nat)
    (hfree : ¬ (s.state = .halfOpen ∧ s.probe = true))
    (hrec : s.state = .opened → ∃ t0, s.openedAt = some t0 ∧ t0 + c.recovery ≤ now) :
    (Breaker.allow c s now).1.1 = true := by
  cases hs : s.state with
  | closed => rw [Breaker.allow_closed c hs]
  | halfOpen =>
    have hp : s.probe = false := eq_false_of_ne_true fun hp => hfree ⟨hs, hp⟩
    rw [Breaker.half_open_free_slot_allows c s hs hp]
  | opened =>
    obtain ⟨t0, h1, h2⟩ := hrec hs
    rw [(Breaker.open_rejects_until_timeout c s t0 now hs h1).2 h2]

/-- non-vacuity of `hrec`: OPEN since 7, recovery 5, asked at 12 -/
example : (Breaker.St.openedAtTime 7).state = .opened →
    ∃ t0, (Breaker.St.openedAtTime 7).openedAt = some t0 ∧ t0 + Breaker.exCfg.recovery ≤ 12 :=
  fun _ => ⟨7, rfl, by decide⟩

/-- **next_call_admitted_after_recovery.**  Take any policy call (however it ends) on a breaker with
    no probe outstanding, let any amount `d` of time pass, and make the next policy call: if the
    breaker is then not OPEN, or it is OPEN and `recovery` has elapsed since it opened, the next call
    is admitted (so no call can wedge the breaker). -/
theorem next_call_admitted_after_recovery (cfg : Cfg) (bc : Breaker.Cfg) (hb : cfg.breaker = some bc)
    (e e' : Entry) (he : e.isPolicy = true) (he' : e'.isPolicy = true) (w : World) (d : Nat)
    (h0 : ¬ (w.breaker.state = .halfOpen ∧ w.breaker.probe = true))
    (hrec : (runEntry cfg e w).2.breaker.state = .opened →
      ∃ t0, (runEntry cfg e w).2.breaker.openedAt = some t0 ∧
        t0 + bc.recovery ≤ (runEntry cfg e w).2.now + d) :
    (Mon.C09.run (runEntry cfg e' { (runEntry cfg e w).2 with now := (runEntry cfg e w).2.now + d }).2.trace.reverse).admitted
      = some true := by
  rw [entry_decision cfg bc hb e' he']
  have := no_phantom_probe cfg bc hb e he w h0
  exact congrArg some (allow_of_free bc _ _ this hrec)

end Redress.Props.C08
