/-
  C16 — Sleep-handler protocol: SLEEP sleeps, DEFER schedules, ABORT aborts.

  Theorems are about `Mon.C16.ok` and its seven conjuncts (`handlerOk`, `sleepOk`, `deferOk`, `abortOk`,
  `otherOk`, `levelOk`, `skipOk`), the monitors the driver also evaluates on implementation traces: for
  EVERY configuration (handler / before_sleep / sleeper at policy level, call level, both, neither),
  EVERY answer stream (decision sequences, non-`SleepDecision` answers, durations, callback faults —
  attempt hooks included) and every entry point, the monitor accepts the model's run.  No hypotheses; the
  monitor's own guards are: an entry point without a retry loop (`hasLoop` false) is not judged; after a
  stop decision (DEFER / ABORT / a non-`SleepDecision`) the expected ending may be replaced by an error that
  a callback raised since and the library does not swallow (`late`; in `execute()` an `AbortRetryError` among
  them makes the outcome ABORTED), or by the model's `stuck` (ill-shaped or missing oracle answer).

  Structure (the skeleton of Props/C05): the monitor as a fold over the world's log (`cur`), a view (`view`: the
  monitor minus its `late` list, and — after a stop decision — `last_stop_reason`), leaf specs from the
  request-level footprints of `Lemmas/Footprint.lean` (`FX.*`, which also say where an exception comes
  from), the invariants `Idle` / `Pend` / `Prot` / `Stopd` and what a procedure leaves behind (`Failed`,
  `Acted`, `FO`), lemmas saying how each kind of exchange takes the monitor from one invariant to the next
  (`step_*`), one Hoare spec per procedure, induction on fuel for the loops, the policy wrappers, adequacy.  On the
  exceptional exits the specs also say what the exception can be while a granted retry's sleep is due
  (`CutW`); Props/C16Cut reads that off for `Mon.C16.cutOk`.
-/
import Redress.Lemmas.PolicyFrame
import Redress.Monitors

open Std.Do

namespace Redress.Props.C16
open Redress Redress.Retry Redress.Mon Redress.Mon.C16 Redress.FX

def cur (cfg : Cfg) (tr : List (Req × Ans)) : St := tr.foldr (fun x s => step cfg s x) {}

@[simp] theorem cur_cons (cfg : Cfg) (x : Req × Ans) (t : List (Req × Ans)) :
    cur cfg (x :: t) = step cfg (cur cfg t) x := rfl

theorem run_reverse (cfg : Cfg) (t : List (Req × Ans)) : run cfg t.reverse = cur cfg t := by
  simp [run, cur, List.foldl_reverse]

/-- forget the errors collected after a stop decision: they are only ever used as an excuse -/
def mask (m : St) : St := { m with late := [] }

/-- requests that can only add to `late` -/
def inertQ : Req → Bool
  | .op _ | .strategy .. | .budgetConsume | .sleepHandler .. | .beforeSleep .. | .sleeper .. => false
  | _ => true

theorem step_inert (cfg : Cfg) (s : St) (x : Req × Ans) (h : inertQ x.1 = true) :
    mask (step cfg s x) = mask s := by
  obtain ⟨r, a⟩ := x
  cases r <;> (try simp [inertQ] at h) <;> rfl

theorem step_inert_late (cfg : Cfg) (s : St) (x : Req × Ans) (h : inertQ x.1 = true) :
    (step cfg s x).late = if s.stopped.isSome then
        (match raisedOf x with
         | some e => e :: s.late
         | none => s.late)
      else s.late := by
  obtain ⟨r, a⟩ := x
  cases r <;> first | rfl | (simp [inertQ] at h)

theorem cur_append_inert (cfg : Cfg) (δ t : List (Req × Ans)) (h : ∀ x ∈ δ, inertQ x.1 = true) :
    mask (cur cfg (δ ++ t)) = mask (cur cfg t) :=
  foldr_append_proj (step cfg) {} mask (fun x => inertQ x.1 = true) (step_inert cfg) δ t h

theorem mask_stopped {m m' : St} (h : mask m' = mask m) : m'.stopped = m.stopped := by
  have := congrArg St.stopped h
  simpa [mask] using this

theorem late_mono (cfg : Cfg) (δ t : List (Req × Ans)) (h : ∀ x ∈ δ, inertQ x.1 = true) (e : Exn)
    (he : e ∈ (cur cfg t).late) : e ∈ (cur cfg (δ ++ t)).late := by
  induction δ with
  | nil => exact he
  | cons x δ ih =>
    have hx := h x (by simp)
    have := ih (fun y hy => h y (by simp [hy]))
    simp only [List.cons_append, cur_cons]
    rw [step_inert_late _ _ _ hx]
    split
    · split <;> simp [this]
    · exact this

theorem swallows_eq (r : Req) : Mon.C16.swallows r = FX.swallowed r := by
  cases r <;> rfl

theorem late_of_raised (cfg : Cfg) (δ t : List (Req × Ans)) (h : ∀ x ∈ δ, inertQ x.1 = true) (e : Exn)
    (hs : (cur cfg t).stopped.isSome = true) (hr : raisedIn e δ) : e ∈ (cur cfg (δ ++ t)).late := by
  obtain ⟨r, d, hm, hsw⟩ := hr
  induction δ with
  | nil => cases hm
  | cons x δ ih =>
    have hx := h x (by simp)
    have hδ : ∀ y ∈ δ, inertQ y.1 = true := fun y hy => h y (by simp [hy])
    simp only [List.cons_append, cur_cons]
    rw [step_inert_late _ _ _ hx]
    have hst : (cur cfg (δ ++ t)).stopped.isSome = true := by
      rw [mask_stopped (cur_append_inert cfg δ t hδ)]; exact hs
    rw [if_pos hst]
    rcases List.mem_cons.mp hm with rfl | hm
    · have : raisedOf (r, Ans.raise e d) = some e := by
        simp only [raisedOf, swallows_eq]
        cases hsr : FX.swallowed r
        · simp
        · simp [hsw hsr]
      rw [this]
      simp
    · have := ih hδ hm
      split <;> simp [this]

/-- what the C16 argument looks at: the monitor without its `late` list, and — once a stop decision
    has been taken — `state.last_stop_reason` -/
structure View where
  mon : St
  stop : Option StopReason

def view (cfg : Cfg) (w : World) : View :=
  ⟨mask (cur cfg w.trace), if (cur cfg w.trace).stopped.isSome then w.rs.lastStop else none⟩

theorem view_fxs_mon (cfg : Cfg) (w w' : World) (h : FootXS inertQ w w') : (view cfg w').mon = (view cfg w).mon := by
  obtain ⟨δ, e, k, _⟩ := h.trace
  simp only [view, e, cur_append_inert cfg δ w.trace k]

theorem view_fx (cfg : Cfg) (w w' : World) (h : FootX inertQ w w') : view cfg w' = view cfg w := by
  obtain ⟨δ, e, k, _⟩ := h.trace
  have hm := cur_append_inert cfg δ w.trace k
  simp only [view, e, hm, mask_stopped hm, h.rs]

theorem view_fxs (cfg : Cfg) (w w' : World) (h : FootXS inertQ w w') (hs : (view cfg w).mon.stopped = none) :
    view cfg w' = view cfg w := by
  obtain ⟨δ, e, k, _⟩ := h.trace
  have hm := cur_append_inert cfg δ w.trace k
  have hs' : (cur cfg w.trace).stopped = none := hs
  simp only [view, e, hm, mask_stopped hm, hs']
  rfl

/-- where an exception comes from, as far as this property cares: before any stop decision anything
    goes; afterwards it is the model's `stuck` or an error a callback raised since -/
def SrcL (cfg : Cfg) (e : Exn) (w : World) : Prop :=
  (cur cfg w.trace).stopped = none ∨ e = .stuck ∨ e ∈ (cur cfg w.trace).late

theorem srcL_of_prov {cfg : Cfg} {e : Exn} {w w' : World} (hf : FootXS inertQ w w') (h : Prov e w w') :
    SrcL cfg e w' := by
  obtain ⟨δ, e₁, k, _⟩ := hf.trace
  cases hs : (cur cfg w.trace).stopped with
  | none =>
    left
    rw [e₁, mask_stopped (cur_append_inert cfg δ w.trace k)]
    exact hs
  | some dec =>
    rcases h with rfl | ⟨δ', e₂, hr⟩
    · exact Or.inr (Or.inl rfl)
    · right; right
      have : δ' = δ := List.append_cancel_right (e₂.symm.trans e₁)
      subst this
      rw [e₁]
      exact late_of_raised cfg δ' w.trace k e (by simp [hs]) hr

/-- …and what an exception can be while a granted retry's sleep is due and nothing has been decided: the
    model's `stuck`, the library's own `AbortRetryError`, or an error the log shows a callback raising where
    the library does not swallow it -/
def CutW (cfg : Cfg) (e : Exn) (w : World) : Prop :=
  (cur cfg w.trace).pending = true → (cur cfg w.trace).stopped = none →
    e = .stuck ∨ e = .libAbort ∨ e ∈ w.trace.filterMap raisedOf

theorem mem_raised_of_raisedIn {e : Exn} {δ : List (Req × Ans)} (h : raisedIn e δ) : e ∈ δ.filterMap raisedOf := by
  obtain ⟨r, d, hm, hs⟩ := h
  refine List.mem_filterMap.mpr ⟨(r, Ans.raise e d), hm, ?_⟩
  simp only [raisedOf, swallows_eq]
  cases hsr : FX.swallowed r
  · simp
  · simp [hs hsr]

theorem cutW_of_prov {cfg : Cfg} {e : Exn} {w w' : World} (h : Prov e w w') : CutW cfg e w' := by
  intro _ _
  rcases h with h | ⟨δ, e₁, hr⟩
  · exact Or.inl h
  · right; right
    rw [e₁, List.filterMap_append]
    exact List.mem_append_left _ (mem_raised_of_raisedIn hr)

theorem cutW_of_closed {cfg : Cfg} {e : Exn} {w : World}
    (h : (view cfg w).mon.pending = false ∨ (view cfg w).mon.stopped ≠ none) : CutW cfg e w :=
  fun hp hs => h.elim (fun h => Bool.noConfusion (h.symm.trans hp)) (fun h => (h hs).elim)

theorem cutW_stuck {cfg : Cfg} {w : World} : CutW cfg .stuck w := fun _ _ => Or.inl rfl

theorem cutW_head {cfg : Cfg} {e : Exn} {w : World} {x : Req × Ans} {tr : List (Req × Ans)} (ht : w.trace = x :: tr)
    (hx : raisedOf x = some e) : CutW cfg e w :=
  fun _ _ => Or.inr (Or.inr (ht ▸ List.mem_filterMap.mpr ⟨x, List.mem_cons_self, hx⟩))

abbrev same (cfg : Cfg) (v : View) : PostCond α (.except Exn (.arg World .pure)) :=
  post⟨fun _ w => ⌜view cfg w = v⌝, fun e w => ⌜view cfg w = v ∧ SrcL cfg e w⌝⟩

abbrev sameC (cfg : Cfg) (v : View) : PostCond α (.except Exn (.arg World .pure)) :=
  post⟨fun _ w => ⌜view cfg w = v⌝, fun e w => ⌜view cfg w = v ∧ SrcL cfg e w ∧ CutW cfg e w⌝⟩

theorem same_of_sameC {x : M α} {cfg : Cfg} {v : View} (h : ⦃fun w => ⌜view cfg w = v⌝⦄ x ⦃sameC cfg v⦄) :
    ⦃fun w => ⌜view cfg w = v⌝⦄ x ⦃same cfg v⦄ :=
  triple_mono h (fun _ h => h) (fun _ _ h => h) (fun _ _ h => ⟨h.1, h.2.1⟩)

theorem srcL_of_view {cfg : Cfg} {e : Exn} {w : World} {v : View} (hv : view cfg w = v)
    (h : v.mon.stopped = none) : SrcL cfg e w :=
  Or.inl (show (view cfg w).mon.stopped = none from hv ▸ h)

theorem exc_fx {cfg : Cfg} {v : View} {e : Exn} {w w' : World} (hw : view cfg w = v) (h : ExcX inertQ noOwn w w' e) :
    view cfg w' = v ∧ SrcL cfg e w' ∧ CutW cfg e w' :=
  ⟨(view_fx cfg _ _ h.foot).trans hw, h.src.elim False.elim (srcL_of_prov h.foot.toS),
    h.src.elim False.elim cutW_of_prov⟩

theorem exc_fxs {cfg : Cfg} {v : View} {Own : Exn → Prop} {e : Exn} {w w' : World} (hs : v.mon.stopped = none)
    (hown : Own e → e = .libAbort ∨ v.mon.pending = false) (hw : view cfg w = v) (h : ExcS inertQ Own w w' e) :
    view cfg w' = v ∧ SrcL cfg e w' ∧ CutW cfg e w' :=
  have hv := (view_fxs cfg _ _ h.foot (hw ▸ hs)).trans hw
  ⟨hv, srcL_of_view hv hs, h.src.elim
    (fun ho => (hown ho).elim (fun he _ _ => Or.inr (Or.inl he)) (fun hp => cutW_of_closed (Or.inl (hv ▸ hp))))
    cutW_of_prov⟩

theorem same_of_fx {x : M α} (cfg : Cfg) (v : View)
    (hx : ∀ w0, ⦃fun w => ⌜FootX inertQ w0 w⌝⦄ x ⦃fxPost inertQ w0⦄) :
    ⦃fun w => ⌜view cfg w = v⌝⦄ x ⦃sameC cfg v⦄ :=
  triple_of_rel hx FootX.refl (fun _ _ _ hw h => (view_fx cfg _ _ h).trans hw) (fun _ _ _ => exc_fx)

theorem same_of_fxs' {x : M α} (cfg : Cfg) (v : View) {Own : Exn → Prop} {R : α → World → Prop}
    (hs : v.mon.stopped = none) (hown : ∀ e, Own e → e = .libAbort ∨ v.mon.pending = false)
    (hx : ∀ w0, ⦃fun w => ⌜FootXS inertQ w0 w⌝⦄ x
      ⦃post⟨fun a w => ⌜R a w ∧ FootXS inertQ w0 w⌝, fun e w => ⌜ExcS inertQ Own w0 w e⌝⟩⦄) :
    ⦃fun w => ⌜view cfg w = v⌝⦄ x
    ⦃post⟨fun a w => ⌜R a w ∧ view cfg w = v⌝, fun e w => ⌜view cfg w = v ∧ SrcL cfg e w ∧ CutW cfg e w⌝⟩⦄ :=
  triple_of_rel hx FootXS.refl (fun _ _ _ hw h => ⟨h.1, (view_fxs cfg _ _ h.2 (hw ▸ hs)).trans hw⟩)
    (fun _ _ _ => exc_fxs hs (hown _))

theorem same_of_fxs {x : M α} (cfg : Cfg) (v : View) {Own : Exn → Prop} (hs : v.mon.stopped = none)
    (hown : ∀ e, Own e → e = .libAbort ∨ v.mon.pending = false)
    (hx : ∀ w0, ⦃fun w => ⌜FootXS inertQ w0 w⌝⦄ x ⦃fxsPost inertQ w0 Own⦄) :
    ⦃fun w => ⌜view cfg w = v⌝⦄ x ⦃sameC cfg v⦄ :=
  triple_of_rel hx FootXS.refl (fun _ _ _ hw h => (view_fxs cfg _ _ h (hw ▸ hs)).trans hw)
    (fun _ _ _ => exc_fxs hs (hown _))

theorem same_of_same' {x : M α} {cfg : Cfg} {v : View} {R : α → World → Prop}
    (h : ⦃fun w => ⌜view cfg w = v⌝⦄ x
      ⦃post⟨fun a w => ⌜R a w ∧ view cfg w = v⌝, fun e w => ⌜view cfg w = v ∧ SrcL cfg e w ∧ CutW cfg e w⌝⟩⦄) :
    ⦃fun w => ⌜view cfg w = v⌝⦄ x ⦃sameC cfg v⦄ :=
  triple_mono h (fun _ h => h) (fun _ _ h => h.2) (fun _ _ h => h)

theorem view_stop {cfg : Cfg} {w : World} (h : (view cfg w).mon.stopped.isSome = true) :
    (view cfg w).stop = w.rs.lastStop :=
  if_pos h

section leaves
variable (cfg : Cfg) (v : View) (tl : Bool)

theorem modifyAS_v (f : AState → AState) : ⦃fun w => ⌜view cfg w = v⌝⦄ modifyAS f ⦃sameC cfg v⦄ := by
  mvcgen [modifyAS]

/-- the view reads `last_stop_reason` only -/
theorem modifyRS_v (f : RState → RState) (hf : ∀ r, (f r).lastStop = r.lastStop) :
    ⦃fun w => ⌜view cfg w = v⌝⦄ modifyRS f ⦃sameC cfg v⦄ := by
  apply triple_of_run
  intro w hw
  show view cfg { w with rs := f w.rs } = v
  simpa only [view, hf] using hw

theorem emit_v (ev : Event) (a s : Nat) (k : Option EClass) (e : Option Exn) (st : Option StopReason)
    (c : Option Cause) (cl : Option Classification) :
    ⦃fun w => ⌜view cfg w = v⌝⦄ emit cfg tl ev a s k e st c cl ⦃sameC cfg v⦄ :=
  same_of_fx cfg v (fun w0 => emit_fx _ w0 cfg tl ev a s k e st c cl (fun _ => rfl) (fun _ _ => rfl))

theorem recordStrategySuccess_v : ⦃fun w => ⌜view cfg w = v⌝⦄ recordStrategySuccess cfg ⦃same cfg v⦄ :=
  same_of_sameC (same_of_fx cfg v (fun w0 => recordStrategySuccess_fx _ w0 cfg (fun _ => rfl)))

theorem stratRecordFailure_v (key : SKey) (k : EClass) :
    ⦃fun w => ⌜view cfg w = v⌝⦄ stratRecordFailure cfg key k ⦃sameC cfg v⦄ :=
  same_of_fx cfg v (fun w0 => stratRecordFailure_fx _ w0 cfg key k rfl)

theorem callClassifier_v (e : Exn) : ⦃fun w => ⌜view cfg w = v⌝⦄ callClassifier e ⦃sameC cfg v⦄ :=
  same_of_fx cfg v (fun w0 => callClassifier_fx _ w0 e rfl)

theorem shouldClassifyResult_v (x : Nat) : ⦃fun w => ⌜view cfg w = v⌝⦄ shouldClassifyResult cfg x ⦃sameC cfg v⦄ :=
  same_of_fx cfg v (fun w0 => shouldClassifyResult_fx _ w0 cfg x rfl)

theorem callAttemptStart_v (a : Nat) : ⦃fun w => ⌜view cfg w = v⌝⦄ callAttemptStart cfg a ⦃sameC cfg v⦄ :=
  same_of_fx cfg v (fun w0 => callAttemptStart_fx _ w0 cfg a (fun _ => rfl))

theorem callAttemptEndFromOutcome_v (a : Nat) (o : AOutcome) :
    ⦃fun w => ⌜view cfg w = v⌝⦄ callAttemptEndFromOutcome cfg a o ⦃sameC cfg v⦄ :=
  same_of_fx cfg v (fun w0 => callAttemptEndFromOutcome_fx _ w0 cfg a o (fun _ => rfl))

theorem handleSuccessAttemptEnd_v (a x : Nat) :
    ⦃fun w => ⌜view cfg w = v⌝⦄ handleSuccessAttemptEnd cfg tl a x ⦃sameC cfg v⦄ :=
  same_of_fx cfg v (fun w0 => handleSuccessAttemptEnd_fx _ w0 cfg tl a x (fun _ => rfl) (fun _ _ => rfl)
    (fun _ => rfl) (fun _ => rfl))

theorem handleAbortAttemptEnd_v (a : Nat) (e : Exn) :
    ⦃fun w => ⌜view cfg w = v⌝⦄ handleAbortAttemptEnd cfg a e ⦃sameC cfg v⦄ :=
  same_of_fx cfg v (fun w0 => handleAbortAttemptEnd_fx _ w0 cfg a e (fun _ => rfl))

/-- `_build_outcome`: after a stop decision the reported stop reason is the view's -/
theorem buildOutcome_v (ok : Bool) (value : Option Nat) (n : Nat) (ns : Option Nat) :
    ⦃fun w => ⌜view cfg w = v⌝⦄ buildOutcome ok value n ns
    ⦃post⟨fun o w => ⌜(o.ok = ok ∧ o.nextSleep = ns ∧ (ok = false → v.mon.stopped.isSome = true → o.stop = v.stop))
                      ∧ view cfg w = v⌝,
          fun e w => ⌜view cfg w = v ∧ SrcL cfg e w ∧ CutW cfg e w⌝⟩⦄ := by
  refine triple_of_rel (fun w0 => buildOutcome_fx inertQ w0 ok value n ns) FootX.refl
    (fun w0 o w hw h => ?_) (fun _ _ _ => exc_fx)
  have hv := (view_fx cfg _ _ h.2).trans hw
  refine ⟨⟨h.1.1, h.1.2.1, fun hok hst => ?_⟩, hv⟩
  subst hv
  rw [h.1.2.2, hok, view_stop hst]
  rfl

variable (hs : v.mon.stopped = none)
include hs

theorem checkAbort_v (a : Nat) : ⦃fun w => ⌜view cfg w = v⌝⦄ checkAbort cfg tl a ⦃sameC cfg v⦄ :=
  same_of_fxs cfg v hs (fun _ h => Or.inl h) (fun w0 => checkAbort_fx _ w0 cfg tl a rfl (fun _ => rfl) (fun _ _ => rfl))

theorem stopWith_v (sr : StopReason) (ev : Event) (a : Nat) (k : EClass) (e : Option Exn) (c : Cause) :
    ⦃fun w => ⌜view cfg w = v⌝⦄ stopWith cfg tl sr ev a k e c
    ⦃post⟨fun d w => ⌜d = .raise ∧ view cfg w = v⌝, fun e w => ⌜view cfg w = v ∧ SrcL cfg e w ∧ CutW cfg e w⌝⟩⦄ :=
  same_of_fxs' cfg v hs (fun _ h => h.elim) (fun w0 => stopWith_fx _ w0 cfg tl sr ev a k e c (fun _ => rfl) (fun _ _ => rfl))

theorem setStop_v (sr : StopReason) : ⦃fun w => ⌜view cfg w = v⌝⦄ setStop sr ⦃sameC cfg v⦄ :=
  same_of_same' (same_of_fxs' cfg v hs (fun _ h => h.elim) (fun w0 => setStop_fx inertQ w0 sr))

theorem emitAbortedOnce_v (a : Nat) : ⦃fun w => ⌜view cfg w = v⌝⦄ emitAbortedOnce cfg tl a ⦃sameC cfg v⦄ :=
  same_of_same' (same_of_fxs' cfg v hs (fun _ h => h.elim)
    (fun w0 => emitAbortedOnce_fx inertQ w0 cfg tl a (fun _ => rfl) (fun _ _ => rfl)))

theorem abortOutcome_v (a : Nat) : ⦃fun w => ⌜view cfg w = v⌝⦄ abortOutcome cfg tl a ⦃same cfg v⦄ :=
  same_of_sameC (same_of_same' (same_of_fxs' cfg v hs (fun _ h => h.elim)
    (fun w0 => abortOutcome_fx inertQ w0 cfg tl a (fun _ => rfl) (fun _ _ => rfl))))

theorem raiseExhaustedCall_v (hp : v.mon.pending = false) :
    ⦃fun w => ⌜view cfg w = v⌝⦄ raiseExhaustedCall cfg ⦃sameC cfg v⦄ :=
  triple_of_rel (fun w0 => raiseExhaustedCall_fx inertQ w0 cfg (fun _ => rfl) (fun _ _ => rfl)) FootXS.refl
    (fun _ _ _ hw h => (view_fxs cfg _ _ h (hw ▸ hs)).trans hw) (fun _ _ _ => exc_fxs hs (fun _ => Or.inr hp))

theorem buildExhaustedOutcome_v : ⦃fun w => ⌜view cfg w = v⌝⦄ buildExhaustedOutcome cfg tl ⦃sameC cfg v⦄ :=
  same_of_same' (same_of_fxs' cfg v hs (fun _ h => h.elim)
    (fun w0 => buildExhaustedOutcome_fx inertQ w0 cfg tl (fun _ => rfl) (fun _ _ => rfl)))

end leaves

def viewOf (cfg : Cfg) (tr : List (Req × Ans)) (ls : Option StopReason) : View :=
  ⟨mask (cur cfg tr), if (cur cfg tr).stopped.isSome then ls else none⟩

theorem view_eq_viewOf (cfg : Cfg) (w : World) : view cfg w = viewOf cfg w.trace w.rs.lastStop := rfl

theorem mask_idem (m : St) : mask (mask m) = mask m := rfl

structure Clean (m : St) : Prop where
  handler : m.badHandler = false
  sleep : m.badSleep = false
  stop : m.badStop = false
  level : m.badLevel = false
  skip : m.badSkip = false

structure Idle (m : St) : Prop where
  clean : Clean m
  pending : m.pending = false
  stopped : m.stopped = none
  late : m.late = []

/-- a retry was granted; the sleep handler has not been consulted yet -/
structure Pend (m : St) : Prop where
  clean : Clean m
  pending : m.pending = true
  handler : m.handler = none
  calls : m.handlerCalls = 0
  before : m.before = none
  stopped : m.stopped = none
  late : m.late = []

/-- inside the sleep protocol of a granted retry with delay `d`: the handler (if any) said SLEEP;
    `b` tells whether `before_sleep` has run -/
structure Prot (cfg : Cfg) (d : Nat) (b : Bool) (m : St) : Prop where
  clean : Clean m
  pending : m.pending = true
  stopped : m.stopped = none
  late : m.late = []
  handler : cfg.handler.isSome = true → m.handler = some (.sleep, d)
  before : m.before = if b then some d else none

/-- a stop decision `dec` was taken for the delay `d` -/
structure Stopd (dec : SleepDecision) (d : Nat) (m : St) : Prop where
  clean : Clean m
  stopped : m.stopped = some dec
  ne : dec ≠ .sleep
  defer : dec = .defer → m.deferD = some d

structure PreStop (m : St) : Prop where
  clean : Clean m
  stopped : m.stopped = none

/-! The fields the verification conditions ask for, as lemmas: given a projection's name `simp` unfolds the
projection instead of rewriting with it; one lemma per source invariant, because `simp` discharges side
conditions only two levels deep. -/
theorem stopped_of_pre {m : St} (h : PreStop m) : m.stopped = none := h.stopped
theorem stopped_of_idle {m : St} (h : Idle m) : m.stopped = none := h.stopped
theorem clean_of_pre {m : St} (h : PreStop m) : Clean m := h.clean
theorem clean_of_idle {m : St} (h : Idle m) : Clean m := h.clean

theorem Idle.pre {m : St} (h : Idle m) : PreStop m := ⟨h.clean, h.stopped⟩
theorem Pend.pre {m : St} (h : Pend m) : PreStop m := ⟨h.clean, h.stopped⟩
theorem Prot.pre {cfg : Cfg} {d : Nat} {b : Bool} {m : St} (h : Prot cfg d b m) : PreStop m := ⟨h.clean, h.stopped⟩
theorem Stopd.clean' {dec : SleepDecision} {d : Nat} {m : St} (h : Stopd dec d m) : Clean m := h.clean

theorem Pend.prot {cfg : Cfg} {m : St} (h : Pend m) (d : Nat) (hh : cfg.handler = none) : Prot cfg d false m :=
  ⟨h.clean, h.pending, h.stopped, h.late, by simp [hh], by simp [h.before]⟩

theorem cutW_idle {cfg : Cfg} {e : Exn} {w : World} (h : Idle (view cfg w).mon) : CutW cfg e w :=
  cutW_of_closed (Or.inl h.pending)

theorem exc_of_idle {cfg : Cfg} {v : View} {e : Exn} {w : World} (hv : view cfg w = v) (hi : Idle v.mon) :
    view cfg w = v ∧ SrcL cfg e w ∧ CutW cfg e w :=
  ⟨hv, srcL_of_view hv hi.stopped, cutW_of_closed (Or.inl (hv ▸ hi.pending))⟩

theorem idle_empty : Idle ({} : St) := ⟨⟨rfl, rfl, rfl, rfl, rfl⟩, rfl, rfl, rfl⟩

/-! ### the requests that move the monitor

Each lemma says how one kind of exchange takes the monitor from one of the invariants to the next.  The
invariants fix every field of the monitor they read, so after substituting them `step` computes. -/

/-- a monitor state is its fields; `hd` is the handler's recorded answer and `b` the delay `before_sleep`
    was seen with (where a step lemma needs no field by name, plain `cases m` does) -/
theorem St.fields {P : St → Prop} (m : St)
    (mk : ∀ p hd hc b st dd l b1 b2 b3 b4 b5, P {
      pending := p, handler := hd, handlerCalls := hc, before := b, stopped := st, deferD := dd, late := l,
      badHandler := b1, badSleep := b2, badStop := b3, badLevel := b4, badSkip := b5 }) : P m := mk ..

theorem step_op_idle (cfg : Cfg) (m : St) (n : Nat) (a : Ans) (h : Idle (mask m)) :
    mask (step cfg m (.op n, a)) = mask m := by
  cases m
  obtain ⟨⟨rfl, rfl, rfl, rfl, rfl⟩, rfl, rfl, -⟩ := h
  rfl

theorem step_strategy_idle (cfg : Cfg) (m : St) (k : SKey) (kd : SKind) (c : BackoffCtx) (a : Ans)
    (h : Idle (mask m)) :
    mask (step cfg m (.strategy k kd c, a)) =
      mask (match a with
            | .delay .. => if cfg.budget.isNone then grant m else m
            | _ => m) := by
  cases m
  obtain ⟨⟨rfl, rfl, rfl, rfl, rfl⟩, rfl, rfl, -⟩ := h
  cases a <;> rfl

theorem step_budget_idle (cfg : Cfg) (m : St) (g : Bool) (h : Idle (mask m)) :
    mask (step cfg m (.budgetConsume, .granted g)) = mask (if g then grant m else m) := by
  cases m
  obtain ⟨⟨rfl, rfl, rfl, rfl, rfl⟩, rfl, rfl, -⟩ := h
  cases g <;> rfl

theorem Idle.grant {m : St} (h : Idle (mask m)) : Pend (mask (grant m)) := by
  cases m
  obtain ⟨⟨rfl, rfl, rfl, rfl, rfl⟩, rfl, rfl, -⟩ := h
  exact ⟨⟨rfl, rfl, rfl, rfl, rfl⟩, rfl, rfl, rfl, rfl, rfl, rfl⟩

theorem step_handler_pend (cfg : Cfg) (m : St) (lvl : Lvl) (c : BackoffCtx) (d : Nat) (a : Ans) (h : Pend (mask m))
    (hl : cfg.handler = some lvl) :
    (∀ dec dur, a = .decision dec dur →
        (dec = .sleep → Prot cfg d false (mask (step cfg m (.sleepHandler lvl c d, a)))) ∧
        (dec ≠ .sleep → Stopd dec d (mask (step cfg m (.sleepHandler lvl c d, a))))) ∧
    ((∀ dec dur, a ≠ .decision dec dur) → PreStop (mask (step cfg m (.sleepHandler lvl c d, a)))) := by
  cases m
  obtain ⟨⟨rfl, rfl, rfl, rfl, rfl⟩, rfl, rfl, rfl, rfl, rfl, -⟩ := h
  have hlv : (false || cfg.handler != some lvl) = false := by simp [hl]
  refine ⟨?_, fun hna => ?_⟩
  · rintro dec dur rfl
    cases dec with
    | sleep => exact ⟨fun _ => ⟨⟨rfl, rfl, rfl, hlv, rfl⟩, rfl, rfl, rfl, fun _ => rfl, rfl⟩, fun hne => absurd rfl hne⟩
    | defer => exact ⟨nofun, fun hne => ⟨⟨rfl, rfl, rfl, hlv, rfl⟩, rfl, hne, fun _ => rfl⟩⟩
    | abort => exact ⟨nofun, fun hne => ⟨⟨rfl, rfl, rfl, hlv, rfl⟩, rfl, hne, nofun⟩⟩
    | other => exact ⟨nofun, fun hne => ⟨⟨rfl, rfl, rfl, hlv, rfl⟩, rfl, hne, nofun⟩⟩
  · cases a
    case decision dec dur => exact absurd rfl (hna dec dur)
    all_goals exact ⟨⟨rfl, rfl, rfl, hlv, rfl⟩, rfl⟩

theorem step_before_prot (cfg : Cfg) (m : St) (lvl : Lvl) (c : BackoffCtx) (d : Nat) (a : Ans)
    (h : Prot cfg d false (mask m)) (hl : cfg.beforeSleep = some lvl) :
    Prot cfg d cfg.beforeSleep.isSome (mask (step cfg m (.beforeSleep lvl c d, a))) := by
  rw [hl]
  induction m using St.fields with | mk _ hd _ b
  obtain ⟨⟨rfl, rfl, rfl, rfl, rfl⟩, rfl, rfl, -, hh, rfl⟩ := h
  refine ⟨⟨?_, rfl, rfl, ?_, rfl⟩, rfl, rfl, rfl, hh, rfl⟩
  · show (false || (cfg.handler.isSome && hd != some (.sleep, d))) = false
    cases hc : cfg.handler.isSome
    · rfl
    · simp [show hd = _ from hh hc]
  · show (false || cfg.beforeSleep != some lvl) = false
    simp [hl]

theorem step_sleeper_prot (cfg : Cfg) (m : St) (d : Nat) (a : Ans) (h : Prot cfg d cfg.beforeSleep.isSome (mask m)) :
    Idle (mask (step cfg m (.sleeper cfg.sleeper d, a))) := by
  induction m using St.fields with | mk _ hd _ b
  obtain ⟨⟨rfl, rfl, rfl, rfl, rfl⟩, rfl, rfl, -, hh, hb⟩ := h
  refine ⟨⟨?_, ?_, rfl, ?_, rfl⟩, rfl, rfl, rfl⟩
  · show (false || (cfg.handler.isSome && hd != some (.sleep, d))) = false
    cases hc : cfg.handler.isSome
    · rfl
    · simp [show hd = _ from hh hc]
  · show (false || !true || (cfg.beforeSleep.isSome && b != some d)) = false
    rw [show b = _ from hb]
    cases cfg.beforeSleep.isSome <;> simp
  · show (false || cfg.sleeper != cfg.sleeper) = false
    simp

/-- an exception is an acceptable ending: before any stop decision always; after `dec` it is the
    expected one, or it replaced it (raised by a callback since) -/
def excGood (m : St) (e : Exn) : Prop :=
  ∀ dec, m.stopped = some dec → expected m dec (.raised e) = true ∨ e = .stuck ∨ e ∈ m.late

/-- the monitor's verdict on an exceptional ending, at world `w` (the `late` list is not part of the view,
    so that half speaks of `cur` itself) -/
def ExcP (cfg : Cfg) (e : Exn) (w : World) : Prop :=
  Clean (view cfg w).mon ∧ excGood (cur cfg w.trace) e

theorem not_stopped_cur {cfg : Cfg} {w : World} {dec : SleepDecision} (h : (view cfg w).mon.stopped = none)
    (hd : (cur cfg w.trace).stopped = some dec) : False := by
  cases (show (cur cfg w.trace).stopped = none from h).symm.trans hd

theorem excP_of_pre {cfg : Cfg} {e : Exn} {w : World} (h : PreStop (view cfg w).mon) : ExcP cfg e w :=
  ⟨h.clean, fun _ hd => (not_stopped_cur h.stopped hd).elim⟩

theorem excP_of_idle {cfg : Cfg} {e : Exn} {w : World} (h : Idle (view cfg w).mon) : ExcP cfg e w :=
  excP_of_pre h.pre

theorem excP_of_src {cfg : Cfg} {e : Exn} {w : World} (hc : Clean (view cfg w).mon) (h : SrcL cfg e w) :
    ExcP cfg e w := by
  refine ⟨hc, fun dec hd => ?_⟩
  rcases h with h | h | h
  · rw [h] at hd; cases hd
  · exact Or.inr (Or.inl h)
  · exact Or.inr (Or.inr h)

theorem expected_mask (m : St) (dec : SleepDecision) (r : Res) : expected (mask m) dec r = expected m dec r := rfl

theorem excP_of_expected {cfg : Cfg} {e : Exn} {w : World} (hc : Clean (view cfg w).mon)
    (h : ∀ dec, (view cfg w).mon.stopped = some dec → expected (view cfg w).mon dec (.raised e) = true) :
    ExcP cfg e w :=
  ⟨hc, fun dec hd => Or.inl (by rw [← expected_mask]; exact h dec hd)⟩

def outGood (m : St) (o : Outcome) : Prop :=
  ∀ dec, m.stopped = some dec → expected m dec (.outcome o []) = true ∨ replaced m (.outcome o []) = true

def pendOk (m : St) (o : Outcome) : Prop := m.pending = true → m.stopped = none → o.stop = some .aborted

/-- the monitor's verdict on an outcome, at world `w` (as in `ExcP`, the half that may mention `late` speaks
    of `cur`; `expected_mask`, `not_stopped_cur`, `clean_cur` pass between the two) -/
def OutP (cfg : Cfg) (o : Outcome) (w : World) : Prop :=
  Clean (view cfg w).mon ∧ outGood (cur cfg w.trace) o ∧ pendOk (view cfg w).mon o

theorem outP_of_aborted {cfg : Cfg} {o : Outcome} {w : World} (h : PreStop (view cfg w).mon)
    (ho : o.stop = some .aborted) : OutP cfg o w :=
  ⟨h.clean, fun _ hd => (not_stopped_cur h.stopped hd).elim, fun _ _ => ho⟩

theorem outP_of_idle {cfg : Cfg} {o : Outcome} {w : World} (h : Idle (view cfg w).mon) : OutP cfg o w :=
  ⟨h.clean, fun _ hd => (not_stopped_cur h.stopped hd).elim, fun hp _ => Bool.noConfusion (h.pending.symm.trans hp)⟩

/-- what a failed attempt leaves behind: no stop decision yet; a granted retry waits for its sleep -/
structure Failed (d : Decision) (m : St) : Prop where
  pre : PreStop m
  retry : d.isRaise = false → Pend m
  raise : d.isRaise = true → Idle m

theorem Failed.of_pend {m : St} (h : Pend m) (s : Nat) (c : BackoffCtx) : Failed (.retry s c) m :=
  ⟨h.pre, fun _ => h, nofun⟩

theorem Failed.of_idle {m : St} (h : Idle m) : Failed .raise m := ⟨h.pre, nofun, fun _ => h⟩

/-- where the protocol stands once the handler's decision `r` has been carried out for the delay `s` -/
structure Acted (s : Nat) (r : SleepDecision) (v : View) : Prop where
  sleep : r = .sleep → Idle v.mon
  defer : r = .defer → Stopd .defer s v.mon ∧ v.stop = some .scheduled
  abort : r = .abort → Stopd .abort s v.mon ∧ v.stop = some .aborted
  other : r ≠ .other

theorem Acted.of_idle {s : Nat} {v : View} (h : Idle v.mon) : Acted s .sleep v := ⟨fun _ => h, nofun, nofun, nofun⟩

theorem Acted.clean {s : Nat} {r : SleepDecision} {v : View} (h : Acted s r v) : Clean v.mon := by
  cases r with
  | sleep => exact (h.sleep rfl).clean
  | defer => exact (h.defer rfl).1.clean
  | abort => exact (h.abort rfl).1.clean
  | other => exact absurd rfl h.other

theorem Acted.not_stopped {s : Nat} {r : SleepDecision} {v : View} (h : Acted s r v)
    (hd : some r ≠ some .defer) (ha : some r ≠ some .abort) : v.mon.stopped = none := by
  cases r with
  | sleep => exact (h.sleep rfl).stopped
  | defer => exact absurd rfl hd
  | abort => exact absurd rfl ha
  | other => exact absurd rfl h.other

/-- What is left of a verification condition once the specs fit: the views of the intermediate worlds are
    equal, and one invariant implies the next.  Rewriting with the hypotheses and these implications closes it. -/
macro "vc_close" : tactic => `(tactic| all_goals simp only [*, Failed.of_pend, Failed.of_idle, Idle.pre, Pend.pre,
  stopped_of_idle, stopped_of_pre, Pend.prot, Acted.of_idle, excP_of_pre, excP_of_idle, excP_of_src,
  clean_of_pre, clean_of_idle, outP_of_idle, cutW_idle, restore_dummy, ne_eq, not_false_eq_true, and_self])

theorem viewOf_cons_mon (cfg : Cfg) (x : Req × Ans) (tr : List (Req × Ans)) (ls : Option StopReason) :
    (viewOf cfg (x :: tr) ls).mon = mask (step cfg (cur cfg tr) x) := rfl

theorem viewOf_op_idle (cfg : Cfg) (n : Nat) (a : Ans) (tr : List (Req × Ans)) (ls : Option StopReason)
    (h : Idle (viewOf cfg tr ls).mon) : viewOf cfg ((Req.op n, a) :: tr) ls = viewOf cfg tr ls := by
  have hm := step_op_idle cfg (cur cfg tr) n a h
  have hs : (step cfg (cur cfg tr) (.op n, a)).stopped = (cur cfg tr).stopped := mask_stopped hm
  simp only [viewOf, cur_cons, hm, hs]

theorem invokeOp_spec (cfg : Cfg) (v : View) (a : Nat) (hi : Idle v.mon) :
    ⦃fun w => ⌜view cfg w = v⌝⦄ invokeOp a ⦃sameC cfg v⦄ := by
  mvcgen -leave -trivial [invokeOp, ask_exchanged]
  vc_intro
  all_goals subst_vars
  case vc1 =>
    obtain ⟨_, rfl⟩ := ‹_ ∧ _›
    exact viewOf_op_idle cfg _ _ _ _ hi
  case vc2 =>
    obtain ⟨_, rfl⟩ := ‹_ ∧ _›
    exact exc_of_idle (viewOf_op_idle cfg _ _ _ _ hi) hi
  case vc3 =>
    obtain ⟨_, rfl⟩ := ‹∃ _, _›
    exact exc_of_idle (viewOf_op_idle cfg _ _ _ _ hi) hi

theorem step_strategy (cfg : Cfg) (m : St) (k : SKey) (kd : SKind) (c : BackoffCtx) (a : Ans) (h : Idle (mask m)) :
    (∀ o d, a = .delay o d → (cfg.budget = none → Pend (mask (step cfg m (.strategy k kd c, a)))) ∧
        (cfg.budget ≠ none → Idle (mask (step cfg m (.strategy k kd c, a))))) ∧
    ((∀ o d, a ≠ .delay o d) → Idle (mask (step cfg m (.strategy k kd c, a)))) := by
  rw [step_strategy_idle cfg m k kd c _ h]
  refine ⟨?_, fun ha => ?_⟩
  · rintro o d rfl
    cases hb : cfg.budget
    · exact ⟨fun _ => h.grant, fun hn => absurd rfl hn⟩
    · exact ⟨nofun, fun _ => h⟩
  · cases a
    case delay o d => exact absurd rfl (ha o d)
    all_goals exact h

theorem callStrategy_spec (cfg : Cfg) (v : View) (k : SKey) (kd : SKind) (c : BackoffCtx) (hi : Idle v.mon) :
    ⦃fun w => ⌜view cfg w = v⌝⦄ callStrategy k kd c
    ⦃post⟨fun _ w => ⌜(cfg.budget = none → Pend (view cfg w).mon) ∧ (cfg.budget ≠ none → Idle (view cfg w).mon)⌝,
          fun _ w => ⌜Idle (view cfg w).mon⌝⟩⦄ := by
  mvcgen -leave -trivial [callStrategy, ask_exchanged]
  vc_intro
  all_goals subst_vars
  case vc1 =>
    obtain ⟨_, rfl⟩ := ‹_ ∧ _›
    simp only [exchanged, view_eq_viewOf, viewOf_cons_mon]
    exact (step_strategy cfg _ k kd c _ hi).1 _ _ rfl
  case vc2 =>
    obtain ⟨_, rfl⟩ := ‹_ ∧ _›
    simp only [exchanged, view_eq_viewOf, viewOf_cons_mon]
    exact (step_strategy cfg _ k kd c _ hi).2 (by assumption)
  case vc3 =>
    obtain ⟨_, rfl⟩ := ‹∃ _, _›
    simp only [exchanged, view_eq_viewOf, viewOf_cons_mon]
    exact (step_strategy cfg _ k kd c _ hi).2 nofun

theorem step_budget (cfg : Cfg) (m : St) (g : Bool) (h : Idle (mask m)) :
    (g = true → Pend (mask (step cfg m (.budgetConsume, .granted g)))) ∧
    (g = false → Idle (mask (step cfg m (.budgetConsume, .granted g)))) := by
  rw [step_budget_idle cfg m g h]
  cases g
  · exact ⟨nofun, fun _ => h⟩
  · exact ⟨fun _ => h.grant, nofun⟩

theorem budgetConsume_spec (cfg : Cfg) (v : View) (hp : cfg.budget = none → Pend v.mon)
    (hi : cfg.budget ≠ none → Idle v.mon) :
    ⦃fun w => ⌜view cfg w = v⌝⦄ budgetConsume cfg
    ⦃post⟨fun g w => ⌜(g = true → Pend (view cfg w).mon) ∧ (g = false → Idle (view cfg w).mon)⌝,
          fun _ _ => ⌜False⌝⟩⦄ := by
  mvcgen -leave -trivial [budgetConsume]
  vc_intro
  all_goals subst_vars
  case vc1 hb _ _ => exact ⟨fun _ => hp hb, nofun⟩
  case vc2 bc hb _ _ =>
    simp only [view_eq_viewOf, viewOf_cons_mon]
    exact step_budget cfg _ _ (hi (by rw [hb]; nofun))

theorem callSleepHandler_spec (cfg : Cfg) (v : View) (lvl : Lvl) (ctx : BackoffCtx) (s : Nat)
    (hl : cfg.handler = some lvl) (hp : Pend v.mon) :
    ⦃fun w => ⌜view cfg w = v⌝⦄ callSleepHandler lvl ctx s
    ⦃post⟨fun dec w => ⌜(dec = .sleep → Prot cfg s false (view cfg w).mon) ∧
                          (dec ≠ .sleep → Stopd dec s (view cfg w).mon)⌝,
          fun e w => ⌜PreStop (view cfg w).mon ∧ CutW cfg e w⌝⟩⦄ := by
  mvcgen -leave -trivial [callSleepHandler, ask_exchanged]
  vc_intro
  all_goals subst_vars
  case vc1 =>
    obtain ⟨_, rfl⟩ := ‹_ ∧ _›
    simp only [exchanged, view_eq_viewOf, viewOf_cons_mon]
    exact (step_handler_pend cfg _ lvl ctx s _ hp hl).1 _ _ rfl
  case vc2 =>
    obtain ⟨_, rfl⟩ := ‹_ ∧ _›
    simp only [exchanged, view_eq_viewOf, viewOf_cons_mon]
    exact ⟨(step_handler_pend cfg _ lvl ctx s _ hp hl).2 (by assumption), cutW_stuck⟩
  case vc3 =>
    obtain ⟨_, rfl⟩ := ‹∃ _, _›
    simp only [exchanged, view_eq_viewOf, viewOf_cons_mon]
    exact ⟨(step_handler_pend cfg _ lvl ctx s _ hp hl).2 nofun, cutW_head rfl rfl⟩

/-- an observability hook's exchange, as the two things the view reads see it -/
theorem askHook_read (p : List (Req × Ans) × Option StopReason) (r : Req) :
    ⦃fun w => ⌜(w.trace, w.rs.lastStop) = p⌝⦄ askHook r
    ⦃post⟨fun a w => ⌜(∀ e d, a ≠ .raise e d) ∧ (w.trace, w.rs.lastStop) = ((r, a) :: p.1, p.2)⌝,
          fun e w => ⌜∃ d, (w.trace, w.rs.lastStop) = ((r, .raise e d) :: p.1, p.2)⌝⟩⦄ :=
  askHook_view (fun w => (w.trace, w.rs.lastStop)) (fun p x => (x :: p.1, p.2)) (fun _ _ => rfl) (fun _ _ => rfl) p r

theorem callBeforeSleep_spec (cfg : Cfg) (v : View) (ctx : BackoffCtx) (s : Nat) (hpr : Prot cfg s false v.mon) :
    ⦃fun w => ⌜view cfg w = v⌝⦄ callBeforeSleep cfg ctx s
    ⦃post⟨fun _ w => ⌜Prot cfg s cfg.beforeSleep.isSome (view cfg w).mon⌝,
          fun e w => ⌜PreStop (view cfg w).mon ∧ CutW cfg e w⌝⟩⦄ := by
  mvcgen -leave -trivial [callBeforeSleep, swallowException, askHook_read]
  vc_intro
  all_goals subst_vars
  case vc1 =>
    rw [‹cfg.beforeSleep = none›]
    exact hpr
  case vc2 =>
    obtain ⟨_, h⟩ := ‹_ ∧ _›
    obtain ⟨ht, hl⟩ := Prod.mk.inj h
    simp only [view_eq_viewOf, ht, hl, viewOf_cons_mon]
    exact step_before_prot cfg _ _ ctx s _ hpr ‹_›
  case vc3 =>
    obtain ⟨_, h⟩ := ‹∃ _, _›
    obtain ⟨ht, hl⟩ := Prod.mk.inj h
    simp only [restore_dummy, view_eq_viewOf, ht, hl, viewOf_cons_mon]
    exact step_before_prot cfg _ _ ctx s _ hpr ‹_›
  case vc4 =>
    obtain ⟨_, h⟩ := ‹∃ _, _›
    obtain ⟨ht, hl⟩ := Prod.mk.inj h
    simp only [restore_dummy, view_eq_viewOf, ht, hl, viewOf_cons_mon]
    exact ⟨(step_before_prot cfg _ _ ctx s _ hpr ‹_›).pre,
      cutW_head ht (by simp only [raisedOf, ‹¬ _›, Bool.and_false, Bool.false_eq_true, if_false])⟩

theorem callSleeper_spec (cfg : Cfg) (v : View) (s : Nat) (hpr : Prot cfg s cfg.beforeSleep.isSome v.mon) :
    ⦃fun w => ⌜view cfg w = v⌝⦄ callSleeper cfg s
    ⦃post⟨fun _ w => ⌜Idle (view cfg w).mon⌝, fun _ w => ⌜Idle (view cfg w).mon⌝⟩⦄ := by
  mvcgen -leave -trivial [callSleeper, ask_exchanged]
  vc_intro
  all_goals subst_vars
  case vc1 =>
    obtain ⟨_, rfl⟩ := ‹_ ∧ _›
    simp only [exchanged, view_eq_viewOf, viewOf_cons_mon]
    exact step_sleeper_prot cfg _ s _ hpr
  case vc2 =>
    obtain ⟨_, rfl⟩ := ‹∃ _, _›
    simp only [exchanged, view_eq_viewOf, viewOf_cons_mon]
    exact step_sleeper_prot cfg _ s _ hpr

theorem view_setPrev (cfg : Cfg) (w : World) (p : Option Nat) :
    view cfg { w with rs := { w.rs with prevSleep := p } } = view cfg w := rfl
theorem view_setLastStrategy (cfg : Cfg) (w : World) (k : Option SKey) :
    view cfg { w with rs := { w.rs with lastStrategy := k } } = view cfg w := rfl
theorem view_recordFailure (cfg : Cfg) (w : World) (a : Option EClass) (b : Option Classification)
    (c : Option Cause) (d : Option Exn) (e : Option Nat) :
    view cfg { w with rs := { w.rs with lastClass := a, lastClassification := b, lastCause := c, lastExc := d,
                                        lastResult := e } } = view cfg w := rfl
theorem view_setCounts (cfg : Cfg) (w : World) (f : EClass → Nat) :
    view cfg { w with rs := { w.rs with perClassCounts := f } } = view cfg w := rfl
theorem view_setUnknown (cfg : Cfg) (w : World) (n : Nat) :
    view cfg { w with rs := { w.rs with unknownAttempts := n } } = view cfg w := rfl
theorem view_setAs (cfg : Cfg) (w : World) (x : AState) : view cfg { w with as := x } = view cfg w := rfl
theorem view_setAttempts (cfg : Cfg) (w : World) (x : Nat) : view cfg { w with attempts := x } = view cfg w := rfl
theorem view_setAsAttempts (cfg : Cfg) (w : World) (x : AState) (n : Nat) :
    view cfg { w with as := x, attempts := n } = view cfg w := rfl
theorem view_setTl (cfg : Cfg) (w : World) (n : Nat) (tl : List TimelineEv) :
    view cfg { w with tlStart := n, timeline := tl } = view cfg w := rfl

/-- the failure handler's exits.  (`PreStop` is also `Failed.pre` — as `Clean` in `failureOutcome_spec` is
    `FO.clean` — and is said on its own so that `vc_close` finds it among the hypotheses.) -/
abbrev failPost (cfg : Cfg) : PostCond Decision (.except Exn (.arg World .pure)) :=
  post⟨fun d w => ⌜PreStop (view cfg w).mon ∧ Failed d (view cfg w).mon⌝,
       fun e w => ⌜PreStop (view cfg w).mon ∧ CutW cfg e w⌝⟩

theorem grantRetry_spec (cfg : Cfg) (tl : Bool) (c : Classification) (a : Nat) (cause : Cause) (e : Option Exn)
    (key : SKey) (kind : SKind) (rem : Nat) (v : View) (hi : Idle v.mon) :
    ⦃fun w => ⌜view cfg w = v⌝⦄ grantRetry cfg tl c a cause e key kind rem ⦃failPost cfg⦄ := by
  have hcs := fun ctx => callStrategy_spec cfg v key kind ctx hi
  have hmod := fun v f hf => modifyRS_v cfg v f hf
  mvcgen -leave -trivial [grantRetry, getRS, hcs, budgetConsume_spec, hmod, emit_v, stopWith_v]
  vc_intro
  vc_close

theorem handleFailure2_spec (cfg : Cfg) (tl : Bool) (c : Classification) (a : Nat) (cause : Cause)
    (e : Option Exn) (v : View) (hi : Idle v.mon) :
    ⦃fun w => ⌜view cfg w = v⌝⦄ handleFailure2 cfg tl c a cause e ⦃failPost cfg⦄ := by
  have hmod := fun f hf => modifyRS_v cfg v f hf
  mvcgen -leave -trivial [handleFailure2, elapsed, grantRetry_spec, stopWith_v, hmod, stratRecordFailure_v]
  vc_intro
  vc_close

theorem handleUnknown_spec (cfg : Cfg) (tl : Bool) (c : Classification) (a : Nat) (cause : Cause)
    (e : Option Exn) (v : View) (hi : Idle v.mon) :
    ⦃fun w => ⌜view cfg w = v⌝⦄ handleUnknown cfg tl c a cause e ⦃failPost cfg⦄ := by
  have hmod := fun f hf => modifyRS_v cfg v f hf
  mvcgen -leave -trivial [handleUnknown, getRS, handleFailure2_spec, stopWith_v, hmod]
  vc_intro
  vc_close

theorem handleFailure1_spec (cfg : Cfg) (tl : Bool) (c : Classification) (a : Nat) (cause : Cause)
    (e : Option Exn) (v : View) (hi : Idle v.mon) :
    ⦃fun w => ⌜view cfg w = v⌝⦄ handleFailure1 cfg tl c a cause e ⦃failPost cfg⦄ := by
  mvcgen -leave -trivial [handleFailure1, getRS, handleFailure2_spec, handleUnknown_spec, stopWith_v]
  vc_intro
  vc_close

theorem handleFailure_spec (cfg : Cfg) (tl : Bool) (c : Classification) (a : Nat) (cause : Cause)
    (e : Option Exn) (r : Option Nat) (v : View) (hi : Idle v.mon) :
    ⦃fun w => ⌜view cfg w = v⌝⦄ handleFailure cfg tl c a cause e r ⦃failPost cfg⦄ := by
  have hmod := fun f hf => modifyRS_v cfg v f hf
  mvcgen -leave -trivial [handleFailure, Retry.recordFailure, handleFailure1_spec, hmod]
  vc_intro
  vc_close

theorem handleException_spec (cfg : Cfg) (tl : Bool) (e : Exn) (a : Nat) (v : View) (hi : Idle v.mon) :
    ⦃fun w => ⌜view cfg w = v⌝⦄ handleException cfg tl e a ⦃failPost cfg⦄ := by
  have hcl := callClassifier_v cfg v e
  mvcgen -leave -trivial [handleException, hcl, handleFailure_spec]
  vc_intro
  vc_close

/-- `_handle_sleep_decision` after the handler answered `act`: the monitor does not move; after DEFER /
    ABORT the stop reason is SCHEDULED / ABORTED; a non-`SleepDecision` raises `ValueError` -/
theorem handleSleepDecision_spec (cfg : Cfg) (tl : Bool) (act : SleepDecision) (a s : Nat) (v : View)
    (h1 : act = .sleep → Prot cfg s false v.mon) (h2 : act ≠ .sleep → Stopd act s v.mon) :
    ⦃fun w => ⌜view cfg w = v⌝⦄ handleSleepDecision cfg tl act a s
    ⦃post⟨fun r w => ⌜r = act ∧ (r = .sleep → Prot cfg s false (view cfg w).mon) ∧
                        (r ≠ .sleep → Acted s r (view cfg w))⌝,
          fun e w => ⌜ExcP cfg e w ∧ CutW cfg e w⌝⟩⦄ := by
  refine triple_of_rel (fun w0 => handleSleepDecision_fx inertQ w0 cfg tl act a s (fun _ => rfl) (fun _ _ => rfl)
    (fun _ => rfl) (fun _ _ => rfl)) FootXS.refl (fun w r w' hw hr => ?_) (fun w e w' hw he => ?_)
  · obtain ⟨⟨rfl, hno, hdf, hab⟩, hf⟩ := hr
    have hm : (view cfg w').mon = v.mon := (view_fxs_mon cfg _ _ hf).trans (congrArg View.mon hw)
    refine ⟨rfl, fun hr => hm ▸ h1 hr, fun hr => ?_⟩
    have hst : Stopd r s (view cfg w').mon := hm ▸ h2 hr
    have hstop := view_stop (cfg := cfg) (w := w') (by rw [hst.stopped]; rfl)
    exact ⟨fun hs => absurd hs hr, fun hd => ⟨hd ▸ hst, by rw [hstop, hdf hd]⟩,
      fun ha => ⟨ha ▸ hst, by rw [hstop, hab ha]⟩, hno⟩
  · have hm : (view cfg w').mon = v.mon := (view_fxs_mon cfg _ _ he.foot).trans (congrArg View.mon hw)
    have hc : Clean (view cfg w').mon := by
      rw [hm]
      by_cases hr : act = .sleep
      · exact (h1 hr).clean
      · exact (h2 hr).clean
    rcases he.src with ⟨rfl, rfl⟩ | hp
    · have hst : (view cfg w').mon.stopped = some .other := by rw [hm]; exact (h2 nofun).stopped
      refine ⟨⟨hc, fun dec hd => Or.inl ?_⟩, cutW_of_closed (Or.inr (by rw [hst]; nofun))⟩
      cases (show _ = _ from hst).symm.trans hd
      rfl
    · exact ⟨excP_of_src hc (srcL_of_prov he.foot hp), cutW_of_prov hp⟩

/-- `_sync_sleep_action` / `_async_sleep_action`: the sleep-handler protocol -/
theorem sleepAction_spec (cfg : Cfg) (tl : Bool) (a s : Nat) (ctx : BackoffCtx) (v : View) (hp : Pend v.mon) :
    ⦃fun w => ⌜view cfg w = v⌝⦄ sleepAction cfg tl a s ctx
    ⦃post⟨fun r w => ⌜Acted s r (view cfg w)⌝, fun e w => ⌜ExcP cfg e w ∧ CutW cfg e w⌝⟩⦄ := by
  have h1 := fun v hpr => callBeforeSleep_spec cfg v ctx s hpr
  have h2 := fun v hpr => callSleeper_spec cfg v s hpr
  have h3 := fun lvl hl => callSleepHandler_spec cfg v lvl ctx s hl hp
  have h4 := fun act v h1 h2 => handleSleepDecision_spec cfg tl act a s v h1 h2
  mvcgen -leave -trivial [sleepAction, h1, h2, h3, h4]
  vc_intro
  case vc15 =>
    obtain ⟨rfl, -, h⟩ := ‹_ ∧ _›
    exact h ‹_›
  vc_close

/-- what `_finalize_attempt` makes of a decision and the handler's action -/
def OutOk (d : Decision) (act : Option SleepDecision) (o : AOutcome) : Prop :=
  match d with
  | .raise => o.decision = .raise
  | .retry s _ =>
    (act = some .defer → o.decision = .scheduled ∧ o.sleep = some s ∧ o.stop = some .scheduled) ∧
    (act = some .abort → o.decision = .aborted) ∧
    (act ≠ some .defer → act ≠ some .abort → o.decision = .raise ∨ o.decision = .retry)

theorem finalizeAttempt_spec (cfg : Cfg) (tl : Bool) (a : Nat) (d : Decision) (act : Option SleepDecision)
    (cls : Option Classification) (e : Option Exn) (r : Option Nat) (c : Option Cause) (v : View)
    (hs : act ≠ some .defer → act ≠ some .abort → v.mon.stopped = none) :
    ⦃fun w => ⌜view cfg w = v⌝⦄ finalizeAttempt cfg tl a d act cls e r c
    ⦃post⟨fun o w => ⌜OutOk d act o ∧ view cfg w = v⌝, fun e' w => ⌜view cfg w = v ∧ SrcL cfg e' w ∧ CutW cfg e' w⌝⟩⦄ := by
  have h1 := fun hs sr => setStop_v cfg v hs sr
  have h2 := fun ev k ex st cs => emit_v cfg v tl ev a 0 k ex st cs none
  mvcgen -leave -trivial [finalizeAttempt, getRS, elapsed, h1, h2]
  vc_intro
  all_goals subst_vars
  case vc1 => exact ⟨rfl, rfl⟩
  case vc2 => exact ⟨⟨fun _ => ⟨rfl, rfl, rfl⟩, nofun, fun h => absurd rfl h⟩, rfl⟩
  case vc3 => exact ⟨⟨nofun, fun _ => rfl, fun _ h => absurd rfl h⟩, rfl⟩
  case vc4 => exact hs ‹_› ‹_›
  case vc8 => exact hs ‹_› ‹_›
  case vc12 => exact ⟨⟨fun h => absurd h ‹_›, fun h => absurd h ‹_›, fun _ _ => Or.inr rfl⟩, rfl⟩
  case vc7 => exact ⟨⟨fun h => absurd h ‹_›, fun h => absurd h ‹_›, fun _ _ => Or.inl rfl⟩, ‹_›⟩
  case vc11 => exact ⟨⟨fun h => absurd h ‹_›, fun h => absurd h ‹_›, fun _ _ => Or.inl rfl⟩, ‹_›⟩
  vc_close

/-- what a failed attempt's outcome says about where the protocol stands -/
structure FO (o : AOutcome) (v : View) : Prop where
  clean : Clean v.mon
  retry : o.decision = .retry → Idle v.mon
  raise : o.decision = .raise → Idle v.mon
  sched : o.decision = .scheduled → v.mon.stopped = some .defer ∧ v.mon.deferD = o.sleep ∧ o.sleep.isSome = true ∧
            o.stop = some .scheduled ∧ v.stop = some .scheduled
  abort : o.decision = .aborted → v.mon.stopped = some .abort ∧ v.stop = some .aborted
  nosucc : o.decision ≠ .success

theorem FO.of_idle {o : AOutcome} {v : View} (hp : Idle v.mon) (h : o.decision = .raise ∨ o.decision = .retry) :
    FO o v := by
  refine ⟨hp.clean, fun _ => hp, fun _ => hp, fun h' => ?_, fun h' => ?_, fun h' => ?_⟩ <;> rw [h'] at h <;>
    exact h.elim nofun nofun

theorem FO.of_action {o : AOutcome} {v : View} {r : SleepDecision} {s : Nat} {ctx : BackoffCtx}
    (h : Acted s r v) (ho : OutOk (.retry s ctx) (some r) o) : FO o v := by
  cases r with
  | other => exact absurd rfl h.other
  | sleep => exact FO.of_idle (h.sleep rfl) (ho.2.2 nofun nofun)
  | defer =>
    obtain ⟨hst, hstop⟩ := h.defer rfl
    obtain ⟨hd, hsl, hos⟩ := ho.1 rfl
    exact ⟨hst.clean, fun h' => absurd (hd.symm.trans h') (by decide), fun h' => absurd (hd.symm.trans h') (by decide),
      fun _ => ⟨hst.stopped, by rw [hst.defer rfl, hsl], by rw [hsl]; rfl, hos, hstop⟩,
      fun h' => absurd (hd.symm.trans h') (by decide), by rw [hd]; decide⟩
  | abort =>
    obtain ⟨hst, hstop⟩ := h.abort rfl
    have hd := ho.2.1 rfl
    exact ⟨hst.clean, fun h' => absurd (hd.symm.trans h') (by decide), fun h' => absurd (hd.symm.trans h') (by decide),
      fun h' => absurd (hd.symm.trans h') (by decide), fun _ => ⟨hst.stopped, hstop⟩, by rw [hd]; decide⟩

theorem FO.notPending {o : AOutcome} {v : View} (hfo : FO o v) (hs : v.mon.stopped = none) : v.mon.pending = false := by
  cases hd : o.decision with
  | retry => exact (hfo.retry hd).pending
  | raise => exact (hfo.raise hd).pending
  | scheduled => cases (hfo.sched hd).1.symm.trans hs
  | aborted => cases (hfo.abort hd).1.symm.trans hs
  | success => exact absurd hd hfo.nosucc

theorem FO.closed {o : AOutcome} {v : View} (hfo : FO o v) : v.mon.pending = false ∨ v.mon.stopped ≠ none :=
  (Classical.em (v.mon.stopped = none)).imp hfo.notPending id

theorem failureOutcome_spec (cfg : Cfg) (tl : Bool) (a : Nat) (d : Decision) (cls : Option Classification)
    (e : Option Exn) (r : Option Nat) (c : Option Cause) (v : View) (hf : Failed d v.mon) :
    ⦃fun w => ⌜view cfg w = v⌝⦄ failureOutcome cfg tl a d cls e r c
    ⦃post⟨fun o w => ⌜Clean (view cfg w).mon ∧ FO o (view cfg w)⌝, fun e' w => ⌜ExcP cfg e' w ∧ CutW cfg e' w⌝⟩⦄ := by
  have h1 := fun d act v hs => finalizeAttempt_spec cfg tl a d act cls e r c v hs
  have h2 := fun s ctx hp => sleepAction_spec cfg tl a s ctx v hp
  mvcgen -leave -trivial [failureOutcome, h1, h2]
  vc_intro
  all_goals subst_vars
  case vc1 =>
    obtain ⟨ho, hv⟩ := ‹_ ∧ _›
    have hd : AOutcome.decision _ = .raise := ho
    have hfo := FO.of_idle (hf.raise rfl) (Or.inl hd)
    exact hv ▸ ⟨hfo.clean, hfo⟩
  case vc2 =>
    obtain ⟨hv, hsrc, hcut⟩ := ‹_ ∧ _›
    exact ⟨excP_of_src (hv ▸ hf.pre.clean) hsrc, hcut⟩
  case vc3 => exact hf.pre.stopped
  case vc4 => exact hf.retry rfl
  case vc5 => rfl
  case vc6 =>
    obtain ⟨ho, hv⟩ := ‹_ ∧ _›
    have hfo := FO.of_action ‹_› ho
    exact hv ▸ ⟨hfo.clean, hfo⟩
  case vc7 =>
    obtain ⟨hv, hsrc, hcut⟩ := ‹_ ∧ _›
    exact ⟨excP_of_src (hv ▸ Acted.clean ‹Acted _ _ _›) hsrc, hcut⟩
  case vc8 => exact Acted.not_stopped ‹_› ‹_› ‹_›
  all_goals assumption

abbrev loopPost (cfg : Cfg) : PostCond α (.except Exn (.arg World .pure)) :=
  post⟨fun _ w => ⌜Idle (view cfg w).mon⌝, fun e w => ⌜ExcP cfg e w ∧ CutW cfg e w⌝⟩

/-- what follows `determine_action_from_outcome` in call mode -/
theorem deliverCall_spec (cfg : Cfg) (o : AOutcome) (rs : RState) (a : Nat) (fr : Bool) (orig : Option Exn)
    (fb : ExhaustedFields) (v : View) (hfo : FO o v) :
    ⦃fun w => ⌜view cfg w = v⌝⦄ deliverCall (determineAction o rs a fr) orig fb ⦃loopPost cfg⦄ := by
  mvcgen -leave -trivial [deliverCall]
  vc_intro
  all_goals subst_vars
  case vc1 => exact hfo.retry ((determineAction_continue_iff _ _ _ _).mp ‹_›)
  all_goals refine ⟨excP_of_expected hfo.clean (fun dec hd => ?_), cutW_of_closed hfo.closed⟩
  case vc2 =>
    cases (hfo.abort ((determineAction_abort_iff _ _ _ _).mp ‹_›)).1.symm.trans hd
    rfl
  case vc3 f _ _ _ =>
    rcases determineAction_scheduled _ _ _ _ _ ‹_› with ⟨h1, h2, h3⟩ | ⟨h1 | h1, _⟩
    · obtain ⟨hs, hd', hsome, hstop, _⟩ := hfo.sched h1
      cases hs.symm.trans hd
      simp [expected, h2, h3, hstop, hd', hsome]
    · cases (hfo.raise h1).stopped.symm.trans hd
    · exact absurd h1 hfo.nosucc
  all_goals
    rcases determineAction_raise _ _ _ _ ‹_› with h1 | h1
    · cases (hfo.raise h1).stopped.symm.trans hd
    · exact absurd h1 hfo.nosucc

theorem callExceptionPath_spec (cfg : Cfg) (a : Nat) (e : Exn) (u : View) (hi : Idle u.mon) :
    ⦃fun w => ⌜view cfg w = u⌝⦄ callExceptionPath cfg a e ⦃loopPost cfg⦄ := by
  have h0 := fun v f => modifyAS_v cfg v f
  have h5 := fun o rs v hfo => deliverCall_spec cfg o rs a false (some e) default v hfo
  mvcgen -leave -trivial [callExceptionPath, getRS, h0, checkAbort_v, handleException_spec, failureOutcome_spec, callAttemptEndFromOutcome_v, h5]
  vc_intro
  vc_close

theorem callResultFailure_spec (cfg : Cfg) (a x : Nat) (c : Classification) (u : View) (hi : Idle u.mon) :
    ⦃fun w => ⌜view cfg w = u⌝⦄ callResultFailure cfg a x c ⦃loopPost cfg⦄ := by
  have h0 := fun v f => modifyAS_v cfg v f
  have h5 := fun o rs fb v hfo => deliverCall_spec cfg o rs a true none fb v hfo
  mvcgen -leave -trivial [callResultFailure, getRS, h0, checkAbort_v, handleFailure_spec, failureOutcome_spec, callAttemptEndFromOutcome_v, h5]
  vc_intro
  vc_close

theorem callResultPath_spec (cfg : Cfg) (a x : Nat) (u : View) (hi : Idle u.mon) :
    ⦃fun w => ⌜view cfg w = u⌝⦄ callResultPath cfg a x ⦃loopPost cfg⦄ := by
  mvcgen -leave -trivial [callResultPath, shouldClassifyResult_v, handleSuccessAttemptEnd_v, callResultFailure_spec]
  vc_intro
  vc_close

/-- One iteration of the loop of `_run_sync_call` (the `except` ladder around `func()` included). -/
theorem callAttempt_spec (cfg : Cfg) (a : Nat) (u : View) (hi : Idle u.mon) :
    ⦃fun w => ⌜view cfg w = u⌝⦄ callAttempt cfg a ⦃loopPost cfg⦄ := by
  have h0 := fun v f => modifyAS_v cfg v f
  have h3 := fun v hi => invokeOp_spec cfg v a hi
  mvcgen -leave -trivial [callAttempt, callOpHandler, h0, checkAbort_v, callAttemptStart_v, h3, callResultPath_spec, handleAbortAttemptEnd_v, emitAbortedOnce_v, callExceptionPath_spec]
  vc_intro
  all_goals simp +zetaDelta only [view_setAs, restore_dummy] at *
  vc_close

theorem callLoop_spec (cfg : Cfg) : ∀ (fuel a : Nat) (u : View), Idle u.mon →
    ⦃fun w => ⌜view cfg w = u⌝⦄ callLoop cfg fuel a ⦃loopPost cfg⦄ := by
  intro fuel
  induction fuel with
  | zero =>
    intro a u hi
    have h1 := raiseExhaustedCall_v cfg u hi.stopped hi.pending
    mvcgen -leave -trivial [callLoop, h1]
    vc_intro
    vc_close
  | succ f ih =>
    intro a u hi
    have h1 := callAttempt_spec cfg a u hi
    have h2 := fun v hi => ih (a + 1) v hi
    mvcgen -leave -trivial [callLoop, h1, h2]
    vc_intro
    vc_close

def Pristine (cfg : Cfg) (w : World) : Prop := Idle (view cfg w).mon

theorem initState_spec (cfg : Cfg) :
    ⦃fun w => ⌜Pristine cfg w⌝⦄ initState
    ⦃post⟨fun _ w => ⌜Idle (view cfg w).mon⌝, fun _ _ => ⌜False⌝⟩⦄ := by
  apply triple_of_run
  intro w hw
  exact hw

theorem runCall_spec (cfg : Cfg) :
    ⦃fun w => ⌜Pristine cfg w⌝⦄ runCall cfg ⦃loopPost cfg⦄ := by
  have h1 := initState_spec cfg
  mvcgen -leave -trivial [runCall, h1, callLoop_spec]
  vc_intro
  vc_close

theorem outP_of_deliver {cfg : Cfg} {o : AOutcome} {out : Outcome} {w : World} {v : View} (hfo : FO o v)
    (hm : (view cfg w).mon = v.mon)
    (h : ∀ dec, v.mon.stopped = some dec → expected v.mon dec (.outcome out []) = true) : OutP cfg out w :=
  ⟨hm ▸ hfo.clean, fun dec hd => Or.inl (by
      have := h dec (hm ▸ (show (view cfg w).mon.stopped = some dec from hd))
      rw [← expected_mask]
      exact (show expected (view cfg w).mon dec (.outcome out []) = true from hm ▸ this)),
    fun hp hs => by rw [hm] at hp hs; cases (hfo.notPending hs).symm.trans hp⟩

abbrev attemptPostE (cfg : Cfg) : PostCond (Option Outcome) (.except Exn (.arg World .pure)) :=
  post⟨fun r w => ⌜(r = none → Idle (view cfg w).mon) ∧ (∀ out, r = some out → OutP cfg out w)⌝,
       fun e w => ⌜ExcP cfg e w ∧ CutW cfg e w⌝⟩

/-- `_abort_outcome`, whatever has been decided before: the monitor does not move; ABORTED, no delay -/
theorem abortOutcome_any (cfg : Cfg) (tl : Bool) (a : Nat) (v : View) :
    ⦃fun w => ⌜view cfg w = v⌝⦄ abortOutcome cfg tl a
    ⦃post⟨fun o w => ⌜(o.nextSleep = none ∧ o.stop = some .aborted) ∧ (view cfg w).mon = v.mon⌝,
          fun e w => ⌜(view cfg w).mon = v.mon ∧ SrcL cfg e w ∧ CutW cfg e w⌝⟩⦄ :=
  triple_of_rel (fun w0 => abortOutcome_fx inertQ w0 cfg tl a (fun _ => rfl) (fun _ _ => rfl)) FootXS.refl
    (fun _ _ _ hw h => ⟨h.1.2, (view_fxs_mon cfg _ _ h.2).trans (congrArg View.mon hw)⟩)
    (fun _ _ _ hw h => ⟨(view_fxs_mon cfg _ _ h.foot).trans (congrArg View.mon hw),
      h.src.elim False.elim (srcL_of_prov h.foot), h.src.elim False.elim cutW_of_prov⟩)

theorem deliverExecute_spec (cfg : Cfg) (tl : Bool) (o : AOutcome) (rs : RState) (a : Nat) (fr : Bool) (v : View)
    (hfo : FO o v) :
    ⦃fun w => ⌜view cfg w = v⌝⦄ deliverExecute cfg tl (determineAction o rs a fr) o ⦃attemptPostE cfg⦄ := by
  have h1 := fun n => abortOutcome_any cfg tl n v
  have h2 := fun ok val n ns => buildOutcome_v cfg v ok val n ns
  mvcgen -leave -trivial [deliverExecute, h1, h2]
  vc_intro
  all_goals subst_vars
  case vc1 =>
    exact ⟨fun _ => hfo.retry ((determineAction_continue_iff _ _ _ _).mp ‹_›),
      fun _ h => (Option.some_ne_none _ h.symm).elim⟩
  case vc2 => rfl
  case vc5 => rfl
  case vc3 =>
    obtain ⟨⟨hns, hstop⟩, hm⟩ := ‹_ ∧ _›
    refine ⟨nofun, fun out ho => outP_of_deliver hfo hm (fun dec hd => ?_)⟩
    cases ho
    cases (hfo.abort ((determineAction_abort_iff _ _ _ _).mp ‹_›)).1.symm.trans hd
    simp [expected, hns, hstop]
  case vc4 =>
    obtain ⟨hm, hsrc, hcut⟩ := ‹_ ∧ _›
    exact ⟨excP_of_src (hm ▸ hfo.clean) hsrc, hcut⟩
  case vc7 =>
    obtain ⟨hm, hsrc, hcut⟩ := ‹_ ∧ _›
    exact ⟨excP_of_src (hm ▸ hfo.clean) hsrc, hcut⟩
  case vc6 hnc hna =>
    obtain ⟨⟨-, hns, hstop⟩, hv⟩ := ‹_ ∧ _›
    refine ⟨nofun, fun out ho => outP_of_deliver hfo (congrArg View.mon hv) (fun dec hd => ?_)⟩
    cases ho
    have hst := hstop rfl (by rw [hd]; rfl)
    cases hdec : o.decision with
    | scheduled =>
      obtain ⟨hs, hd', hsm, _, hvs⟩ := hfo.sched hdec
      cases hs.symm.trans hd
      simp [expected, hns, hdec, hst, hvs, hd', hsm]
    | raise => cases (hfo.raise hdec).stopped.symm.trans hd
    | retry => exact absurd ((determineAction_continue_iff _ _ _ _).mpr hdec) hnc
    | aborted =>
      refine absurd ?_ hna
      unfold determineAction
      rw [hdec]
    | success => exact absurd hdec hfo.nosucc

theorem execAbortExit_fx (w0 : World) (cfg : Cfg) (tl : Bool) (a : Nat) (e : Exn) :
    ⦃fun w => ⌜FootXS inertQ w0 w⌝⦄ execAbortExit cfg tl a e
    ⦃post⟨fun r w => ⌜(∃ out, r = some out ∧ out.nextSleep = none ∧ out.stop = some .aborted) ∧ FootXS inertQ w0 w⌝,
          fun e' w => ⌜ExcS inertQ noOwn w0 w e'⌝⟩⦄ := by
  have h1 := fun w0 => handleAbortAttemptEnd_fx inertQ w0 cfg a e (fun _ => rfl)
  have h2 := fun w0 n => abortOutcome_fx inertQ w0 cfg tl n (fun _ => rfl) (fun _ _ => rfl)
  mvcgen -leave -trivial [execAbortExit, h1, h2]
  vc_intro
  case vc1 => exact FootX.refl _
  case vc2 => exact FootXS.refl _
  case vc3 =>
    obtain ⟨ho, hf⟩ := ‹_ ∧ _›
    exact ⟨⟨_, rfl, ho.2⟩, ((‹FootXS inertQ w0 _›).trans (FootX.toS ‹_›)).trans hf⟩
  case vc4 => exact ExcS.lift ((‹FootXS inertQ w0 _›).trans (FootX.toS ‹_›)) ‹_›
  case vc5 => exact ExcS.lift ‹FootXS inertQ w0 _› (ExcX.toS ‹_›)

theorem cur_stopped_of_foot {cfg : Cfg} {w w' : World} (hf : FootXS inertQ w w') :
    (cur cfg w'.trace).stopped = (cur cfg w.trace).stopped :=
  mask_stopped (view_fxs_mon cfg _ _ hf)

theorem cur_late_of_foot {cfg : Cfg} {w w' : World} (hf : FootXS inertQ w w') (e : Exn)
    (he : e ∈ (cur cfg w.trace).late) : e ∈ (cur cfg w'.trace).late := by
  obtain ⟨δ, e₁, k, _⟩ := hf.trace
  rw [e₁]
  exact late_mono cfg δ w.trace k e he

/-- `AbortRetryError` ends the run as ABORTED — after a stop decision that is either what was decided
    (ABORT) or the work of a callback that raised it since -/
theorem execAbortExit_spec (cfg : Cfg) (tl : Bool) (a : Nat) (e : Exn) (he : e.isAbort = true) :
    ⦃fun w => ⌜ExcP cfg e w ∧ CutW cfg e w⌝⦄ execAbortExit cfg tl a e
    ⦃post⟨fun r w => ⌜∃ out, r = some out ∧ OutP cfg out w⌝, fun e' w => ⌜ExcP cfg e' w ∧ CutW cfg e' w⌝⟩⦄ := by
  refine triple_of_rel (fun w0 => execAbortExit_fx w0 cfg tl a e) FootXS.refl (fun w r w' hw h => ?_)
    (fun w e' w' hw h => ⟨excP_of_src (view_fxs_mon cfg _ _ h.foot ▸ hw.1.1)
      (h.src.elim False.elim (srcL_of_prov h.foot)), h.src.elim False.elim cutW_of_prov⟩)
  obtain ⟨⟨out, hr, hns, hst⟩, hf⟩ := h
  refine ⟨out, hr, view_fxs_mon cfg _ _ hf ▸ hw.1.1, fun dec hd => ?_, fun _ _ => hst⟩
  rw [cur_stopped_of_foot hf] at hd
  rcases hw.1.2 dec hd with hx | hx | hx
  · left
    cases dec with
    | abort => simp [expected, hst, hns]
    | defer =>
      simp only [expected] at hx
      split at hx
      · cases ‹Res.raised e = _›
      · cases ‹Res.raised e = _›; cases he
      · cases hx
    | _ =>
      obtain rfl : e = .libValueError := by simpa [expected] using hx
      cases he
  · subst hx; simp [Exn.isAbort] at he
  · right
    have := cur_late_of_foot hf e hx
    simp only [replaced, hst, hns, Option.isNone_none, Bool.and_true, beq_self_eq_true, Bool.true_and,
      List.any_eq_true]
    exact ⟨e, this, he⟩

theorem execAbortExit_pre (cfg : Cfg) (tl : Bool) (a : Nat) (e : Exn) (v : View) (hp : PreStop v.mon) :
    ⦃fun w => ⌜view cfg w = v⌝⦄ execAbortExit cfg tl a e ⦃attemptPostE cfg⦄ :=
  triple_of_rel (fun w0 => execAbortExit_fx w0 cfg tl a e) FootXS.refl
    (fun _ _ _ hw h => by
      obtain ⟨⟨out, rfl, _, hst⟩, hf⟩ := h
      have hv := (view_fxs cfg _ _ hf (hw ▸ hp.stopped)).trans hw
      exact ⟨nofun, fun o ho => by cases ho; exact outP_of_aborted (hv ▸ hp) hst⟩)
    (fun _ _ _ hw h => ⟨excP_of_pre ((exc_fxs hp.stopped (fun h => h.elim) hw h).1 ▸ hp), (exc_fxs hp.stopped (fun h => h.elim) hw h).2.2⟩)

theorem checkAbortCaught_spec (cfg : Cfg) (tl : Bool) (a : Nat) (v : View) (hs : v.mon.stopped = none) :
    ⦃fun w => ⌜view cfg w = v⌝⦄ checkAbortCaught cfg tl a ⦃sameC cfg v⦄ := by
  mvcgen -leave -trivial [checkAbortCaught, abortToTrue, checkAbort_v]
  vc_intro
  vc_close

theorem execExceptionPath3_spec (cfg : Cfg) (tl : Bool) (a : Nat) (e : Exn) (d : Decision) (v : View)
    (hf : Failed d v.mon) :
    ⦃fun w => ⌜view cfg w = v⌝⦄ execExceptionPath3 cfg tl a e d ⦃attemptPostE cfg⦄ := by
  have h0 := fun v f => modifyAS_v cfg v f
  mvcgen -leave -trivial [execExceptionPath3, getRS, h0, failureOutcome_spec, callAttemptEndFromOutcome_v, deliverExecute_spec]
  vc_intro
  vc_close

theorem execExceptionPath2_spec (cfg : Cfg) (tl : Bool) (a : Nat) (e : Exn) (u : View) (hi : Idle u.mon) :
    ⦃fun w => ⌜view cfg w = u⌝⦄ execExceptionPath2 cfg tl a e ⦃attemptPostE cfg⦄ := by
  have h0 := fun v f => modifyAS_v cfg v f
  mvcgen -leave -trivial [execExceptionPath2, getRS, h0, handleException_spec, execExceptionPath3_spec, checkAbortCaught_spec, execAbortExit_pre]
  vc_intro
  vc_close

theorem execExceptionPath_spec (cfg : Cfg) (tl : Bool) (a : Nat) (e : Exn) (u : View) (hi : Idle u.mon) :
    ⦃fun w => ⌜view cfg w = u⌝⦄ execExceptionPath cfg tl a e ⦃attemptPostE cfg⦄ := by
  have h0 := fun v f => modifyAS_v cfg v f
  mvcgen -leave -trivial [execExceptionPath, h0, execExceptionPath2_spec, checkAbortCaught_spec, execAbortExit_pre]
  vc_intro
  vc_close

theorem execResultFailure_spec (cfg : Cfg) (tl : Bool) (a x : Nat) (c : Classification) (u : View)
    (hi : Idle u.mon) :
    ⦃fun w => ⌜view cfg w = u⌝⦄ execResultFailure cfg tl a x c ⦃attemptPostE cfg⦄ := by
  have h0 := fun v f => modifyAS_v cfg v f
  mvcgen -leave -trivial [execResultFailure, getRS, h0, checkAbort_v, handleFailure_spec, failureOutcome_spec, callAttemptEndFromOutcome_v, deliverExecute_spec]
  vc_intro
  vc_close

theorem execResultPath_spec (cfg : Cfg) (tl : Bool) (a x : Nat) (u : View) (hi : Idle u.mon) :
    ⦃fun w => ⌜view cfg w = u⌝⦄ execResultPath cfg tl a x ⦃attemptPostE cfg⦄ := by
  have h1 := shouldClassifyResult_v cfg u x
  have h2 := handleSuccessAttemptEnd_v cfg u tl a x
  have h3 := fun c => execResultFailure_spec cfg tl a x c u hi
  have h4 := fun ok val n ns => buildOutcome_v cfg u ok val n ns
  mvcgen -leave -trivial [execResultPath, h1, h2, h3, h4]
  vc_intro
  case vc4 => exact ⟨nofun, fun _ _ => outP_of_idle (And.right ‹_ ∧ _› ▸ hi)⟩
  vc_close

theorem execPre_spec (cfg : Cfg) (tl : Bool) (a : Nat) (u : View) (hi : Idle u.mon) :
    ⦃fun w => ⌜view cfg w = u⌝⦄ execPre cfg tl a ⦃same cfg u⦄ := by
  have h0 := fun f => modifyAS_v cfg u f
  have h3 := fun v hi => invokeOp_spec cfg v a hi
  mvcgen -leave -trivial [execPre, h0, checkAbort_v, callAttemptStart_v, h3]
  vc_intro
  all_goals try simp +zetaDelta only [view_setAttempts] at *
  vc_close

theorem execHandler_spec (cfg : Cfg) (tl : Bool) (a : Nat) (e : Exn) (u : View) (hi : Idle u.mon) :
    ⦃fun w => ⌜view cfg w = u⌝⦄ execHandler cfg tl a e ⦃attemptPostE cfg⦄ := by
  mvcgen -leave -trivial [execHandler, execAbortExit_pre, execExceptionPath_spec]
  vc_intro
  vc_close

theorem execReturnedHandler_spec (cfg : Cfg) (tl : Bool) (a : Nat) (e : Exn) :
    ⦃fun w => ⌜ExcP cfg e w ∧ CutW cfg e w⌝⦄ execReturnedHandler cfg tl a e
    ⦃post⟨fun r w => ⌜∃ out, r = some out ∧ OutP cfg out w⌝, fun e' w => ⌜ExcP cfg e' w ∧ CutW cfg e' w⌝⟩⦄ := by
  have h3 := fun he => execAbortExit_spec cfg tl a e he
  mvcgen -leave -trivial [execReturnedHandler, h3]
  vc_intro
  all_goals assumption

theorem execAttempt_spec (cfg : Cfg) (tl : Bool) (a : Nat) (u : View) (hi : Idle u.mon) :
    ⦃fun w => ⌜view cfg w = u⌝⦄ execAttempt cfg tl a ⦃attemptPostE cfg⦄ := by
  have h1 := fun v hi => execPre_spec cfg tl a v hi
  have h2 := fun x v hi => execResultPath_spec cfg tl a x v hi
  have h3 := fun e v hi => execHandler_spec cfg tl a e v hi
  have h4 := fun e => execReturnedHandler_spec cfg tl a e
  mvcgen -leave -trivial [execAttempt, h1, h2, h3, h4]
  vc_intro
  all_goals try simp +zetaDelta only [view_setAs, restore_dummy] at *
  case vc3 => assumption
  case vc5 =>
    obtain ⟨out, rfl, ho⟩ := ‹∃ _, _›
    exact ⟨nofun, fun _ h => Option.some.inj h ▸ ho⟩
  vc_close

abbrev loopPostE (cfg : Cfg) : PostCond Outcome (.except Exn (.arg World .pure)) :=
  post⟨fun out w => ⌜OutP cfg out w⌝, fun e w => ⌜ExcP cfg e w ∧ CutW cfg e w⌝⟩

theorem execLoop_spec (cfg : Cfg) (tl : Bool) : ∀ (fuel a : Nat) (u : View), Idle u.mon →
    ⦃fun w => ⌜view cfg w = u⌝⦄ execLoop cfg tl fuel a ⦃loopPostE cfg⦄ := by
  intro fuel
  induction fuel with
  | zero =>
    intro a u hi
    have h1 := buildExhaustedOutcome_v cfg u tl hi.stopped
    mvcgen -leave -trivial [execLoop, h1]
    vc_intro
    vc_close
  | succ f ih =>
    intro a u hi
    have h1 := execAttempt_spec cfg tl a u hi
    have h2 := fun v hi => ih (a + 1) v hi
    mvcgen -leave -trivial [execLoop, h1, h2]
    vc_intro
    vc_close

theorem runExecute_spec (cfg : Cfg) :
    ⦃fun w => ⌜Pristine cfg w⌝⦄ runExecute cfg ⦃loopPostE cfg⦄ := by
  have h1 := initState_spec cfg
  have h2 := fun u hi => execLoop_spec cfg cfg.timeline cfg.maxAttempts 1 u hi
  mvcgen -leave -trivial [runExecute, h1, h2]
  vc_intro
  all_goals assumption

open Policy

/-- the call returned: the monitor is idle (the predicate `Pristine`, under the name the exits use) -/
def FinV (cfg : Cfg) (w : World) : Prop := Idle (view cfg w).mon

theorem FinV.foot {cfg : Cfg} {w w' : World} (h : FootX inertQ w w') (hv : FinV cfg w) : FinV cfg w' := by
  unfold FinV; rw [view_fx cfg _ _ h]; exact hv

theorem Pristine.foot {cfg : Cfg} {w w' : World} (h : FootX inertQ w w') (hv : Pristine cfg w) : Pristine cfg w' := by
  unfold Pristine; rw [view_fx cfg _ _ h]; exact hv

theorem ExcP.foot {cfg : Cfg} {e : Exn} {w w' : World} (h : FootX inertQ w w') (hv : ExcP cfg e w) : ExcP cfg e w' := by
  refine ⟨by rw [view_fx cfg _ _ h]; exact hv.1, fun dec hd => ?_⟩
  rw [cur_stopped_of_foot h.toS] at hd
  obtain ⟨δ, e₁, k, _⟩ := h.trace
  have hm := cur_append_inert cfg δ w.trace k
  rcases hv.2 dec hd with hx | hx | hx
  · left
    rw [← expected_mask, e₁, hm, expected_mask]
    exact hx
  · exact Or.inr (Or.inl hx)
  · exact Or.inr (Or.inr (cur_late_of_foot h.toS e hx))

theorem OutP.foot {cfg : Cfg} {o : Outcome} {w w' : World} (h : FootX inertQ w w') (hv : OutP cfg o w) :
    OutP cfg o w' := by
  refine ⟨by rw [view_fx cfg _ _ h]; exact hv.1, fun dec hd => ?_, by rw [view_fx cfg _ _ h]; exact hv.2.2⟩
  rw [cur_stopped_of_foot h.toS] at hd
  obtain ⟨δ, e₁, k, _⟩ := h.trace
  have hm := cur_append_inert cfg δ w.trace k
  rcases hv.2.1 dec hd with hx | hx
  · left
    rw [← expected_mask, e₁, hm, expected_mask]
    exact hx
  · right
    simp only [replaced, Bool.and_eq_true, List.any_eq_true] at hx ⊢
    obtain ⟨⟨h1, h2⟩, e, he, ha⟩ := hx
    exact ⟨⟨h1, h2⟩, e, cur_late_of_foot h.toS e he, ha⟩

theorem CutW.foot {cfg : Cfg} {e : Exn} {w w' : World} (hf : FootXS inertQ w w') (h : CutW cfg e w) : CutW cfg e w' := by
  obtain ⟨δ, e₁, k, _⟩ := hf.trace
  have hm := cur_append_inert cfg δ w.trace k
  intro hp hs
  rw [e₁] at hp hs ⊢
  refine (h ((congrArg St.pending hm).symm.trans hp) ((mask_stopped hm).symm.trans hs)).imp id (Or.imp id fun hx => ?_)
  rw [List.filterMap_append]
  exact List.mem_append_right _ hx

theorem excC_new {cfg : Cfg} {e : Exn} {w w' : World} (h : ExcX inertQ noOwn w w' e)
    (hc : Clean (view cfg w).mon) : ExcP cfg e w' ∧ CutW cfg e w' :=
  ⟨excP_of_src (by rw [view_fx cfg _ _ h.foot]; exact hc) (h.src.elim (fun h => h.elim) (srcL_of_prov h.foot.toS)),
    h.src.elim (fun h => h.elim) cutW_of_prov⟩

section policyLeaves
variable (cfg : Cfg)

theorem recordCancel_e (e : Exn) :
    ⦃fun w => ⌜ExcP cfg e w ∧ CutW cfg e w⌝⦄ Policy.recordCancel cfg ⦃post⟨fun _ w => ⌜ExcP cfg e w ∧ CutW cfg e w⌝, fun e' w => ⌜ExcP cfg e' w ∧ CutW cfg e' w⌝⟩⦄ :=
  inv_of_fx _ _ (fun w0 => recordCancel_fx inertQ w0 cfg rfl) (fun _ _ h hv => ⟨ExcP.foot h hv.1, CutW.foot h.toS hv.2⟩)
    (fun _ _ _ h hv => excC_new h hv.1.1)

theorem handleAbortCall_e (e : Exn) :
    ⦃fun w => ⌜ExcP cfg e w ∧ CutW cfg e w⌝⦄ handleAbortCall cfg e ⦃post⟨fun _ w => ⌜ExcP cfg e w ∧ CutW cfg e w⌝, fun e' w => ⌜ExcP cfg e' w ∧ CutW cfg e' w⌝⟩⦄ :=
  inv_of_fx _ _ (fun w0 => handleAbortCall_fx inertQ w0 cfg e (fun _ => rfl) rfl) (fun _ _ h hv => ⟨ExcP.foot h hv.1, CutW.foot h.toS hv.2⟩)
    (fun _ _ _ h hv => excC_new h hv.1.1)

theorem handleExhaustedCall_e (e : Exn) :
    ⦃fun w => ⌜ExcP cfg e w ∧ CutW cfg e w⌝⦄ handleExhaustedCall cfg e
    ⦃post⟨fun _ w => ⌜ExcP cfg e w ∧ CutW cfg e w⌝, fun e' w => ⌜ExcP cfg e' w ∧ CutW cfg e' w⌝⟩⦄ :=
  inv_of_fx _ _ (fun w0 => handleExhaustedCall_fx inertQ w0 cfg e (fun _ => rfl) (fun _ _ _ => rfl)
    (fun _ _ _ _ => rfl)) (fun _ _ h hv => ⟨ExcP.foot h hv.1, CutW.foot h.toS hv.2⟩) (fun _ _ _ h hv => excC_new h hv.1.1)

theorem handleExceptionCall_e (e : Exn) (b : Bool) :
    ⦃fun w => ⌜ExcP cfg e w ∧ CutW cfg e w⌝⦄ handleExceptionCall cfg e b
    ⦃post⟨fun _ w => ⌜ExcP cfg e w ∧ CutW cfg e w⌝, fun e' w => ⌜ExcP cfg e' w ∧ CutW cfg e' w⌝⟩⦄ :=
  inv_of_fx _ _ (fun w0 => handleExceptionCall_fx inertQ w0 cfg e b (fun _ => rfl) (fun _ _ _ => rfl)
    (fun _ _ _ _ => rfl) (fun _ => rfl) rfl) (fun _ _ h hv => ⟨ExcP.foot h hv.1, CutW.foot h.toS hv.2⟩) (fun _ _ _ h hv => excC_new h hv.1.1)

theorem recordCancel_f :
    ⦃fun w => ⌜FinV cfg w⌝⦄ Policy.recordCancel cfg ⦃post⟨fun _ w => ⌜FinV cfg w⌝, fun e' w => ⌜ExcP cfg e' w ∧ CutW cfg e' w⌝⟩⦄ :=
  inv_of_fx _ _ (fun w0 => recordCancel_fx inertQ w0 cfg rfl) (fun _ _ h => FinV.foot h)
    (fun _ _ _ h hv => excC_new h hv.clean)

theorem recordSuccess_f :
    ⦃fun w => ⌜FinV cfg w⌝⦄ Policy.recordSuccess cfg ⦃post⟨fun _ w => ⌜FinV cfg w⌝, fun e' w => ⌜ExcP cfg e' w ∧ CutW cfg e' w⌝⟩⦄ :=
  inv_of_fx _ _ (fun w0 => recordSuccess_fx inertQ w0 cfg rfl (fun _ _ _ => rfl) (fun _ _ _ _ => rfl))
    (fun _ _ h => FinV.foot h) (fun _ _ _ h hv => excC_new h hv.clean)

theorem recordSuccess_o (o : Outcome) :
    ⦃fun w => ⌜OutP cfg o w⌝⦄ Policy.recordSuccess cfg ⦃post⟨fun _ w => ⌜OutP cfg o w⌝, fun e' w => ⌜ExcP cfg e' w ∧ CutW cfg e' w⌝⟩⦄ :=
  inv_of_fx _ _ (fun w0 => recordSuccess_fx inertQ w0 cfg rfl (fun _ _ _ => rfl) (fun _ _ _ _ => rfl))
    (fun _ _ h => OutP.foot h) (fun _ _ _ h hv => excC_new h hv.1)

theorem recordCancel_o (o : Outcome) :
    ⦃fun w => ⌜OutP cfg o w⌝⦄ Policy.recordCancel cfg ⦃post⟨fun _ w => ⌜OutP cfg o w⌝, fun e' w => ⌜ExcP cfg e' w ∧ CutW cfg e' w⌝⟩⦄ :=
  inv_of_fx _ _ (fun w0 => recordCancel_fx inertQ w0 cfg rfl) (fun _ _ h => OutP.foot h)
    (fun _ _ _ h hv => excC_new h hv.1)

theorem recordFailure_o (o : Outcome) (k : EClass) :
    ⦃fun w => ⌜OutP cfg o w⌝⦄ Policy.recordFailure cfg k
    ⦃post⟨fun _ w => ⌜OutP cfg o w⌝, fun e' w => ⌜ExcP cfg e' w ∧ CutW cfg e' w⌝⟩⦄ :=
  inv_of_fx _ _ (fun w0 => recordFailure_fx inertQ w0 cfg k rfl (fun _ _ _ => rfl) (fun _ _ _ _ => rfl))
    (fun _ _ h => OutP.foot h) (fun _ _ _ h hv => excC_new h hv.1)

theorem excP_pristine {cfg : Cfg} {e : Exn} {w w' : World} {Own : Exn → Prop} (h : ExcX inertQ Own w w' e)
    (hp : Pristine cfg w) : ExcP cfg e w' ∧ CutW cfg e w' :=
  have hi : Idle (view cfg w').mon := by rw [view_fx cfg _ _ h.foot]; exact hp
  ⟨excP_of_idle hi, cutW_idle hi⟩

theorem checkBreaker_p :
    ⦃fun w => ⌜Pristine cfg w⌝⦄ checkBreaker cfg ⦃post⟨fun _ w => ⌜Pristine cfg w⌝, fun e' w => ⌜ExcP cfg e' w ∧ CutW cfg e' w⌝⟩⦄ :=
  inv_of_fx _ _ (fun w0 => checkBreaker_fx inertQ w0 cfg rfl (fun _ _ _ => rfl) (fun _ _ _ _ => rfl))
    (fun _ _ h => Pristine.foot h) (fun _ _ _ h => excP_pristine h)

theorem breakerAllow_p (bc : Breaker.Cfg) :
    ⦃fun w => ⌜Pristine cfg w⌝⦄ breakerAllow bc
    ⦃post⟨fun d w => ⌜(∀ ev, d.2.2 = some ev → circuitEv ev = true) ∧ Pristine cfg w⌝,
          fun e' w => ⌜ExcP cfg e' w ∧ CutW cfg e' w⌝⟩⦄ :=
  inv_of_fx' _ _ (fun w0 => breakerAllow_fx inertQ w0 bc rfl) (fun _ _ h => Pristine.foot h)
    (fun _ _ _ h => excP_pristine h)

theorem emitBreakerEvent_p (ev : Option Event) (st : CState) (k : Option EClass) :
    ⦃fun w => ⌜Pristine cfg w⌝⦄ emitBreakerEvent cfg ev st k
    ⦃post⟨fun _ w => ⌜Pristine cfg w⌝, fun e' w => ⌜ExcP cfg e' w ∧ CutW cfg e' w⌝⟩⦄ :=
  inv_of_fx _ _ (fun w0 => emitBreakerEvent_fx inertQ w0 cfg ev st k (fun _ _ _ => rfl) (fun _ _ _ _ => rfl))
    (fun _ _ h => Pristine.foot h) (fun _ _ _ h => excP_pristine h)

end policyLeaves

abbrev finPost (cfg : Cfg) : PostCond α (.except Exn (.arg World .pure)) :=
  post⟨fun _ w => ⌜FinV cfg w⌝, fun e w => ⌜ExcP cfg e w⌝⟩

/-- the `except` ladder of `Policy.call`: the error it ends with is again an acceptable ending -/
theorem callLadder_spec (cfg : Cfg) (e : Exn) :
    ⦃fun w => ⌜ExcP cfg e w ∧ CutW cfg e w⌝⦄ callLadder cfg e ⦃loopPost cfg⦄ :=
  callLadder_rule (E := fun e w => ExcP cfg e w ∧ CutW cfg e w) e (fun _ => recordCancel_e cfg e)
    (fun _ => handleAbortCall_e cfg e) (fun _ => handleExhaustedCall_e cfg e)
    (fun _ _ _ => handleExceptionCall_e cfg e true) (fun _ _ h => h)

theorem executeLadder_spec (cfg : Cfg) (e : Exn) :
    ⦃fun w => ⌜ExcP cfg e w ∧ CutW cfg e w⌝⦄ executeLadder cfg e ⦃loopPostE cfg⦄ :=
  executeLadder_rule (E := fun e w => ExcP cfg e w ∧ CutW cfg e w) e (fun _ => handleExhaustedCall_e cfg e)
    (fun _ => recordCancel_e cfg e) (fun _ _ _ => handleExceptionCall_e cfg e false) (fun _ _ h => h)

/-- `Policy.call` with a retry component (also `RetryPolicy.call`, `@retry`, contexts, async twins) -/
theorem call_retry_spec (cfg : Cfg) (hret : cfg.hasRetry = true) :
    ⦃fun w => ⌜Pristine cfg w⌝⦄ Policy.call cfg ⦃loopPost cfg⦄ :=
  settled_rule (P := Pristine cfg) (fun _ h => h)
    (callAdmitted_retry_rule hret (checkBreaker_p cfg) (runCall_spec cfg) (fun _ => recordSuccess_f cfg)
      (callLadder_spec cfg))
    (fun _ => recordCancel_f cfg) (recordCancel_e cfg)

/-- `Policy.execute` with a retry component -/
theorem execute_retry_spec (cfg : Cfg) (hret : cfg.hasRetry = true) :
    ⦃fun w => ⌜Pristine cfg w⌝⦄ Policy.execute cfg ⦃loopPostE cfg⦄ :=
  settled_rule (P := Pristine cfg) (fun _ h => h)
    (executeAdmitted_rule (Pd := fun _ => Pristine cfg) (breakerAllow_p cfg)
      (fun d => triple_pure fun _ => emitBreakerEvent_p cfg d.2.2 d.2.1 none) (fun _ _ _ h => h)
      (fun _ _ _ h => outP_of_idle h)
      (executeAdmitted2_retry_rule hret (runExecute_spec cfg) (executeLadder_spec cfg) (recordSuccess_o cfg)
        (recordFailure_o cfg) (recordCancel_o cfg)))
    (recordCancel_o cfg) (recordCancel_e cfg)

def Verdicts (cfg : Cfg) (e : Entry) (t : Trace) (r : Res) : Prop :=
  handlerOk cfg e t r = true ∧ sleepOk cfg e t r = true ∧ deferOk cfg e t r = true ∧ abortOk cfg e t r = true ∧
    otherOk cfg e t r = true ∧ levelOk cfg e t r = true ∧ skipOk cfg e t r = true

theorem verdicts_noLoop {cfg : Cfg} {e : Entry} (hl : hasLoop cfg e = false) (t : Trace) (r : Res) :
    Verdicts cfg e t r := by
  simp [Verdicts, handlerOk, sleepOk, deferOk, abortOk, otherOk, levelOk, skipOk, hl]

theorem clean_cur {cfg : Cfg} {w : World} (h : Clean (view cfg w).mon) : Clean (cur cfg w.trace) :=
  ⟨h.handler, h.sleep, h.stop, h.level, h.skip⟩

theorem verdicts_of {cfg : Cfg} {e : Entry} {w : World} {r : Res} (hc : Clean (view cfg w).mon)
    (hr : ∀ dec, resMatches (cur cfg w.trace) dec r = true)
    (hp : (cur cfg w.trace).pending = true → (cur cfg w.trace).stopped = none → cutShort r = true) :
    Verdicts cfg e w.trace.reverse r := by
  have hc' := clean_cur hc
  simp only [Verdicts, handlerOk, sleepOk, deferOk, abortOk, otherOk, levelOk, skipOk, run_reverse]
  simp only [hc'.handler, hc'.sleep, hc'.stop, hc'.level, hc'.skip, hr, Bool.not_false, Bool.or_true, Bool.and_true,
    Bool.true_and, Bool.true_or, true_and]
  cases hpd : (cur cfg w.trace).pending <;> cases hst : (cur cfg w.trace).stopped <;> simp_all

theorem verdicts_ret {cfg : Cfg} {e : Entry} {w : World} (v : Nat) (h : FinV cfg w) :
    Verdicts cfg e w.trace.reverse (.ret v) := by
  have hs : (cur cfg w.trace).stopped = none := h.stopped
  have hp : (cur cfg w.trace).pending = false := h.pending
  refine verdicts_of h.clean (fun dec => ?_) (fun hp' => by rw [hp] at hp'; cases hp')
  simp [resMatches, hs]

theorem verdicts_raised {cfg : Cfg} {e : Entry} {w : World} {ex : Exn} (h : ExcP cfg ex w) :
    Verdicts cfg e w.trace.reverse (.raised ex) := by
  refine verdicts_of h.1 (fun dec => ?_) (fun _ _ => rfl)
  by_cases hd : (cur cfg w.trace).stopped = some dec
  · rcases h.2 dec hd with hx | hx | hx
    · simp [resMatches, hx]
    · simp [resMatches, replaced, hx]
    · simp [resMatches, replaced, hx]
  · simp [resMatches, hd]

theorem outcome_beq_raised (o : Outcome) (tl : List TimelineEv) (e : Exn) :
    (Res.outcome o tl == Res.raised e) = false := by
  rw [beq_eq_false_iff_ne]
  intro h
  cases h

theorem expected_tl (m : St) (dec : SleepDecision) (o : Outcome) (tl : List TimelineEv) :
    expected m dec (.outcome o tl) = expected m dec (.outcome o []) := by
  cases dec <;> simp [expected, outcome_beq_raised]

theorem replaced_tl (m : St) (o : Outcome) (tl : List TimelineEv) :
    replaced m (.outcome o tl) = replaced m (.outcome o []) := rfl

theorem verdicts_outcome {cfg : Cfg} {e : Entry} {w : World} {o : Outcome} (tl : List TimelineEv)
    (h : OutP cfg o w) : Verdicts cfg e w.trace.reverse (.outcome o tl) := by
  refine verdicts_of h.1 (fun dec => ?_) (fun hp hs => ?_)
  rotate_left
  · simp [cutShort, h.2.2 hp hs]
  by_cases hd : (cur cfg w.trace).stopped = some dec
  · rcases h.2.1 dec hd with hx | hx
    · simp [resMatches, expected_tl, hx]
    · simp [resMatches, replaced_tl, hx]
  · simp [resMatches, hd]

theorem pristine_start (cfg : Cfg) (w : World) : Pristine cfg (startWorld w) := idle_empty

theorem runCall_fin (cfg : Cfg) : ⦃fun w => ⌜Pristine cfg w⌝⦄ runCall cfg ⦃finPost cfg⦄ :=
  triple_mono (runCall_spec cfg) (fun _ h => h) (fun _ _ h => h) (fun _ _ h => h.1)

theorem verdicts_call {cfg : Cfg} {e : Entry} {x : M Nat} (h : ⦃fun w => ⌜Pristine cfg w⌝⦄ x ⦃loopPost cfg⦄) (w : World) :
    Verdicts cfg e (toRes (x.run (startWorld w))).2.trace.reverse (toRes (x.run (startWorld w))).1 :=
  toRes_of_triple (Q := fun r w => Verdicts cfg e w.trace.reverse r)
    (triple_mono h (fun _ h => h) (fun v _ hw => verdicts_ret v hw) (fun _ _ hw => verdicts_raised hw.1)) _
    (pristine_start cfg w)

theorem verdicts_execute {cfg : Cfg} {e : Entry} {x : M Outcome} (tl : Bool)
    (h : ⦃fun w => ⌜Pristine cfg w⌝⦄ x ⦃loopPostE cfg⦄) (w : World) :
    Verdicts cfg e (toResO tl (x.run (startWorld w))).2.trace.reverse (toResO tl (x.run (startWorld w))).1 :=
  toResO_of_triple (Q := fun r w => Verdicts cfg e w.trace.reverse r) tl
    (triple_mono h (fun _ h => h) (fun _ _ hw => verdicts_outcome _ hw) (fun _ _ hw => verdicts_raised hw.1)) _
    (pristine_start cfg w)

theorem verdicts_hold (cfg : Cfg) (e : Entry) (w : World) :
    Verdicts cfg e (runEntry cfg e w).2.trace.reverse (runEntry cfg e w).1 := by
  cases e with
  | call => exact verdicts_call (runCall_spec cfg) w
  | execute => exact verdicts_execute _ (runExecute_spec cfg) w
  | pcall =>
    cases hret : cfg.hasRetry with
    | true => exact verdicts_call (call_retry_spec cfg hret) w
    | false => exact verdicts_noLoop (by simp [hasLoop, hret, Entry.isPolicy]) _ _
  | pexecute =>
    cases hret : cfg.hasRetry with
    | true => exact verdicts_execute _ (execute_retry_spec cfg hret) w
    | false => exact verdicts_noLoop (by simp [hasLoop, hret, Entry.isPolicy]) _ _

def Accounted (cfg : Cfg) (r : Res) (w : World) : Prop := ∀ y, r = .raised y → CutW cfg y w

theorem accounted_call {cfg : Cfg} {x : M Nat} (h : ⦃fun w => ⌜Pristine cfg w⌝⦄ x ⦃loopPost cfg⦄) (w : World) :
    Accounted cfg (toRes (x.run (startWorld w))).1 (toRes (x.run (startWorld w))).2 :=
  toRes_of_triple (Q := Accounted cfg)
    (triple_mono h (fun _ h => h) (fun _ _ _ _ hy => Res.noConfusion hy) (fun _ _ hw _ hy => Res.raised.inj hy ▸ hw.2))
    _ (pristine_start cfg w)

theorem accounted_execute {cfg : Cfg} {x : M Outcome} (tl : Bool)
    (h : ⦃fun w => ⌜Pristine cfg w⌝⦄ x ⦃loopPostE cfg⦄) (w : World) :
    Accounted cfg (toResO tl (x.run (startWorld w))).1 (toResO tl (x.run (startWorld w))).2 :=
  toResO_of_triple (Q := Accounted cfg) tl
    (triple_mono h (fun _ h => h) (fun _ _ _ _ hy => Res.noConfusion hy) (fun _ _ hw _ hy => Res.raised.inj hy ▸ hw.2))
    _ (pristine_start cfg w)

/-- An error that ends a run (one with a retry loop) while a granted retry's sleep is still due and nothing has
    been decided is the model's `stuck`, the library's own `AbortRetryError`, or one the log shows a callback
    raising where the library does not swallow it. -/
theorem raised_accounted (cfg : Cfg) (e : Entry) (w : World) (hl : hasLoop cfg e = true) (x : Exn)
    (hx : (runEntry cfg e w).1 = .raised x) : CutW cfg x (runEntry cfg e w).2 := by
  have hret : e.isPolicy = true → cfg.hasRetry = true := fun hp => by simpa [hasLoop, hp] using hl
  refine (?_ : Accounted cfg (runEntry cfg e w).1 (runEntry cfg e w).2) x hx
  cases e with
  | call => exact accounted_call (runCall_spec cfg) w
  | execute => exact accounted_execute _ (runExecute_spec cfg) w
  | pcall => exact accounted_call (call_retry_spec cfg (hret rfl)) w
  | pexecute => exact accounted_execute _ (execute_retry_spec cfg (hret rfl)) w

/-- The sleep handler is consulted only for a granted retry and at most
    once for it; and when a handler is configured nothing sleeps unless it said SLEEP for that very
    delay — so for every retry that sleeps it was consulted exactly once, with the delay the sleeper
    gets. -/
theorem handler_consulted_once (cfg : Cfg) (e : Entry) (w : World) :
    Mon.C16.handlerOk cfg e (runEntry cfg e w).2.trace.reverse (runEntry cfg e w).1 = true :=
  (verdicts_hold cfg e w).1

/-- `before_sleep` (if any) runs once, for a granted retry,
    before the sleeper; the sleeper is called exactly once per granted retry that sleeps, with the
    delay `before_sleep` saw. -/
theorem sleep_sleeps_once_after_before_sleep (cfg : Cfg) (e : Entry) (w : World) :
    Mon.C16.sleepOk cfg e (runEntry cfg e w).2.trace.reverse (runEntry cfg e w).1 = true :=
  (verdicts_hold cfg e w).2.1

/-- After DEFER: no sleep, no `before_sleep`, no further retry or attempt; the run ends as
    SCHEDULED with `next_sleep_s` = the delay the handler was offered — unless a callback raises afterwards
    (that error propagates; in `execute()` an `AbortRetryError` among them makes the outcome ABORTED). -/
theorem defer_schedules (cfg : Cfg) (e : Entry) (w : World) :
    Mon.C16.deferOk cfg e (runEntry cfg e w).2.trace.reverse (runEntry cfg e w).1 = true :=
  (verdicts_hold cfg e w).2.2.1

/-- After ABORT: neither sleep nor attempt; the run ends as ABORTED
    (`AbortRetryError` / `stop_reason = ABORTED`, no `next_sleep_s`) — unless a callback raises afterwards. -/
theorem abort_aborts (cfg : Cfg) (e : Entry) (w : World) :
    Mon.C16.abortOk cfg e (runEntry cfg e w).2.trace.reverse (runEntry cfg e w).1 = true :=
  (verdicts_hold cfg e w).2.2.2.1

/-- A handler answer that is not a `SleepDecision` raises `ValueError`
    (nothing sleeps, nothing is retried) — unless a callback raises afterwards. -/
theorem bad_decision_raises (cfg : Cfg) (e : Entry) (w : World) :
    Mon.C16.otherOk cfg e (runEntry cfg e w).2.trace.reverse (runEntry cfg e w).1 = true :=
  (verdicts_hold cfg e w).2.2.2.2.1

/-- Every handler / `before_sleep` / sleeper invocation is of the
    callback `Cfg.handler / beforeSleep / sleeper` resolves to: the call-level one whenever one was given. -/
theorem call_level_overrides_policy_level (cfg : Cfg) (e : Entry) (w : World) :
    Mon.C16.levelOk cfg e (runEntry cfg e w).2.trace.reverse (runEntry cfg e w).1 = true :=
  (verdicts_hold cfg e w).2.2.2.2.2.1

/-- No attempt and no further retry happens while a granted retry has not
    slept: with no handler (or after SLEEP) every granted retry reaches the sleeper before the next
    attempt.  And a run that ends while a granted retry's sleep is still due (no stop decision taken)
    ended with an error or as ABORTED (`abort_if`, `AbortRetryError`) — never with a value or another
    stop reason. -/
theorem no_handler_always_sleeps (cfg : Cfg) (e : Entry) (w : World) :
    Mon.C16.skipOk cfg e (runEntry cfg e w).2.trace.reverse (runEntry cfg e w).1 = true :=
  (verdicts_hold cfg e w).2.2.2.2.2.2

/--
**C16.**  For every configuration, every entry point and every world — all sequences of handler
decisions (SLEEP / DEFER / ABORT / anything else), all placements of handler, `before_sleep` and sleeper,
any callback raising anything — the run satisfies the sleep-handler protocol monitor.
-/
theorem handler_protocol_holds (cfg : Cfg) (e : Entry) (w : World) :
    Mon.C16.ok cfg e (runEntry cfg e w).2.trace.reverse (runEntry cfg e w).1 = true := by
  have h := verdicts_hold cfg e w
  simp only [Mon.C16.ok, h.1, h.2.1, h.2.2.1, h.2.2.2.1, h.2.2.2.2.1, h.2.2.2.2.2.1, h.2.2.2.2.2.2, Bool.and_self]

/-- …and therefore of every call in every script of calls and clock advances on ONE policy object. -/
theorem handler_protocol_holds_script (cfg : Cfg) : ∀ (steps : List Step) (w : World),
    ∀ l ∈ (runScript cfg steps w).1, Mon.C16.ok cfg l.entry l.trace l.res = true :=
  forall_script (P := fun e t r => Mon.C16.ok cfg e t r = true) cfg (handler_protocol_holds cfg)

/-! ### the monitor can say no (tests, not theorems) -/

/-- accepted: a call-level handler says DEFER for the delay 5; `RetryExhaustedError(SCHEDULED, next_sleep_s = 5)` -/
example : Mon.C16.ok { cHandler := true } .call
    [(.op 1, .raise (.ordinary 0 .transient) 0), (.classify "o0", .klass ⟨.transient, none⟩ 0),
     (.strategy .default .ctx ⟨1, .transient, none, none, 60, .exception⟩, .delay (.fin 5) 0),
     (.sleepHandler .call ⟨1, .transient, none, none, 60, .exception⟩ 5, .decision .defer 0)]
    (.raised (.libExhausted ⟨.scheduled, 1, some .transient, some "o0", none, some 5⟩)) = true := by decide

/-- rejected: …but the sleeper was called all the same -/
example : Mon.C16.ok { cHandler := true } .call
    [(.op 1, .raise (.ordinary 0 .transient) 0), (.classify "o0", .klass ⟨.transient, none⟩ 0),
     (.strategy .default .ctx ⟨1, .transient, none, none, 60, .exception⟩, .delay (.fin 5) 0),
     (.sleepHandler .call ⟨1, .transient, none, none, 60, .exception⟩ 5, .decision .defer 0),
     (.sleeper .dflt 5, .unit 5)]
    (.raised (.libExhausted ⟨.scheduled, 1, some .transient, some "o0", none, some 5⟩)) = false := by decide

/-- rejected: the policy-level handler was consulted although a call-level one was given -/
example : Mon.C16.ok { cHandler := true, pHandler := true } .call
    [(.op 1, .raise (.ordinary 0 .transient) 0), (.classify "o0", .klass ⟨.transient, none⟩ 0),
     (.strategy .default .ctx ⟨1, .transient, none, none, 60, .exception⟩, .delay (.fin 5) 0),
     (.sleepHandler .policy ⟨1, .transient, none, none, 60, .exception⟩ 5, .decision .sleep 0),
     (.sleeper .dflt 5, .unit 5), (.op 2, .value 7 0)] (.ret 7) = false := by decide

/-- rejected: the run "succeeds" with a value while the granted retry's sleep is still due -/
example : Mon.C16.ok {} .call
    [(.op 1, .raise (.ordinary 0 .transient) 0), (.classify "o0", .klass ⟨.transient, none⟩ 0),
     (.strategy .default .ctx ⟨1, .transient, none, none, 60, .exception⟩, .delay (.fin 5) 0)] (.ret 7) = false := by
  decide

/-- rejected: the next attempt although the granted retry never slept -/
example : Mon.C16.ok {} .call
    [(.op 1, .raise (.ordinary 0 .transient) 0), (.classify "o0", .klass ⟨.transient, none⟩ 0),
     (.strategy .default .ctx ⟨1, .transient, none, none, 60, .exception⟩, .delay (.fin 5) 0),
     (.op 2, .value 7 0)] (.ret 7) = false := by decide

end Redress.Props.C16
