/-
  C09, the at-most-once half, for EVERY run — no breaker record before / without admission, and an admitted call
  makes exactly one, except in one situation.

  `Mon.C09.once` ("in every run, environment guard or not: no record before / without admission, an admitted
  call makes exactly one") is FALSE of the model (`once_refuted` below; /verif/notes/C09ONCE_REPORT.md): in
  `Policy.call` / `AsyncPolicy.call` the `record_success(ctx)` sits INSIDE the `try` whose
  `except (KeyboardInterrupt, SystemExit)` arm (and, async, the `except asyncio.CancelledError` arm) calls
  `record_cancel(ctx)` unconditionally.  When the metric / log hook answers the `circuit_closed` event of that
  `record_success` by raising one of those kinds (`_emit_breaker_event` only swallows `Exception`), the call
  records success AND cancel.

  True of every configuration, entry point and world, with NO environment guard:

  * `once_exact_hold` — `Mon.C09.onceExact`: no record before / without admission; an admitted call
    makes exactly one record, EXCEPT that it makes exactly the two records
    `[record_success, record_cancel]` precisely when `Mon.C09.successEventFault` is true of its log
    (so the guard is tight: it excludes that situation and nothing else);
  * `once_hold` — `Mon.C09.onceGuarded`: `once` under the guard `!successEventFault` only.

  The call is the one verified in Lemmas/PolicyCall.lean, read differently (`records`): the admission, the
  records, `preRecords`, the context flags and, for `call()`, `successEventFault`'s own fold (`dcur`, `Fresh`) are
  looked at, and these survive every exchange of the retry loop and of the hooks (`Ext loopK`), raising or not.
  The double record is the one place where `call()`'s `except` ladder is entered from a state other than
  "nothing recorded" (`callLadder_closedS`).

  Last file of the chain C08 → C07Policy → C09 → C09Once; the monitors `once`, `successEventFault`,
  `onceGuarded`, `onceExact` are in Redress/MonitorsNR.lean (namespace `Mon.C09`).  Names: `x_x` is about the
  procedure `x` from `Open cfg d`; `d` says whether the fold is tracked (`call()`: `true`, `_x1`) or not
  (`execute()`: `false`, `_x0`); `recordCancel_two` is the cancel that makes the second record; `Open` / `Closed` /
  `Good` / `Final` are C09's `OpenL` / `ClosedL` / `GoodV` / `FinalV` as predicates on worlds, without the classifier.
-/
import Redress.Props.C09
import Redress.MonitorsNR

open Std.Do

namespace Redress.Props.C09Once
open Redress Redress.Retry Redress.Policy Redress.Mon Redress.Mon.C09
open Redress.Props.C08 (cur cur_cons run_reverse decision)

def cexCfg : Cfg := { hasRetry := false, breaker := some Breaker.exCfg, metric := true }

/-- HALF_OPEN breaker with a free probe slot; the operation returns 7; the metric hook then raises
    KeyboardInterrupt (on the `circuit_closed` event of the `record_success`) -/
def cexWorld : World :=
  { answers := [.value 7 0, .raise .keyboardInterrupt 0], breaker := { state := .halfOpen, probe := false } }

/-- `Mon.C09.once` is NOT true of every run: this `Policy.call` records success and then cancel. -/
theorem once_refuted :
    (Mon.C09.run (runEntry cexCfg .pcall cexWorld).2.trace.reverse).records
      = [.breakerSuccess, .breakerCancel] ∧
    Mon.C09.once cexCfg .pcall (runEntry cexCfg .pcall cexWorld).2.trace.reverse
      (runEntry cexCfg .pcall cexWorld).1 = false := by
  decide


def dcur (cfg : Cfg) (tr : List (Req × Ans)) : DSt := tr.foldr (fun x s => dstep cfg s x) {}

@[simp] theorem dcur_cons (cfg : Cfg) (x : Req × Ans) (t : List (Req × Ans)) :
    dcur cfg (x :: t) = dstep cfg (dcur cfg t) x := rfl

theorem dfold_reverse (cfg : Cfg) (t : List (Req × Ans)) :
    t.reverse.foldl (dstep cfg) {} = dcur cfg t := by
  simp [dcur, List.foldl_reverse]

theorem cancelArm_exception (cfg : Cfg) {e : Exn} (h : e.isException = true) : cancelArm cfg e = false := by
  cases e <;> simp_all [cancelArm, Exn.isException, Exn.isKiSe]

theorem dstep_loop (cfg : Cfg) (s : DSt) (x : Req × Ans) (h : loopK x.1.kind = true) :
    (dstep cfg s x).seen = s.seen ∧ (s.seen = false → (dstep cfg s x).bad = s.bad) := by
  obtain ⟨r, a⟩ := x
  cases r with
  | breakerSuccess => cases h
  | metric => cases a <;> refine ⟨rfl, fun hs => ?_⟩ <;> simp [dstep, hs]
  | log => cases a <;> refine ⟨rfl, fun hs => ?_⟩ <;> simp [dstep, hs]
  | _ => exact ⟨rfl, fun _ => rfl⟩

theorem dcur_append_loop (cfg : Cfg) (δ t : List (Req × Ans)) (h : ∀ x ∈ δ, loopK x.1.kind = true) :
    (dcur cfg (δ ++ t)).seen = (dcur cfg t).seen ∧
    ((dcur cfg t).seen = false → (dcur cfg (δ ++ t)).bad = (dcur cfg t).bad) := by
  induction δ with
  | nil => simp
  | cons x δ ih =>
    have hx := dstep_loop cfg (dcur cfg (δ ++ t)) x (h x (by simp))
    have := ih (fun y hy => h y (by simp [hy]))
    simp only [List.cons_append, dcur_cons]
    refine ⟨hx.1.trans this.1, fun hs => ?_⟩
    rw [hx.2 (this.1.trans hs)]
    exact this.2 hs

/-! ### states of an admitted call

`d` says whether the argument also tracks `successEventFault`'s fold (`call()`: `d = true`) or not
(`execute()`, where a hook raising after the `record_success` does no harm: `d = false`). -/

/-- no `record_success` so far (hence `bad` not set) -/
def Fresh (cfg : Cfg) (d : Bool) (w : World) : Prop :=
  d = true → (dcur cfg w.trace).seen = false ∧ (dcur cfg w.trace).bad = false

/-- admitted, nothing recorded yet -/
structure Open (cfg : Cfg) (d : Bool) (w : World) : Prop where
  adm : (cur w.trace).admitted = some true
  pre : (cur w.trace).preRecords = 0
  recs : (cur w.trace).records = []
  xadm : w.xc.admitted = true
  xset : w.xc.settled = false
  fresh : Fresh cfg d w

/-- admitted, exactly one record made (if `d`: not a `record_success`) -/
structure Closed (cfg : Cfg) (d : Bool) (w : World) : Prop where
  adm : (cur w.trace).admitted = some true
  pre : (cur w.trace).preRecords = 0
  recs : (cur w.trace).records.length = 1
  xadm : w.xc.admitted = true
  xset : w.xc.settled = true
  fresh : Fresh cfg d w

/-- admitted, exactly the `record_success` made; `b`: did a hook raise a `cancelArm` kind since -/
structure ClosedS (cfg : Cfg) (b : Bool) (w : World) : Prop where
  adm : (cur w.trace).admitted = some true
  pre : (cur w.trace).preRecords = 0
  recs : (cur w.trace).records = [.breakerSuccess]
  xadm : w.xc.admitted = true
  xset : w.xc.settled = true
  seen : (dcur cfg w.trace).seen = true
  bad : (dcur cfg w.trace).bad = b

/-- the double record: success, then cancel, `successEventFault`'s fold saying so -/
structure Two (cfg : Cfg) (w : World) : Prop where
  adm : (cur w.trace).admitted = some true
  pre : (cur w.trace).preRecords = 0
  recs : (cur w.trace).records = [.breakerSuccess, .breakerCancel]
  xadm : w.xc.admitted = true
  xset : w.xc.settled = true
  bad : (dcur cfg w.trace).bad = true

theorem Fresh.ext {cfg : Cfg} {d : Bool} {w w' : World} (h : Ext loopK w w') (hf : Fresh cfg d w) :
    Fresh cfg d w' := by
  intro hd
  obtain ⟨δ, e, k⟩ := h.trace
  obtain ⟨h1, h2⟩ := hf hd
  have := dcur_append_loop cfg δ w.trace k
  rw [e, this.1, this.2 h1]
  exact ⟨h1, h2⟩

theorem Open.stable (cfg : Cfg) (d : Bool) (w w' : World) (h : Ext loopK w w') (ho : Open cfg d w) :
    Open cfg d w' := by
  obtain ⟨h1, h2, h3⟩ := C08.cur_ext h
  exact ⟨h1 ▸ ho.adm, h3 ▸ ho.pre, h2 ▸ ho.recs, h.xc ▸ ho.xadm, h.xc ▸ ho.xset, Fresh.ext h ho.fresh⟩

theorem Closed.stable (cfg : Cfg) (d : Bool) (w w' : World) (h : Ext loopK w w') (ho : Closed cfg d w) :
    Closed cfg d w' := by
  obtain ⟨h1, h2, h3⟩ := C08.cur_ext h
  exact ⟨h1 ▸ ho.adm, h3 ▸ ho.pre, h2 ▸ ho.recs, h.xc ▸ ho.xadm, h.xc ▸ ho.xset, Fresh.ext h ho.fresh⟩

/-- a `record_*` other than the `record_success` of `call()` -/
theorem Open.record {cfg : Cfg} {d : Bool} {w : World} (h : Open cfg d w) (r : Req) (ans : Ans)
    (st : Breaker.St) (hr : isRecord r = true) (hns : d = true → r ≠ .breakerSuccess) :
    Closed cfg d { w with breaker := st, xc := { w.xc with settled := true }, trace := (r, ans) :: w.trace } := by
  have hs := step_admitted_record _ h.adm r ans hr
  refine ⟨?_, ?_, ?_, h.xadm, rfl, ?_⟩
  · rw [cur_cons, hs]; exact h.adm
  · rw [cur_cons, hs]; exact h.pre
  · rw [cur_cons, hs]; simp only [h.recs]; rfl
  · intro hd
    have := h.fresh hd
    have hne := hns hd
    cases r <;> first | exact this | exact absurd rfl hne | cases hr

/-- the `record_success` of `call()` -/
theorem Open.recordS {cfg : Cfg} {w : World} (h : Open cfg true w) (ans : Ans) (st : Breaker.St) :
    ClosedS cfg false
      { w with breaker := st, xc := { w.xc with settled := true },
               trace := (.breakerSuccess, ans) :: w.trace } := by
  have hs := step_admitted_record _ h.adm .breakerSuccess ans rfl
  refine ⟨?_, ?_, ?_, h.xadm, rfl, rfl, (h.fresh rfl).2⟩
  · rw [cur_cons, hs]; exact h.adm
  · rw [cur_cons, hs]; exact h.pre
  · rw [cur_cons, hs]; simp only [h.recs]; rfl

/-- …and the `record_cancel` that `call()`'s `except` arm adds to it -/
theorem ClosedS.cancel {cfg : Cfg} {w : World} (h : ClosedS cfg true w) (ans : Ans) (st : Breaker.St) :
    Two cfg
      { w with breaker := st, xc := { w.xc with settled := true },
               trace := (.breakerCancel, ans) :: w.trace } := by
  have hs := step_admitted_record _ h.adm .breakerCancel ans rfl
  refine ⟨?_, ?_, ?_, h.xadm, rfl, h.bad⟩
  · rw [cur_cons, hs]; exact h.adm
  · rw [cur_cons, hs]; exact h.pre
  · rw [cur_cons, hs]; simp only [h.recs]; rfl

/-- what `ensure_settled` may find at the end of an admitted call -/
def Good (cfg : Cfg) (d : Bool) (w : World) : Prop :=
  Open cfg d w ∨ Closed cfg d w ∨ (d = true ∧ (ClosedS cfg false w ∨ Two cfg w))

theorem Open.good {cfg : Cfg} {d : Bool} {w : World} (h : Open cfg d w) : Good cfg d w := .inl h

theorem Closed.good {cfg : Cfg} {d : Bool} {w : World} (h : Closed cfg d w) : Good cfg d w := .inr (.inl h)

/-- the verdict for an admitted call in any run: one record — or, for `call()`, the two of the double record
    exactly when the fold says `bad` -/
def Final (cfg : Cfg) (d : Bool) (w : World) : Prop :=
  (cur w.trace).admitted = some true ∧ (cur w.trace).preRecords = 0 ∧
  (if d && (dcur cfg w.trace).bad then (cur w.trace).records = [.breakerSuccess, .breakerCancel]
   else (cur w.trace).records.length = 1)

theorem Closed.final {cfg : Cfg} {d : Bool} {w : World} (h : Closed cfg d w) : Final cfg d w := by
  refine ⟨h.adm, h.pre, ?_⟩
  cases d with
  | false => simpa using h.recs
  | true => simpa [(h.fresh rfl).2] using h.recs

theorem Good.settle {cfg : Cfg} {d : Bool} {s : World} (ans : Ans) (st : Breaker.St)
    (h : Good cfg d s) (hc : (s.xc.admitted && !s.xc.settled) = true) :
    Final cfg d
      { s with breaker := st, xc := { s.xc with settled := true },
               trace := (.breakerCancel, ans) :: s.trace } := by
  rcases h with h | h | ⟨_, h | h⟩
  · exact (h.record .breakerCancel ans st rfl (fun _ => by simp)).final
  · have := h.xset; simp_all
  · have := h.xset; simp_all
  · have := h.xset; simp_all

theorem Good.settled {cfg : Cfg} {d : Bool} {s : World}
    (h : Good cfg d s) (hc : ¬ (s.xc.admitted && !s.xc.settled) = true) : Final cfg d s := by
  rcases h with h | h | ⟨rfl, h | h⟩
  · have h1 := h.xadm; have h2 := h.xset; simp_all
  · exact h.final
  · exact ⟨h.adm, h.pre, by simp [h.bad, h.recs]⟩
  · exact ⟨h.adm, h.pre, by simp [h.bad, h.recs]⟩


def hookBad (cfg : Cfg) : Ans → Bool
  | .raise e _ => cancelArm cfg e
  | _ => false

theorem dstep_hook (cfg : Cfg) (r : Req) (hk : r.kind = .metric ∨ r.kind = .log) (a : Ans) (s : DSt)
    (hs : s.seen = true) (hb : s.bad = false) :
    dstep cfg s (r, a) = { seen := true, bad := hookBad cfg a } := by
  obtain ⟨_, _⟩ := s
  cases hs
  cases hb
  cases r with
  | metric => cases a <;> rfl
  | log => cases a <;> rfl
  | _ => rcases hk with hk | hk <;> cases hk

theorem ClosedS.hook {cfg : Cfg} {s : World} (h : ClosedS cfg false s) (r : Req)
    (hk : r.kind = .metric ∨ r.kind = .log) (a : Ans) (rest : List Ans) (n : Nat) :
    ClosedS cfg (hookBad cfg a) { s with answers := rest, now := n, trace := (r, a) :: s.trace } := by
  have hs := step_loop (cur s.trace) (r, a) (by rcases hk with hk | hk <;> rw [hk] <;> rfl)
  refine ⟨?_, ?_, ?_, h.xadm, h.xset, ?_, ?_⟩
  · rw [cur_cons, hs.1]; exact h.adm
  · rw [cur_cons, hs.2.2.2]; exact h.pre
  · rw [cur_cons, hs.2.2.1]; exact h.recs
  · rw [dcur_cons, dstep_hook cfg r hk a _ h.seen h.bad]
  · rw [dcur_cons, dstep_hook cfg r hk a _ h.seen h.bad]

theorem askHook_closedS (cfg : Cfg) (r : Req) (hk : r.kind = .metric ∨ r.kind = .log) :
    ⦃fun w => ⌜ClosedS cfg false w⌝⦄ askHook r
    ⦃post⟨fun _ w => ⌜ClosedS cfg false w⌝, fun e w => ⌜ClosedS cfg (cancelArm cfg e) w⌝⟩⦄ :=
  askHook_triple' r (fun _ _ h => ⟨h.adm, h.pre, h.recs, h.xadm, h.xset, h.seen, h.bad⟩)
    (fun w a h hna => by
      have := h.hook r hk a w.answers.tail (w.now + a.dur)
      cases a <;> first | exact this | exact (hna _ _ rfl).elim)
    (fun _ e d h => h.hook r hk (.raise e d) _ _)

/-- `_emit_breaker_event` after `call()`'s `record_success`: only a BaseException-only kind raised by
    the hook gets out, and the fold has noted whether it is one `call()` answers with a cancel -/
theorem emitBreakerEvent_closedS (cfg : Cfg) (ev : Option Event) (st : CState) (k : Option EClass) :
    ⦃fun w => ⌜ClosedS cfg false w⌝⦄ emitBreakerEvent cfg ev st k
    ⦃post⟨fun _ w => ⌜ClosedS cfg false w⌝,
          fun e w => ⌜ClosedS cfg (cancelArm cfg e) w ∧ e.isException = false⌝⟩⦄ :=
  emitBreakerEvent_rule (askHook_closedS cfg) (fun _ _ he h => cancelArm_exception cfg he ▸ h) cfg ev st k

section records
variable (cfg : Cfg) (bc : Breaker.Cfg) (hb : cfg.breaker = some bc) (d : Bool)
include hb

theorem recordCancel_x :
    ⦃fun w => ⌜Open cfg d w⌝⦄ Policy.recordCancel cfg
    ⦃post⟨fun _ w => ⌜Closed cfg d w⌝, fun _ _ => ⌜False⌝⟩⦄ :=
  recordCancel_triple hb fun _ h => h.record _ _ _ rfl fun _ => Req.noConfusion

theorem recordFailure_x (k : EClass) :
    ⦃fun w => ⌜Open cfg d w⌝⦄ Policy.recordFailure cfg k
    ⦃post⟨fun _ w => ⌜Closed cfg d w⌝, fun _ w => ⌜Closed cfg d w⌝⟩⦄ :=
  recordFailure_triple hb k (fun _ h => h.record _ _ _ rfl fun _ => Req.noConfusion) fun ev st k =>
    inv_of_ext (Closed cfg d) (fun w0 => emitBreakerEvent_ext loopK w0 rfl rfl cfg ev st k) (Closed.stable cfg d)

/-- `record_success` in `execute()`: whatever the hook then does, one record -/
theorem recordSuccess_x0 :
    ⦃fun w => ⌜Open cfg false w⌝⦄ Policy.recordSuccess cfg
    ⦃post⟨fun _ w => ⌜Closed cfg false w⌝, fun _ w => ⌜Closed cfg false w⌝⟩⦄ :=
  recordSuccess_triple hb (fun _ h => h.record _ _ _ rfl Bool.noConfusion) fun ev st k =>
    inv_of_ext (Closed cfg false) (fun w0 => emitBreakerEvent_ext loopK w0 rfl rfl cfg ev st k)
      (Closed.stable cfg false)

theorem recordSuccess_x1 :
    ⦃fun w => ⌜Open cfg true w⌝⦄ Policy.recordSuccess cfg
    ⦃post⟨fun _ w => ⌜ClosedS cfg false w⌝,
          fun e w => ⌜ClosedS cfg (cancelArm cfg e) w ∧ e.isException = false⌝⟩⦄ :=
  recordSuccess_triple hb (fun _ h => h.recordS _ _) (emitBreakerEvent_closedS cfg)

theorem recordCancel_two :
    ⦃fun w => ⌜ClosedS cfg true w⌝⦄ Policy.recordCancel cfg
    ⦃post⟨fun _ w => ⌜Two cfg w⌝, fun _ _ => ⌜False⌝⟩⦄ :=
  recordCancel_triple hb fun _ h => h.cancel _ _

theorem ensureSettled_x :
    ⦃fun w => ⌜Good cfg d w⌝⦄ ensureSettled cfg
    ⦃post⟨fun _ w => ⌜Final cfg d w⌝, fun _ _ => ⌜False⌝⟩⦄ :=
  ensureSettled_triple hb (fun _ h hc => Good.settle _ _ h hc) fun _ => Good.settled

/-- the at-most-once reading of an admitted call: nothing recorded / one record made (not `call()`'s
    `record_success` if `d`) / what `ensure_settled` may find, whatever the result -/
theorem records : Records cfg (Open cfg d) (fun _ => Closed cfg d) (fun _ => Good cfg d) :=
  .of_stable (Open.stable cfg d) (fun _ => Closed.stable cfg d) (fun _ => Open.good) (fun _ _ => Closed.good)
    (recordCancel_x cfg bc hb d) (recordFailure_x cfg bc hb d)

omit hb in
theorem breakerAllow_x (b0 : Breaker.St) (now0 : Nat) (ha : decision bc b0 now0 = true) :
    ⦃fun w => ⌜Start b0 now0 w⌝⦄ breakerAllow bc
    ⦃post⟨fun r w => ⌜r.1 = true ∧ Open cfg d w⌝, fun _ _ => ⌜False⌝⟩⦄ := by
  refine triple_mono (breakerAllow_start bc b0 now0) (fun _ h => h) (fun d w h => ⟨h.1 ▸ ha, ?_⟩)
    (fun _ _ h => h)
  obtain ⟨-, ht, -, hxa, hxs⟩ := h
  refine ⟨?_, ?_, ?_, hxa.trans ha, hxs, fun _ => ?_⟩ <;> simp only [ht]
  · exact congrArg some ha
  · rfl
  · rfl
  · exact ⟨rfl, rfl⟩

theorem executeAdmitted_x (b0 : Breaker.St) (now0 : Nat) (ha : decision bc b0 now0 = true) :
    ⦃fun w => ⌜Start b0 now0 w⌝⦄ executeAdmitted cfg
    ⦃post⟨fun _ w => ⌜Good cfg false w⌝, fun _ w => ⌜Good cfg false w⌝⟩⦄ :=
  (records cfg bc hb false).executeAdmitted bc hb
    (triple_raise (recordSuccess_x0 cfg bc hb) (fun _ _ h => h.good))
    (breakerAllow_x cfg bc false b0 now0 ha)

end records

theorem callLadder_cancelArm (cfg : Cfg) (e : Exn) (h : cancelArm cfg e = true) :
    callLadder cfg e = (do Policy.recordCancel cfg; throw e) := by
  unfold callLadder
  by_cases h1 : (cfg.isAsync && decide (e = .cancelled)) = true
  · rw [if_pos h1]
  · have h2 : e.isKiSe = true := by
      simp only [cancelArm, Bool.or_eq_true] at h
      rcases h with h | h
      · exact absurd (by simpa using h) h1
      · exact h
    rw [if_neg h1, if_pos h2]

theorem callLadder_base (cfg : Cfg) (e : Exn) (h1 : cancelArm cfg e = false) (h2 : e.isException = false) :
    callLadder cfg e = throw e := by
  unfold callLadder
  -- every guard of the ladder is false: the first two make up `cancelArm`, the others imply `isException`
  cases e <;> simp_all [cancelArm, Exn.isException, Exn.isKiSe, Exn.isAbort, Exn.isExhausted]

/-- what the body of `call()`'s `try` leaves when it raises `e`: nothing recorded yet — or the
    `record_success` made and its event's hook raising `e` -/
def Raised (cfg : Cfg) (e : Exn) (w : World) : Prop :=
  Open cfg true w ∨ (ClosedS cfg (cancelArm cfg e) w ∧ e.isException = false)

section call
variable (cfg : Cfg) (bc : Breaker.Cfg) (hb : cfg.breaker = some bc)
include hb

theorem callLadder_closedS (e : Exn) :
    ⦃fun w => ⌜ClosedS cfg (cancelArm cfg e) w ∧ e.isException = false⌝⦄ callLadder cfg e
    ⦃post⟨fun _ w => ⌜Good cfg true w⌝, fun _ w => ⌜Good cfg true w⌝⟩⦄ := by
  cases hc : cancelArm cfg e with
  | true =>
    rw [callLadder_cancelArm cfg e hc]
    exact then_throw (triple_mono (recordCancel_two cfg bc hb) (fun _ h => h.1)
      (fun _ _ h => .inr (.inr ⟨rfl, .inr h⟩)) (fun _ _ h => h.elim))
  | false =>
    apply triple_of_run
    intro w hw
    rw [callLadder_base cfg e hc hw.2]
    exact .inr (.inr ⟨rfl, .inl hw.1⟩)

theorem callAdmitted_x (b0 : Breaker.St) (now0 : Nat) (ha : decision bc b0 now0 = true) :
    ⦃fun w => ⌜Start b0 now0 w⌝⦄ callAdmitted cfg
    ⦃post⟨fun _ w => ⌜Good cfg true w⌝, fun _ w => ⌜Good cfg true w⌝⟩⦄ :=
  (records cfg bc hb true).callAdmitted (S := Raised cfg) (fun _ _ h => .inl h)
    ((records cfg bc hb true).checkBreaker bc hb (breakerAllow_x cfg bc true b0 now0 ha))
    (fun _ => triple_mono (recordSuccess_x1 cfg bc hb) (fun _ h => h) (fun _ _ h => .inr (.inr ⟨rfl, .inl h⟩))
      (fun _ _ h => .inr h))
    (fun e => triple_or ((records cfg bc hb true).callLadder e) (callLadder_closedS cfg bc hb e))

end call


/-- What the policy entry points establish when the breaker admits the call — in EVERY run: exactly
    one record after the admission, none before it; or, in `call()` when `successEventFault`'s fold
    says so and only then, exactly `[record_success, record_cancel]`. -/
theorem entry_admitted (cfg : Cfg) (bc : Breaker.Cfg) (hb : cfg.breaker = some bc) (e : Entry)
    (he : e.isPolicy = true) (w : World) (ha : decision bc w.breaker w.now = true) :
    Final cfg (!e.isExecute) (runEntry cfg e w).2 :=
  runEntry_policy (Q := fun e _ => Good cfg (!e.isExecute)) (F := fun e _ => Final cfg (!e.isExecute)) e he w
    (callAdmitted_x cfg bc hb w.breaker w.now ha) (executeAdmitted_x cfg bc hb w.breaker w.now ha)
    (fun e _ => ensureSettled_x cfg bc hb (!e.isExecute)) (fun _ _ _ h => h)

theorem successEventFault_reverse (cfg : Cfg) (e : Entry) (tr : List (Req × Ans)) :
    successEventFault cfg e tr.reverse = (!e.isExecute && (dcur cfg tr).bad) := by
  simp only [successEventFault, dfold_reverse]

/--
**C09, at-most-once half, with no environment guard.**  For every configuration, every entry point and
every world — every answer stream (any exception kind raised by any callback at any invocation:
operation, classifier, attempt hooks, abort predicate, strategy, sleep handler, sleeper, metric and log
hooks), every clock value and every state of the embedded breaker:

* no `record_*` is made before the breaker is asked, and none by a call it did not admit;
* a call it admitted makes EXACTLY ONE `record_*` after the admission — however many attempts, and
  whichever hook raised whatever —
* except that `call()` makes exactly the two records `record_success, record_cancel` when (and only
  when) the metric / log hook answers the event of its `record_success` by raising KeyboardInterrupt /
  SystemExit (CancelledError, `AsyncPolicy`): `Mon.C09.successEventFault`.
-/
theorem once_exact_hold (cfg : Cfg) (e : Entry) (w : World) :
    Mon.C09.onceExact cfg e (runEntry cfg e w).2.trace.reverse (runEntry cfg e w).1 = true := by
  unfold Mon.C09.onceExact
  cases he : e.isPolicy with
  | false => simp
  | true =>
    cases hb : cfg.breaker with
    | none => simp
    | some bc =>
      simp only [Bool.true_and, Option.isSome_some, if_true, run_reverse, successEventFault_reverse]
      cases ha : decision bc w.breaker w.now with
      | false =>
        rw [C07.rejected_cur cfg bc hb e he w ha]
        rfl
      | true =>
        obtain ⟨h1, h2, h3⟩ := entry_admitted cfg bc hb e he w ha
        simp only [h1, h2, beq_self_eq_true, Bool.true_and]
        split at h3 <;> rename_i hc
        · simp [hc, h3]
        · simp [hc, h3]

/-- **`once` under the narrowest guard.**  In every run that is not in the one
    situation `Mon.C09.successEventFault` describes: no record before / without admission, and an
    admitted call makes exactly one. -/
theorem once_hold (cfg : Cfg) (e : Entry) (w : World) :
    Mon.C09.onceGuarded cfg e (runEntry cfg e w).2.trace.reverse (runEntry cfg e w).1 = true := by
  have h := once_exact_hold cfg e w
  unfold Mon.C09.onceGuarded
  cases hf : successEventFault cfg e (runEntry cfg e w).2.trace.reverse with
  | true => rfl
  | false =>
    simp only [Mon.C09.onceExact, hf] at h
    simpa [Mon.C09.once] using h

theorem _root_.Redress.Props.C07.Rej.not_bad (cfg : Cfg) {x0 : Req × Ans} {bR : Breaker.St} {w : World} (hr : C07.Rej x0 bR w)
    (hx : x0.1 = .breakerAllow) : (dcur cfg w.trace).bad = false := by
  obtain ⟨δ, e, k⟩ := hr.trace
  have hk : ∀ x ∈ δ, loopK x.1.kind = true := fun x hx => C07.mlK_loopK _ (k x hx)
  have h0 : dcur cfg [x0] = {} := by
    obtain ⟨r, a⟩ := x0
    cases hx
    rfl
  have := dcur_append_loop cfg δ [x0] hk
  rw [e, this.2 (by rw [h0]), h0]

/-- …and the guard is tight: of every call on a policy with a breaker, the unguarded `once` is true
    EXACTLY when `successEventFault` is false. -/
theorem once_eq_not_fault (cfg : Cfg) (e : Entry) (w : World) (he : e.isPolicy = true)
    (hb : cfg.breaker.isSome = true) :
    Mon.C09.once cfg e (runEntry cfg e w).2.trace.reverse (runEntry cfg e w).1
      = !successEventFault cfg e (runEntry cfg e w).2.trace.reverse := by
  obtain ⟨bc, hb⟩ := Option.isSome_iff_exists.mp hb
  simp only [Mon.C09.once, he, hb, Bool.true_and, Option.isSome_some, if_true, run_reverse,
    successEventFault_reverse]
  cases ha : decision bc w.breaker w.now with
  | false =>
    rw [(C07.entry_rejected cfg bc hb e he w ha).1.not_bad cfg rfl, C07.rejected_cur cfg bc hb e he w ha]
    simp
  | true =>
    obtain ⟨h1, h2, h3⟩ := entry_admitted cfg bc hb e he w ha
    simp only [h1, h2, beq_self_eq_true, Bool.true_and]
    split at h3 <;> rename_i hc
    · simp [hc, h3]
    · simp only [Bool.not_eq_true] at hc
      simp [hc, h3]

/-- …and therefore of every call in every script of calls and clock advances on ONE policy object
    sharing one breaker, whatever earlier calls did. -/
theorem once_exact_hold_script (cfg : Cfg) : ∀ (steps : List Step) (w : World),
    ∀ l ∈ (runScript cfg steps w).1, Mon.C09.onceExact cfg l.entry l.trace l.res = true :=
  forall_script (P := fun e t r => Mon.C09.onceExact cfg e t r = true) cfg (once_exact_hold cfg)

theorem once_hold_script (cfg : Cfg) : ∀ (steps : List Step) (w : World),
    ∀ l ∈ (runScript cfg steps w).1, Mon.C09.onceGuarded cfg l.entry l.trace l.res = true :=
  forall_script (P := fun e t r => Mon.C09.onceGuarded cfg e t r = true) cfg (once_hold cfg)

/-- the counterexample is the guard's situation; `onceExact` is true of it -/
example : successEventFault cexCfg .pcall (runEntry cexCfg .pcall cexWorld).2.trace.reverse = true ∧
    Mon.hookBaseFault (runEntry cexCfg .pcall cexWorld).2.trace.reverse = true := by decide

/-- `AsyncPolicy.call`, the hook raising CancelledError: two records, guard true … -/
example : (Mon.C09.run (runEntry { cexCfg with isAsync := true } .pcall
      { cexWorld with answers := [.value 7 0, .raise .cancelled 0] }).2.trace.reverse).records
        = [.breakerSuccess, .breakerCancel] ∧
    successEventFault { cexCfg with isAsync := true } .pcall (runEntry { cexCfg with isAsync := true } .pcall
      { cexWorld with answers := [.value 7 0, .raise .cancelled 0] }).2.trace.reverse = true := by decide

/-- … but the sync `Policy.call` (no `except CancelledError` arm), or the hook raising GeneratorExit:
    one record, guard false — these runs are covered by `once_hold` although an observability hook
    raised a BaseException in them (`Mon.hookBaseFault`: outside `Mon.C09.ok`'s stated environment) -/
example : (Mon.C09.run (runEntry cexCfg .pcall
      { cexWorld with answers := [.value 7 0, .raise .cancelled 0] }).2.trace.reverse).records = [.breakerSuccess] ∧
    successEventFault cexCfg .pcall (runEntry cexCfg .pcall
      { cexWorld with answers := [.value 7 0, .raise .cancelled 0] }).2.trace.reverse = false ∧
    successEventFault cexCfg .pcall (runEntry cexCfg .pcall
      { cexWorld with answers := [.value 7 0, .raise .generatorExit 0] }).2.trace.reverse = false ∧
    Mon.hookBaseFault (runEntry cexCfg .pcall
      { cexWorld with answers := [.value 7 0, .raise .generatorExit 0] }).2.trace.reverse = true := by decide

/-- the same answers given to `Policy.execute` (its `record_success` is outside every `try`): one
    record, guard false -/
example : (Mon.C09.run (runEntry cexCfg .pexecute cexWorld).2.trace.reverse).records = [.breakerSuccess] ∧
    successEventFault cexCfg .pexecute (runEntry cexCfg .pexecute cexWorld).2.trace.reverse = false := by
  decide

/-- KeyboardInterrupt raised by the hook BEFORE the `record_success` (here on the `circuit_half_open`
    event of the admission), or by an attempt hook (`Mon.attemptHookFault`): one record, guard false -/
example : (Mon.C09.run (runEntry cexCfg .pcall
      { answers := [.raise .keyboardInterrupt 0], breaker := Breaker.St.openedAtTime 7, now := 100 }).2.trace.reverse).records
        = [.breakerCancel] ∧
    successEventFault cexCfg .pcall (runEntry cexCfg .pcall
      { answers := [.raise .keyboardInterrupt 0], breaker := Breaker.St.openedAtTime 7, now := 100 }).2.trace.reverse = false ∧
    (Mon.C09.run (runEntry { cexCfg with cAttemptEnd := true } .pcall cexWorld).2.trace.reverse).records
        = [.breakerCancel] ∧
    Mon.attemptHookFault (runEntry { cexCfg with cAttemptEnd := true } .pcall cexWorld).2.trace.reverse = true ∧
    successEventFault { cexCfg with cAttemptEnd := true } .pcall
      (runEntry { cexCfg with cAttemptEnd := true } .pcall cexWorld).2.trace.reverse = false := by decide

end Redress.Props.C09Once

#print axioms Redress.Props.C09Once.once_refuted
#print axioms Redress.Props.C09Once.once_exact_hold
#print axioms Redress.Props.C09Once.once_exact_hold_script
#print axioms Redress.Props.C09Once.once_eq_not_fault
#print axioms Redress.Props.C09Once.once_hold
#print axioms Redress.Props.C09Once.once_hold_script
