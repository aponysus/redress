/-
  Redress.Props.C20 — Retry-After hints are parsed safely (first two sentences of C20; the
  `retry_after_or` sentence is proved with the strategies: `hint_honoured` in Props/C18.lean).

  "For any Retry-After value a server or SDK can supply (any string, number or header container),
   http_retry_after_classifier never raises and yields either no hint or a non-negative number of
   seconds: a decimal integer n within float range gives n, an HTTP-date gives the time until that
   date clamped at 0, garbage gives no hint."

  Everything is stated over ALL strings / integers / container contents / date-oracle functions /
  clock readings / digit limits.  The model (`Redress/Model/RetryAfter.lean`) has an explicit
  Python-exception outcome, so "never raises" is `… = .ok _`, a statement about the modelled
  `try/except` flow.  The monitor of C20 ("never raises and yields no hint or a non-negative number
  of seconds") is `specOk` / `classifierSpecOk` in the model file; `parse_safe`, `coerce_safe`,
  `classifier_safe` prove the model passes it at the three levels of the code.

  HYPOTHESES that appear (each with a non-vacuity `example`):
    * `OracleWithinExcept oracle` — `email.utils.parsedate_to_datetime` raises only
      TypeError / ValueError / IndexError / OverflowError, i.e. the kinds listed in the `except`
      clause of the code (http.py:100).  ValueError and OverflowError were *observed* from the real
      stdlib by the harness (it counts the kinds on every run); TypeError and IndexError are the ones
      older CPythons raised and the code lists.  An oracle raising any other kind is outside the
      model's claim, and `parse_error_origin` shows this is the ONLY way the parser can raise.
      (Finding F10: before /repo commit 95684a2 the clause lacked OverflowError and
      `"01 Jan 2147483648 00:00:00 GMT"` raised.)
    * `Catchable exc` — the `get` / `items` / `__str__` callbacks of a user-supplied header
      container raise only subclasses of `Exception` (a `KeyboardInterrupt` raised from inside a
      user's `.get` does propagate, as it should).
    * `DateRejects oracle q` — the date parser returns `None` or raises a listed kind on `q` (what
      the real one does on digit strings and garbage): in the theorems that say "no hint".
    * `∀ n, pyInt lim raw ≠ .value n` (`hint`) — `int()` raises ValueError on the stripped value;
      `not_int_of_bad_char` gives a checkable sufficient condition.
    * `NonMatching lim name e` for the entries before the matching key, and no `str` key equal to
      `name` up to case after it (`hpre`, `hpost` of `lookup_any_casing`): the key is unique up to
      case; before it, keys must also unpack and have a `str()` that returns (the scan would abort).
-/
import Redress.Lemmas.RetryAfterLemmas

namespace Redress.C20

open Redress Redress.RetryAfter


theorem pyMax0_fin (q : Rat) : pyMax0 (.fin q) = .fin (if 0 < q then q else 0) := by
  by_cases h : 0 < q <;> simp [pyMax0, PyFloat.gtZero, h]

/-- `max(0.0, x)` is a non-negative number for EVERY float x — NaN and −∞ included. -/
theorem pyMax0_nonneg (x : PyFloat) : (pyMax0 x).NonNeg := by
  cases x with
  | fin q =>
    rw [pyMax0_fin]
    split
    · exact Rat.le_of_lt ‹_›
    · exact Rat.le_refl
  | _ => decide


/-- The integer arm never raises: out of float range ⇒ `None` (the `except OverflowError`). -/
theorem int_arm_eq (n : Int) :
    tryExcept overflowCatches ((floatOfInt n).map (fun f => some (pyMax0 f))) none
      = .ok (if n.natAbs < floatOverflowBound then some (pyMax0 (.fin n)) else none) := by
  unfold floatOfInt
  split <;> simp [tryExcept, Except.map, overflowCatches]

/-- `_parse_retry_after` in one equation: a blank value gives `None`; else the integer arm, or, when
`int()` raises ValueError, the date arm. -/
theorem parse_cases (lim : Nat) (value : String) (oracle : String → DateAns) (now : Int) :
    parseRetryAfter lim value oracle now =
      if (pyStrip value).toList.isEmpty then .ok none
      else match pyInt lim (pyStrip value) with
        | .value n => .ok (if n.natAbs < floatOverflowBound then some (pyMax0 (.fin n)) else none)
        | _ => datePath (pyStrip value) oracle now := by
  unfold parseRetryAfter
  split
  · rw [if_pos (pyStrip_isEmpty ‹_›)]
  · simp only [int_arm_eq]
    split
    · rfl
    · cases pyInt lim (pyStrip value) <;> rfl

/-- `if not raw: return None` -/
theorem parse_blank (lim : Nat) (value : String) (oracle : String → DateAns) (now : Int)
    (h : (pyStrip value).toList.isEmpty = true) : parseRetryAfter lim value oracle now = .ok none := by
  rw [parse_cases, if_pos h]

/-- `if not value: return None` -/
theorem parse_empty (lim : Nat) (value : String) (oracle : String → DateAns) (now : Int)
    (h : value.toList.isEmpty = true) : parseRetryAfter lim value oracle now = .ok none :=
  parse_blank _ _ _ _ (pyStrip_isEmpty h)

theorem parse_int (lim : Nat) (value : String) (oracle : String → DateAns) (now : Int) (n : Int)
    (h2 : (pyStrip value).toList.isEmpty = false) (hi : pyInt lim (pyStrip value) = .value n) :
    parseRetryAfter lim value oracle now
      = .ok (if n.natAbs < floatOverflowBound then some (pyMax0 (.fin n)) else none) := by
  rw [parse_cases, if_neg (by simp [h2]), hi]

/-- the `except ValueError:` arm: the date path on the stripped value -/
theorem parse_date (lim : Nat) (value : String) (oracle : String → DateAns) (now : Int)
    (h2 : (pyStrip value).toList.isEmpty = false) (hi : ∀ n, pyInt lim (pyStrip value) ≠ .value n) :
    parseRetryAfter lim value oracle now = datePath (pyStrip value) oracle now := by
  rw [parse_cases, if_neg (by simp [h2])]
  split
  · exact absurd ‹_› (hi _)
  · rfl

/-- The date oracle raises only what `except (TypeError, ValueError, IndexError, OverflowError)`
catches. -/
def OracleWithinExcept (oracle : String → DateAns) : Prop :=
  ∀ q k, oracle q = .raised k → dateExceptCatches k = true

theorem datePath_error {raw : String} {oracle : String → DateAns} {now : Int} {k : ExcKind}
    (h : datePath raw oracle now = .error k) :
    oracle raw = .raised k ∧ dateExceptCatches k = false := by
  unfold datePath at h
  split at h
  · rename_i k' hk
    split at h
    · cases h
    · cases h
      exact ⟨hk, Bool.eq_false_iff.mpr ‹_›⟩
  · cases h
  · cases h

theorem datePath_some_nonneg {raw : String} {oracle : String → DateAns} {now : Int} {s : PyFloat}
    (h : datePath raw oracle now = .ok (some s)) : s.NonNeg := by
  unfold datePath at h
  split at h
  · split at h <;> cases h
  · cases h
  · cases h; exact pyMax0_nonneg _


/-- If the parser raises, the exception came out of `parsedate_to_datetime` and is of a kind the
`except` clause does not list.  No hypothesis: this is the complete account of how it can raise. -/
theorem parse_error_origin (lim : Nat) (value : String) (oracle : String → DateAns) (now : Int)
    (k : ExcKind) (h : parseRetryAfter lim value oracle now = .error k) :
    oracle (pyStrip value) = .raised k ∧ dateExceptCatches k = false := by
  rw [parse_cases] at h
  split at h
  · cases h
  · split at h
    · cases h
    · exact datePath_error h

/-- Every hint the parser returns is a non-negative number (never NaN, never negative) — for every
string, every date oracle, every clock reading, every digit limit. -/
theorem parse_hint_nonneg (lim : Nat) (value : String) (oracle : String → DateAns) (now : Int)
    (s : PyFloat) (h : parseRetryAfter lim value oracle now = .ok (some s)) : s.NonNeg := by
  rw [parse_cases] at h
  split at h
  · cases h
  · split at h
    · split at h <;> cases h
      exact pyMax0_nonneg _
    · exact datePath_some_nonneg h

/-- `_parse_retry_after` never raises when the stdlib date parser raises only the listed kinds. -/
theorem parse_never_raises (lim : Nat) (value : String) (oracle : String → DateAns) (now : Int)
    (ho : OracleWithinExcept oracle) : ∃ r, parseRetryAfter lim value oracle now = .ok r := by
  cases h : parseRetryAfter lim value oracle now with
  | ok r => exact ⟨r, rfl⟩
  | error k =>
    -- the kind came out of the oracle and is not listed, against `ho`
    obtain ⟨h1, h2⟩ := parse_error_origin lim value oracle now k h
    rw [ho _ _ h1] at h2
    cases h2

/-- For every string, date oracle (within the except clause), clock and digit
limit the result satisfies the C20 monitor: no exception, and no hint or a hint `≥ 0`. -/
theorem parse_safe (lim : Nat) (value : String) (oracle : String → DateAns) (now : Int)
    (ho : OracleWithinExcept oracle) : specOk (parseRetryAfter lim value oracle now) = true := by
  obtain ⟨r, hr⟩ := parse_never_raises lim value oracle now ho
  rw [hr]
  cases r with
  | none => rfl
  | some s => simpa [specOk] using parse_hint_nonneg lim value oracle now s hr

/-- non-vacuity: an oracle that parses some strings, returns None on others and raises each of the
four listed kinds satisfies the hypothesis. -/
example : OracleWithinExcept (fun q =>
    if q = "a" then .parsed true 5 else if q = "b" then .pyNone
    else if q = "c" then .raised .typeError else if q = "d" then .raised .indexError
    else if q = "e" then .raised .overflowError else .raised .valueError) := by
  intro q k h
  -- whichever branch answers, it is not `.raised`, or it raises a listed kind
  have key : ∀ (c : Prop) [Decidable c] (a b : DateAns), (if c then a else b) = .raised k →
      a = .raised k ∨ b = .raised k := fun c _ a b h => by split at h <;> simp [h]
  rcases key _ _ _ h with h | h
  · cases h
  rcases key _ _ _ h with h | h
  · cases h
  rcases key _ _ _ h with h | h
  · cases h; rfl
  rcases key _ _ _ h with h | h
  · cases h; rfl
  rcases key _ _ _ h with h | h <;> cases h <;> rfl

/-- The hypothesis is needed, and the model really has an exception flow: an oracle raising a kind
outside the except clause makes the modelled parser raise it. -/
example : parseRetryAfter pyMaxStrDigits "x" (fun _ => .raised .otherException) 0
    = .error .otherException := by decide +kernel



/-- The renderings of an integer that the theorem covers: whitespace (any `str.isspace` character,
ASCII or not), an optional sign, a non-empty run of ASCII digits (leading zeros allowed),
whitespace. -/
def rendering (ws1 sg ds ws2 : List Char) : String := String.ofList (ws1 ++ (sg ++ ds) ++ ws2)

theorem strip_rendering {ws1 sg ds ws2 : List Char}
    (h1 : ∀ c ∈ ws1, isPySpace c = true) (h2 : ∀ c ∈ ws2, isPySpace c = true)
    (hsg : ∀ c ∈ sg, isPySpace c = false) (hd : ∀ c ∈ ds, c.isDigit = true) :
    pyStrip (rendering ws1 sg ds ws2) = String.ofList (sg ++ ds) := by
  have hall : ∀ c ∈ sg ++ ds, isPySpace c = false := fun c hc =>
    (List.mem_append.mp hc).elim (hsg c) fun h => isPySpace_of_isDigit (hd c h)
  unfold pyStrip rendering
  rw [String.toList_ofList, pyStripL_around h1 h2 (fun c hc => hall c (List.mem_of_head? hc))
    fun c hc => hall c (List.mem_of_getLast? hc)]

/-- `int()` of sign + digits: the signed value, or the digit-limit ValueError. -/
theorem pyInt_signed_digits {lim : Nat} {sg ds : List Char}
    (hsg : sg = [] ∨ sg = ['+'] ∨ sg = ['-']) (hne : ds ≠ []) (hd : ∀ c ∈ ds, c.isDigit = true) :
    pyInt lim (String.ofList (sg ++ ds)) =
      if 0 < lim ∧ lim < ds.length then .tooManyDigits
      else .value (if sg = ['-'] then -(decVal ds : Int) else (decVal ds : Int)) := by
  unfold pyInt
  rw [String.toList_ofList, pyIntL_sign_digits hsg hne hd, pyIntBody_digits hne hd]
  simp

theorem rendering_nonempty {ws1 sg ds ws2 : List Char} (hne : ds ≠ []) :
    (rendering ws1 sg ds ws2).toList.isEmpty = false := by
  simp [rendering, hne]

theorem signed_nonempty {sg ds : List Char} (hne : ds ≠ []) :
    (String.ofList (sg ++ ds)).toList.isEmpty = false := by
  simp [hne]

/-- `parsedate_to_datetime` does not produce a date for `q`: it returns `None` or raises one of the
listed kinds (what the real stdlib does for every all-digit string: `ValueError`). -/
def DateRejects (oracle : String → DateAns) (q : String) : Prop :=
  oracle q = .pyNone ∨ ∃ k, oracle q = .raised k ∧ dateExceptCatches k = true

theorem datePath_rejects {oracle : String → DateAns} {q : String} {now : Int}
    (h : DateRejects oracle q) : datePath q oracle now = .ok none := by
  unfold datePath
  rcases h with h | ⟨k, h, hk⟩
  · simp [h]
  · simp [h, hk]

/-- `int()` of sign + more than `lim` digits is the digit-limit ValueError. -/
theorem pyInt_too_many {lim : Nat} {sg ds : List Char}
    (hsg : sg = [] ∨ sg = ['+'] ∨ sg = ['-'])
    (hd : ∀ c ∈ ds, c.isDigit = true) (hpos : 0 < lim) (hlim : lim < ds.length) :
    pyInt lim (String.ofList (sg ++ ds)) = .tooManyDigits := by
  rw [pyInt_signed_digits hsg (List.ne_nil_of_length_pos (by omega)) hd, if_pos ⟨hpos, hlim⟩]

section renderings
variable (lim : Nat) (ws1 sg ds ws2 : List Char) (oracle : String → DateAns) (now : Int)
  (h1 : ∀ c ∈ ws1, isPySpace c = true) (h2 : ∀ c ∈ ws2, isPySpace c = true)
  (hsg : sg = [] ∨ sg = ['+'] ∨ sg = ['-']) (hd : ∀ c ∈ ds, c.isDigit = true)
include h1 h2 hsg hd

/-- `_parse_retry_after` on every rendering of an integer: beyond the digit limit `int()` raises and
the date arm decides; else the integer arm gives the value clamped at 0, or `None` beyond float
range.  The theorems about renderings below are its cases. -/
theorem parse_rendering (hne : ds ≠ []) :
    parseRetryAfter lim (rendering ws1 sg ds ws2) oracle now =
      if 0 < lim ∧ lim < ds.length then datePath (String.ofList (sg ++ ds)) oracle now
      else .ok (if decVal ds < floatOverflowBound then
        some (.fin (if sg = ['-'] then 0 else ((decVal ds : Int) : Rat))) else none) := by
  have hs := strip_rendering (sg := sg) h1 h2 (by rcases hsg with rfl | rfl | rfl <;> decide) hd
  have hi := pyInt_signed_digits (lim := lim) hsg hne hd
  split
  · rw [parse_date _ _ _ _ (hs ▸ signed_nonempty hne) (by rw [hs, hi, if_pos ‹_›]; nofun), hs]
  · rw [parse_int _ _ _ _ _ (hs ▸ signed_nonempty hne) (by rw [hs, hi, if_neg ‹_›]), pyMax0_fin]
    -- `max(0.0, ·)` of `-d` is 0 and of `d` is `d`; both have absolute value `d`
    simp only [Rat.intCast_pos]
    by_cases hm : sg = ['-']
    · simp only [if_pos hm, Int.natAbs_neg, Int.natAbs_natCast]
      rw [if_neg (show ¬ (0 : Int) < -(decVal ds : Int) by omega)]
    · simp only [if_neg hm, Int.natAbs_natCast]
      by_cases h0 : decVal ds = 0
      · simp [h0]
      · rw [if_pos (show (0 : Int) < decVal ds by omega)]

/-- Beyond float range: a digit string (any sign, leading zeros, surrounding
whitespace) whose value is at or beyond `2^1024 − 2^970` gives NO hint — it is an `.ok`, the
`OverflowError` of `float()` is caught — whatever the oracle and the clock. -/
theorem overflow_gives_none (hne : ds ≠ []) (hlim : lim = 0 ∨ ds.length ≤ lim)
    (hhuge : floatOverflowBound ≤ decVal ds) :
    parseRetryAfter lim (rendering ws1 sg ds ws2) oracle now = .ok none := by
  rw [parse_rendering lim ws1 sg ds ws2 oracle now h1 h2 hsg hd hne, if_neg (by omega),
    if_neg (by omega)]

/-- Beyond the digit limit: more digits than `sys.get_int_max_str_digits()` makes
`int()` raise ValueError, which sends the string to the date parser; the result is exactly what the
date arm gives — in particular it is NOT an exception of the integer arm — and it is `None`
whenever the date parser rejects the string (which the real one does for digit strings). -/
theorem too_many_digits_goes_to_date_path (hpos : 0 < lim) (hlim : lim < ds.length) :
    parseRetryAfter lim (rendering ws1 sg ds ws2) oracle now
      = datePath (String.ofList (sg ++ ds)) oracle now := by
  rw [parse_rendering lim ws1 sg ds ws2 oracle now h1 h2 hsg hd (List.ne_nil_of_length_pos (by omega)),
    if_pos ⟨hpos, hlim⟩]

theorem too_many_digits_gives_none (hpos : 0 < lim) (hlim : lim < ds.length)
    (hrej : DateRejects oracle (String.ofList (sg ++ ds))) :
    parseRetryAfter lim (rendering ws1 sg ds ws2) oracle now = .ok none := by
  rw [too_many_digits_goes_to_date_path lim ws1 sg ds ws2 oracle now h1 h2 hsg hd hpos hlim,
    datePath_rejects hrej]

end renderings

/-- "A decimal integer n within float range gives n": for EVERY run of ASCII
digits `ds` (any length up to the interpreter's digit limit, leading zeros allowed) whose value
`n = decVal ds` is below the float-overflow bound, with an optional `+` and any surrounding
whitespace, the parser returns exactly `n` — whatever the date oracle and the clock are. -/
theorem digits_give_n (lim : Nat) (ws1 sg ds ws2 : List Char) (oracle : String → DateAns) (now : Int)
    (h1 : ∀ c ∈ ws1, isPySpace c = true) (h2 : ∀ c ∈ ws2, isPySpace c = true)
    (hsg : sg = [] ∨ sg = ['+'])
    (hne : ds ≠ []) (hd : ∀ c ∈ ds, c.isDigit = true) (hlim : lim = 0 ∨ ds.length ≤ lim)
    (hrange : decVal ds < floatOverflowBound) :
    parseRetryAfter lim (rendering ws1 sg ds ws2) oracle now
      = .ok (some (.fin ((decVal ds : Int) : Rat))) := by
  rw [parse_rendering lim ws1 sg ds ws2 oracle now h1 h2 (by rcases hsg with h | h <;> simp [h]) hd hne,
    if_neg (by omega), if_pos hrange, if_neg (by rcases hsg with h | h <;> simp [h])]

/-- … and a negative integer gives the hint 0 (the `max(0.0, ·)` clamp). -/
theorem negative_digits_give_zero (lim : Nat) (ws1 ds ws2 : List Char) (oracle : String → DateAns)
    (now : Int)
    (h1 : ∀ c ∈ ws1, isPySpace c = true) (h2 : ∀ c ∈ ws2, isPySpace c = true)
    (hne : ds ≠ []) (hd : ∀ c ∈ ds, c.isDigit = true) (hlim : lim = 0 ∨ ds.length ≤ lim)
    (hrange : decVal ds < floatOverflowBound) :
    parseRetryAfter lim (rendering ws1 ['-'] ds ws2) oracle now = .ok (some (.fin 0)) := by
  rw [parse_rendering lim ws1 ['-'] ds ws2 oracle now h1 h2 (.inr (.inr rfl)) hd hne,
    if_neg (by omega), if_pos hrange, if_pos rfl]

/-- The canonical rendering: `str(n)` (= `Nat.toDigits 10 n`) behind any number of leading zeros. -/
theorem decVal_zeros_toDigits (z n : Nat) : decVal (List.replicate z '0' ++ Nat.toDigits 10 n) = n := by
  unfold decVal
  rw [Nat.ofDigitChars_append, Nat.ofDigitChars_replicate_zero, Nat.mul_zero,
    Nat.ofDigitChars_ten_toDigits]

theorem digits_zeros_toDigits (z n : Nat) :
    ∀ c ∈ List.replicate z '0' ++ Nat.toDigits 10 n, c.isDigit = true := by
  intro c hc
  rcases List.mem_append.mp hc with h | h
  · rw [(List.mem_replicate.mp h).2]; decide
  · exact Nat.isDigit_of_mem_toDigits (by decide) (by decide) h

/-- `digits_give_n` in canonical form: for every natural number `n` below the float bound, `str(n)`
with `z` leading zeros, optional `+`, surrounding whitespace, gives the hint `n`. -/
theorem nat_repr_gives_n (lim z n : Nat) (ws1 sg ws2 : List Char) (oracle : String → DateAns)
    (now : Int)
    (h1 : ∀ c ∈ ws1, isPySpace c = true) (h2 : ∀ c ∈ ws2, isPySpace c = true)
    (hsg : sg = [] ∨ sg = ['+'])
    (hlim : lim = 0 ∨ z + (Nat.toDigits 10 n).length ≤ lim)
    (hrange : n < floatOverflowBound) :
    parseRetryAfter lim (rendering ws1 sg (List.replicate z '0' ++ Nat.toDigits 10 n) ws2) oracle now
      = .ok (some (.fin ((n : Int) : Rat))) := by
  have := digits_give_n lim ws1 sg (List.replicate z '0' ++ Nat.toDigits 10 n) ws2 oracle now h1 h2 hsg
    (by simp [Nat.toDigits_ne_nil]) (digits_zeros_toDigits z n) (by simpa using hlim)
    (by rw [decVal_zeros_toDigits]; exact hrange)
  rw [decVal_zeros_toDigits] at this
  exact this

/-- non-vacuity of `digits_give_n` / `nat_repr_gives_n`: " +00120\t" is such a rendering and the
model returns 120 on it. -/
example : rendering [' '] ['+'] ['0', '0', '1', '2', '0'] ['\t'] = " +00120\t" := by decide +kernel
set_option exponentiation.threshold 2000 in
example : parseRetryAfter pyMaxStrDigits " +00120\t" (fun _ => .raised .valueError) 0
    = .ok (some (.fin 120)) := by decide +kernel
example : (∀ c ∈ [' '], isPySpace c = true) ∧ (∀ c ∈ ['0', '0', '1', '2', '0'], c.isDigit = true)
    ∧ decVal ['0', '0', '1', '2', '0'] = 120 := by decide +kernel
-- the float bound is not vacuous either way: 10^308 is inside, 10^309 outside
set_option exponentiation.threshold 2000 in
example : 10 ^ 308 < floatOverflowBound ∧ floatOverflowBound < 10 ^ 309 := by decide +kernel



set_option exponentiation.threshold 2000 in
theorem floatOverflowBound_le : floatOverflowBound ≤ 10 ^ 309 := by decide +kernel

set_option exponentiation.threshold 2000 in
/-- Every digit string of 310 or more digits that does not start with `0` is beyond float range
(309-digit strings can be on either side: `10^308 < 2^1024 − 2^970 < 10^309`). -/
theorem long_digit_string_overflows {d : Char} {t : List Char} (hd : d.isDigit = true)
    (h0 : d ≠ '0') (hlen : 309 ≤ t.length) : floatOverflowBound ≤ decVal (d :: t) := by
  have hb : floatOverflowBound ≤ 10 ^ 309 := floatOverflowBound_le
  calc floatOverflowBound ≤ 10 ^ 309 := hb
    _ ≤ 10 ^ t.length := Nat.pow_le_pow_right (by decide) hlen
    _ ≤ decVal (d :: t) := decVal_lower_bound hd h0

/-- Both cases together (the form the property states): beyond float range or beyond the digit
limit ⇒ no hint, never an exception. -/
theorem huge_gives_none (lim : Nat) (ws1 sg ds ws2 : List Char) (oracle : String → DateAns)
    (now : Int)
    (h1 : ∀ c ∈ ws1, isPySpace c = true) (h2 : ∀ c ∈ ws2, isPySpace c = true)
    (hsg : sg = [] ∨ sg = ['+'] ∨ sg = ['-'])
    (hne : ds ≠ []) (hd : ∀ c ∈ ds, c.isDigit = true)
    (hrej : DateRejects oracle (String.ofList (sg ++ ds)))
    (hhuge : floatOverflowBound ≤ decVal ds ∨ (0 < lim ∧ lim < ds.length)) :
    parseRetryAfter lim (rendering ws1 sg ds ws2) oracle now = .ok none := by
  rw [parse_rendering lim ws1 sg ds ws2 oracle now h1 h2 hsg hd hne]
  split
  · exact datePath_rejects hrej
  · rw [if_neg (by omega)]

-- non-vacuity: 310 nines (cf. the F4 witness "9"*309) are beyond float range and within the
-- digit limit; a string of 4301 digits is beyond the limit; the oracle below rejects.
example : floatOverflowBound ≤ decVal ('9' :: List.replicate 309 '9') :=
  long_digit_string_overflows (by decide) (by decide) (by rw [List.length_replicate]; exact Nat.le_refl _)
example : ('9' :: List.replicate 309 '9').length ≤ pyMaxStrDigits := by
  rw [List.length_cons, List.length_replicate]; decide
example : DateRejects (fun _ => .raised .valueError) "x" := .inr ⟨_, rfl, rfl⟩
example : 0 < pyMaxStrDigits ∧ pyMaxStrDigits < (List.replicate 4301 '9').length := by
  rw [List.length_replicate]; decide


theorem div_million_pos_iff (a : Int) : (0 : Rat) < (a : Rat) / 1000000 ↔ 0 < a := by
  rw [Rat.div_def, Rat.mul_pos_iff_of_pos_right (by decide +kernel), Rat.intCast_pos]

/-- The date arm on a parsed date: the time until that date in seconds (exact rational of the
microsecond difference), clamped at 0.  `aware` is irrelevant: a naive date is read as UTC, which
is how the oracle's epoch is defined. -/
theorem datePath_parsed {raw : String} {oracle : String → DateAns} {now : Int} {aware : Bool}
    {t : Int} (h : oracle raw = .parsed aware t) :
    datePath raw oracle now
      = .ok (some (.fin (if now < t then ((t - now : Int) : Rat) / 1000000 else 0))) := by
  unfold datePath deltaSeconds
  rw [h]
  simp only [pyMax0_fin, div_million_pos_iff]
  have : (0 < t - now) ↔ now < t := by omega
  simp only [this]

/-- "An HTTP-date gives the time until that date clamped at 0": for every
non-blank value on which `int()` raises ValueError and which the date parser parses to the instant
`t` (epoch µs), the hint is `(t − now)/10^6` seconds if the date is in the future and `0` otherwise. -/
theorem date_gives_delta (lim : Nat) (value : String) (oracle : String → DateAns) (now : Int)
    (aware : Bool) (t : Int)
    (hnonblank : (pyStrip value).toList.isEmpty = false)
    (hint : ∀ n, pyInt lim (pyStrip value) ≠ .value n)
    (hdate : oracle (pyStrip value) = .parsed aware t) :
    parseRetryAfter lim value oracle now
      = .ok (some (.fin (if now < t then ((t - now : Int) : Rat) / 1000000 else 0))) := by
  rw [parse_date lim value oracle now hnonblank hint, datePath_parsed hdate]

/-- A sufficient, checkable reason for `int()` to fail: some character of the string is not a
digit, underscore, sign or whitespace — true of every HTTP-date (letters, `:`). -/
theorem not_int_of_bad_char (lim : Nat) (raw : String) (c : Char) (hc : c ∈ raw.toList)
    (hbad : isIntChar c = false) : ∀ n, pyInt lim raw ≠ .value n := by
  intro n h
  have := pyIntL_value_chars h c hc
  simp [hbad] at this

-- non-vacuity of `date_gives_delta`: an RFC 1123 date (with surrounding whitespace) satisfies the
-- three hypotheses; the instance says: 1.5 s ahead gives 3/2, 1.5 s behind gives 0.
example :
    let v := " Sun, 06 Nov 1994 08:49:37 GMT\r\n"
    let oracle : String → DateAns := fun q =>
      if q = "Sun, 06 Nov 1994 08:49:37 GMT" then .parsed true 784111777000000 else .raised .valueError
    (pyStrip v).toList.isEmpty = false ∧ 'S' ∈ (pyStrip v).toList ∧ isIntChar 'S' = false
      ∧ oracle (pyStrip v) = .parsed true 784111777000000 := by decide +kernel
example (lim : Nat) (oracle : String → DateAns)
    (h : oracle "Sun, 06 Nov 1994 08:49:37 GMT" = .parsed true 784111777000000) :
    parseRetryAfter lim " Sun, 06 Nov 1994 08:49:37 GMT\r\n" oracle 784111775500000
      = .ok (some (.fin (1500000 / 1000000)))
    ∧ parseRetryAfter lim " Sun, 06 Nov 1994 08:49:37 GMT\r\n" oracle 784111778500000
      = .ok (some (.fin 0)) := by
  have hs : pyStrip " Sun, 06 Nov 1994 08:49:37 GMT\r\n" = "Sun, 06 Nov 1994 08:49:37 GMT" := by
    decide +kernel
  have hd := fun now => date_gives_delta lim " Sun, 06 Nov 1994 08:49:37 GMT\r\n" oracle now true
    784111777000000 (by rw [hs]; decide +kernel)
    (not_int_of_bad_char lim _ 'S' (by rw [hs]; decide +kernel) (by decide +kernel)) (by rw [hs]; exact h)
  constructor <;> rw [hd] <;> simp
example : isIntChar 'S' = false ∧ 'S' ∈ "Sun, 06 Nov 1994 08:49:37 GMT".toList := by decide +kernel


/-- A value that is empty, or blank, or on which `int()` raises ValueError
and which the date parser rejects, gives no hint (and no exception). -/
theorem garbage_gives_none (lim : Nat) (value : String) (oracle : String → DateAns) (now : Int)
    (hint : ∀ n, pyInt lim (pyStrip value) ≠ .value n)
    (hrej : DateRejects oracle (pyStrip value)) :
    parseRetryAfter lim value oracle now = .ok none := by
  cases h2 : (pyStrip value).toList.isEmpty with
  | true => exact parse_blank _ _ _ _ h2
  | false => rw [parse_date lim value oracle now h2 hint, datePath_rejects hrej]

/-- the empty string and all-whitespace strings (any `str.isspace` characters) give no hint -/
theorem blank_gives_none (lim : Nat) (ws : List Char) (oracle : String → DateAns) (now : Int)
    (h : ∀ c ∈ ws, isPySpace c = true) :
    parseRetryAfter lim (String.ofList ws) oracle now = .ok none := by
  have : pyStripL ws = [] := by simpa using pyStripL_around (core := []) (ws2 := []) h
  exact parse_blank _ _ _ _ (by simp [pyStrip, this])

-- non-vacuity: ASCII and non-ASCII whitespace (space, tab, U+001C, NBSP, U+3000)
example : ∀ c ∈ [' ', '\t', '\x1c', '\u00a0', '\u3000'], isPySpace c = true := by decide +kernel

/-- garbage with a character `int()` cannot accept (e.g. "1.5", "1e3", "nan", "abc", "5s") that
the date parser rejects gives no hint. -/
theorem bad_char_garbage_gives_none (lim : Nat) (value : String) (oracle : String → DateAns)
    (now : Int) (c : Char) (hc : c ∈ (pyStrip value).toList) (hbad : isIntChar c = false)
    (hrej : DateRejects oracle (pyStrip value)) :
    parseRetryAfter lim value oracle now = .ok none :=
  garbage_gives_none lim value oracle now (not_int_of_bad_char lim _ c hc hbad) hrej

-- non-vacuity: "1.5" and "nan"
example : '.' ∈ (pyStrip "1.5").toList ∧ isIntChar '.' = false
    ∧ parseRetryAfter pyMaxStrDigits "1.5" (fun _ => .raised .valueError) 0 = .ok none := by decide +kernel
example : parseRetryAfter pyMaxStrDigits "nan" (fun _ => .raised .valueError) 0 = .ok none := by decide +kernel



/-- `str(v)` raises at most a subclass of `Exception` -/
def strCatchable : PyVal → Bool
  | .other (.error k) => k.isException
  | _ => true

def entryCatchable : Entry → Bool
  | .pair k v => strCatchable k && strCatchable v
  | .bad => true

def optCatchable : Option ExcKind → Bool
  | none => true
  | some k => k.isException

/-- every callback of the container (`get`, `items`, `__str__` of keys and values) raises only
subclasses of `Exception` -/
def headersCatchable : Headers → Bool
  | .absent => true
  | .mapping es _ gr ir => es.all entryCatchable && optCatchable gr && optCatchable ir
  | .getter es _ gr items _ _ =>
      es.all entryCatchable && optCatchable gr &&
        (match items with | some r => optCatchable r | none => true)
  | .pairs es _ => es.all entryCatchable
  | .inert _ => true

/-- both places `_coerce_retry_after` takes headers from (`exc.headers`, `exc.response.headers`) -/
def Catchable (exc : ExcRec) : Prop :=
  headersCatchable exc.headers = true ∧ ∀ h, exc.response = some h → headersCatchable h = true

theorem pyStr_error {lim : Nat} {v : PyVal} {k : ExcKind} (h : pyStr lim v = .error k)
    (hc : strCatchable v = true) : k.isException = true := by
  cases v with
  | int z =>
    simp only [pyStr] at h
    split at h <;> cases h
    rfl
  | other r =>
    cases h
    exact hc
  | bool b => cases b <;> cases h
  | _ => cases h

theorem scan_error {lim : Nat} {name : String} {es : List Entry} {k : ExcKind}
    (h : scanEntries lim name es = .error k) (hc : es.all entryCatchable = true) :
    k.isException = true := by
  induction es with
  | nil => cases h
  | cons e t ih =>
    simp only [List.all_cons, Bool.and_eq_true] at hc
    cases e with
    | bad => cases h; rfl
    | pair kk v =>
      have hkv : strCatchable kk = true ∧ strCatchable v = true := by
        simpa [entryCatchable] using hc.1
      unfold scanEntries at h
      split at h
      · cases h
        exact pyStr_error ‹_› hkv.1
      · split at h
        · exact pyStr_error (map_error h) hkv.2
        · exact ih h hc.2

theorem getEntry_catchable {ci : Bool} {es : List Entry} {n : String}
    (hc : es.all entryCatchable = true) : strCatchable (getEntry ci es n) = true := by
  unfold getEntry
  split
  · have := List.all_eq_true.mp hc _ (List.mem_of_find?_eq_some ‹_›)
    simp only [entryCatchable, Bool.and_eq_true] at this
    exact this.2
  · rfl

theorem getCall_error {gr : Option ExcKind} {ci : Bool} {es : List Entry} {n : String} {k : ExcKind}
    (h : getCall gr ci es n = .error k) (hc : optCatchable gr = true) : k.isException = true := by
  cases gr with
  | none => cases h
  | some k' => cases h; exact hc

theorem getCall_ok {gr : Option ExcKind} {ci : Bool} {es : List Entry} {n : String} {v : PyVal}
    (h : getCall gr ci es n = .ok v) : v = getEntry ci es n := by
  cases gr with
  | none => cases h; rfl
  | some k' => cases h

theorem getPhase_error {lim : Nat} {gr : Option ExcKind} {ci : Bool} {es : List Entry}
    {name : String} {k : ExcKind}
    (h : getPhase lim gr ci es name = .error k) (hgr : optCatchable gr = true)
    (hes : es.all entryCatchable = true) : k.isException = true := by
  unfold getPhase at h
  split at h
  · cases h
    exact getCall_error ‹_› hgr
  · rename_i v1 hv1
    simp only at h
    split at h
    · rename_i he
      cases h
      split at he
      · exact getCall_error he hgr
      · cases he
    · rename_i v2 hv2
      -- whichever `get` answered, the value is an entry of the container (or `None`)
      have hv2c : strCatchable v2 = true := by
        split at hv2
        · rw [getCall_ok hv2]; exact getEntry_catchable hes
        · cases hv2; rw [getCall_ok hv1]; exact getEntry_catchable hes
      split at h
      · cases h
      · exact pyStr_error (map_error h) hv2c

theorem itemsScan_error {lim : Nat} {ir : Option ExcKind} {es : List Entry} {name : String}
    {k : ExcKind} (h : itemsScan lim ir es name = .error k) (hir : optCatchable ir = true)
    (hes : es.all entryCatchable = true) : k.isException = true := by
  cases ir with
  | none => exact scan_error h hes
  | some k' => cases h; exact hir

/-- `_lookup_header` can only let a non-`Exception` (KeyboardInterrupt, …) through: every
`Exception` is swallowed by its `except Exception: return None`. -/
theorem lookup_error_is_base (lim : Nat) (headers : Headers) (name : String) (k : ExcKind)
    (h : lookupHeader lim headers name = .error k) : k.isException = false := by
  cases headers with
  | absent => cases h
  | inert t => cases h
  | pairs es it => exact (tryExcept_error_iff.mp h).2
  | mapping es ci gr ir => exact (tryExcept_error_iff.mp h).2
  | getter es ci gr items iterable truthy =>
    simp only [lookupHeader] at h
    split at h
    · cases h
      exact (tryExcept_error_iff.mp ‹_›).2
    · cases h
    · split at h
      · exact (tryExcept_error_iff.mp h).2
      · cases h

/-- `_lookup_header` never raises for a container whose callbacks raise only `Exception`s —
whatever they return, whatever the keys and values are (None, ints beyond the `str()` digit limit,
objects whose `__str__` raises, items that do not unpack): every `try` body raises only what its
`except Exception` catches. -/
theorem lookup_never_raises (lim : Nat) (headers : Headers) (name : String)
    (hc : headersCatchable headers = true) : ∃ r, lookupHeader lim headers name = .ok r := by
  cases headers with
  | absent => exact ⟨_, rfl⟩
  | inert t => exact ⟨_, rfl⟩
  | pairs es it => exact tryExcept_total fun k h => scan_error h hc
  | mapping es ci gr ir =>
    simp only [headersCatchable, Bool.and_eq_true] at hc
    refine tryExcept_total fun k h => ?_
    split at h
    · cases h
      exact getPhase_error ‹_› hc.1.2 hc.1.1
    · cases h
    · exact itemsScan_error h hc.2 hc.1.1
  | getter es ci gr items iterable truthy =>
    simp only [headersCatchable, Bool.and_eq_true] at hc
    simp only [lookupHeader]
    split
    · obtain ⟨hb, hbase⟩ := tryExcept_error_iff.mp ‹_›
      refine absurd ?_ (Bool.eq_false_iff.mp hbase)
      split at hb
      · cases hb
        exact getPhase_error ‹_› hc.1.2 hc.1.1
      · cases hb
      · split at hb
        · exact itemsScan_error (map_error hb) (by simpa using hc.2) hc.1.1
        · cases hb
    · exact ⟨_, rfl⟩
    · split
      · exact tryExcept_total fun k h => scan_error h hc.1.1
      · exact ⟨_, rfl⟩

-- non-vacuity: a dict with a None value, a huge int, an object whose __str__ raises ValueError
example : headersCatchable (.mapping
    [.pair (.str "Retry-After") .none, .pair (.str "x") (.int (10 ^ 5000)),
     .pair (.other (.error .valueError)) (.str "5"), .bad] false (some .typeError) none) = true := by
  decide +kernel
-- … and the hypothesis matters: a `get` raising KeyboardInterrupt propagates in the model
example : lookupHeader pyMaxStrDigits (.mapping [] false (some .baseException) none) "Retry-After"
    = .error .baseException := by decide +kernel



/-- An entry that cannot be taken for `name`: it unpacks, `str(key)` succeeds and differs from
`name` even up to ASCII case. -/
def NonMatching (lim : Nat) (name : String) (e : Entry) : Prop :=
  ∃ k v ks, e = .pair k v ∧ pyStr lim k = .ok ks ∧ lowerL ks ≠ lowerL name

/-- The scan returns `str(val)` of the FIRST entry whose key matches up to case (an earlier item
that does not unpack, or whose key's `__str__` raises, would abort the scan — excluded by `hpre`). -/
theorem scan_finds {lim : Nat} {name : String} {pre post : List Entry} {k v : PyVal} {ks : String}
    (hpre : ∀ e ∈ pre, NonMatching lim name e) (hk : pyStr lim k = .ok ks)
    (hm : lowerL ks = lowerL name) :
    scanEntries lim name (pre ++ .pair k v :: post) = (pyStr lim v).map some := by
  induction pre with
  | nil => simp [scanEntries, hk, hm]
  | cons e t ih =>
    obtain ⟨k', v', ks', rfl, hk', hne⟩ := hpre e (by simp)
    simp only [List.cons_append, scanEntries, hk']
    rw [if_neg (by simpa using hne)]
    exact ih (fun e he => hpre e (by simp [he]))

theorem keyIs_imp {ci : Bool} {n : String} {e : Entry} (h : Entry.keyIs ci n e = true) :
    ∃ k v, e = .pair (.str k) v ∧ lowerL k = lowerL n := by
  unfold Entry.keyIs at h
  split at h
  · refine ⟨_, _, rfl, ?_⟩
    cases ci <;> simp at h
    · rw [h]
    · exact h
  · cases h

/-- With a unique case-insensitively matching key, `get(n)` (for `n` = the name or its lower-case
form, exact or case-insensitive `get`) returns that key's value or `None`. -/
theorem getEntry_unique {lim : Nat} {ci : Bool} {name n : String} {pre post : List Entry}
    {k v : PyVal}
    (hpre : ∀ e ∈ pre, NonMatching lim name e)
    (hpost : ∀ e ∈ post, ∀ k' v', e = .pair (.str k') v' → lowerL k' ≠ lowerL name)
    (hn : lowerL n = lowerL name) :
    getEntry ci (pre ++ .pair k v :: post) n = v ∨ getEntry ci (pre ++ .pair k v :: post) n = .none := by
  have hpre' : List.find? (Entry.keyIs ci n) pre = none := by
    rw [List.find?_eq_none]
    intro e he hkey
    obtain ⟨k', v', rfl, hl⟩ := keyIs_imp hkey
    obtain ⟨k'', v'', ks, heq, hs, hne⟩ := hpre _ he
    cases heq
    simp only [pyStr] at hs
    cases hs
    exact hne (hl.trans hn)
  have hpost' : List.find? (Entry.keyIs ci n) post = none := by
    rw [List.find?_eq_none]
    intro e he hkey
    obtain ⟨k', v', rfl, hl⟩ := keyIs_imp hkey
    exact hpost _ he k' v' rfl (hl.trans hn)
  unfold getEntry
  rw [List.find?_append, hpre', Option.none_or]
  by_cases hx : Entry.keyIs ci n (.pair k v) = true
  · rw [List.find?_cons_of_pos hx]
    exact .inl rfl
  · rw [List.find?_cons_of_neg hx, hpost']
    exact .inr rfl

theorem getPhase_unique {lim : Nat} {ci : Bool} {name : String} {pre post : List Entry}
    {k v : PyVal}
    (hpre : ∀ e ∈ pre, NonMatching lim name e)
    (hpost : ∀ e ∈ post, ∀ k' v', e = .pair (.str k') v' → lowerL k' ≠ lowerL name) :
    getPhase lim none ci (pre ++ .pair k v :: post) name = .ok none ∨
    getPhase lim none ci (pre ++ .pair k v :: post) name = (pyStr lim v).map some := by
  have g1 := getEntry_unique (ci := ci) (k := k) (v := v) hpre hpost rfl
  have g2 := getEntry_unique (ci := ci) (k := k) (v := v) hpre hpost (lowerL_pyLower name)
  cases h : (getEntry ci (pre ++ .pair k v :: post) name).isNone <;>
    simp only [getPhase, getCall, h, Bool.false_eq_true, ↓reduceIte]
  · rcases g1 with g | g
    · exact .inr (by rw [g])
    · rw [g] at h
      cases h
  · rcases g2 with g | g <;> rw [g]
    · cases v.isNone <;> simp
    · exact .inl rfl

/-- Let the container's items be `pre ++ [(k, v)] ++ post` where `str(k)`
equals `name` up to ASCII case and no other key does (`hpre`: earlier entries unpack and their
`str(key)` returns something else; `hpost`: no later `str` key matches).  Then in EVERY container
shape — a Mapping with exact or case-insensitive `get`, an object with `.get` and `.items`, an
object with `.get` that is merely iterable, a plain iterable or iterator of pairs — the lookup
returns `str(v)`; if `str(v)` raises an `Exception` it returns `None`.  In particular a value
`None` under the only matching key is returned as the string `"None"` (the `get` phase skips it,
the scan does not) — which `_parse_retry_after` then rejects. -/
theorem lookup_any_casing (lim : Nat) (name : String) (pre post : List Entry) (k v : PyVal)
    (ks : String) (ci it iterable truthy : Bool)
    (hpre : ∀ e ∈ pre, NonMatching lim name e)
    (hpost : ∀ e ∈ post, ∀ k' v', e = .pair (.str k') v' → lowerL k' ≠ lowerL name)
    (hk : pyStr lim k = .ok ks) (hm : lowerL ks = lowerL name) :
    let es := pre ++ .pair k v :: post
    let found : Py (Option String) := tryExcept ExcKind.isException ((pyStr lim v).map some) none
    lookupHeader lim (.mapping es ci none none) name = found ∧
    lookupHeader lim (.getter es ci none (some none) iterable truthy) name = found ∧
    lookupHeader lim (.getter es ci none none true truthy) name = found ∧
    lookupHeader lim (.pairs es it) name = found := by
  have hscan := scan_finds (post := post) (v := v) hpre hk hm
  have hget := getPhase_unique (lim := lim) (ci := ci) (name := name) (k := k) (v := v) hpre hpost
  -- all that matters of `str(v)`: it returns, raises an `Exception`, or raises something else
  generalize pyStr lim v = y at hscan hget ⊢
  simp only [lookupHeader, itemsScan, hscan]
  rcases hget with hg | hg <;> rw [hg] <;> cases y with
  | ok sv => exact ⟨rfl, rfl, rfl, trivial⟩
  | error e => cases he : e.isException <;> simp [tryExcept, Except.map, he]

/-- Corollary: the header is found under ANY casing of its name, whatever else is in the container:
a `str` key equal to "Retry-After" up to ASCII case, unique as such, with a `str` value `sv`. -/
theorem lookup_any_casing_str (lim : Nat) (name key sv : String) (pre post : List Entry)
    (ci it iterable truthy : Bool)
    (hpre : ∀ e ∈ pre, NonMatching lim name e)
    (hpost : ∀ e ∈ post, ∀ k' v', e = .pair (.str k') v' → lowerL k' ≠ lowerL name)
    (hm : lowerL key = lowerL name) :
    let es := pre ++ .pair (.str key) (.str sv) :: post
    lookupHeader lim (.mapping es ci none none) name = .ok (some sv) ∧
    lookupHeader lim (.getter es ci none (some none) iterable truthy) name = .ok (some sv) ∧
    lookupHeader lim (.getter es ci none none true truthy) name = .ok (some sv) ∧
    lookupHeader lim (.pairs es it) name = .ok (some sv) := by
  have := lookup_any_casing lim name pre post (.str key) (.str sv) key ci it iterable truthy hpre hpost
    rfl hm
  simpa [pyStr, Except.map, tryExcept] using this

-- non-vacuity: {"Content-Type": "x", "rEtRy-AfTeR": "7", 5: None} looked up as "Retry-After"
example : (∀ e ∈ [Entry.pair (.str "Content-Type") (.str "x")],
      NonMatching pyMaxStrDigits "Retry-After" e)
    ∧ (∀ e ∈ [Entry.pair (.int 5) .none], ∀ k' v', e = .pair (.str k') v' →
        lowerL k' ≠ lowerL "Retry-After")
    ∧ lowerL "rEtRy-AfTeR" = lowerL "Retry-After" := by
  refine ⟨?_, ?_, by decide +kernel⟩
  · intro e he
    cases List.mem_singleton.mp he
    exact ⟨_, _, "Content-Type", rfl, rfl, by decide +kernel⟩
  · intro e he k' v' h
    cases List.mem_singleton.mp he
    cases h

/-- What the code does when SEVERAL keys match up to case (exact statements, Mapping with exact
`get`, i.e. a dict): the value under the exact key `name` wins if it is not `None` — even if another
casing comes first in iteration order … -/
theorem lookup_exact_key_wins (lim : Nat) (name : String) (es : List Entry) (v : PyVal) (sv : String)
    (ir : Option ExcKind)
    (hget : getEntry false es name = v) (hnn : v.isNone = false) (hs : pyStr lim v = .ok sv) :
    lookupHeader lim (.mapping es false none ir) name = .ok (some sv) := by
  simp [lookupHeader, getPhase, getCall, hget, hnn, hs, tryExcept, Except.map]

/-- … a `None` under the exact key is skipped in favour of the lower-case key … -/
theorem lookup_none_exact_falls_to_lower (lim : Nat) (name : String) (es : List Entry) (v : PyVal)
    (sv : String) (ir : Option ExcKind)
    (hget : (getEntry false es name).isNone = true)
    (hget2 : getEntry false es (pyLower name) = v) (hnn : v.isNone = false)
    (hs : pyStr lim v = .ok sv) :
    lookupHeader lim (.mapping es false none ir) name = .ok (some sv) := by
  simp [lookupHeader, getPhase, getCall, hget, hget2, hnn, hs, tryExcept, Except.map]

/-- … and when both are `None`/absent the scan returns `str(val)` of the first match in iteration
order — `"None"` for a `None` value. -/
theorem lookup_both_none_scans (lim : Nat) (name : String) (es : List Entry)
    (hget : (getEntry false es name).isNone = true)
    (hget2 : (getEntry false es (pyLower name)).isNone = true) :
    lookupHeader lim (.mapping es false none none) name
      = tryExcept ExcKind.isException (scanEntries lim name es) none := by
  simp [lookupHeader, getPhase, getCall, hget, hget2, itemsScan]

-- non-vacuity of the hypotheses of the three theorems above, and the instances themselves
example : getEntry false [.pair (.str "retry-after") (.str "1"), .pair (.str "Retry-After") (.str "2")]
      "Retry-After" = .str "2"
    ∧ (getEntry false [.pair (.str "Retry-After") .none, .pair (.str "retry-after") (.str "3")]
      "Retry-After").isNone = true
    ∧ getEntry false [.pair (.str "Retry-After") .none, .pair (.str "retry-after") (.str "3")]
      (pyLower "Retry-After") = .str "3"
    ∧ (getEntry false [.pair (.str "RETRY-AFTER") .none] (pyLower "Retry-After")).isNone = true :=
  ⟨by rfl, by rfl, by rfl, by rfl⟩
example : lookupHeader pyMaxStrDigits
    (.mapping [.pair (.str "retry-after") (.str "1"), .pair (.str "Retry-After") (.str "2")] false none none)
    "Retry-After" = .ok (some "2") := by decide +kernel
example : lookupHeader pyMaxStrDigits
    (.mapping [.pair (.str "Retry-After") .none, .pair (.str "retry-after") (.str "3")] false none none)
    "Retry-After" = .ok (some "3") := by decide +kernel
example : lookupHeader pyMaxStrDigits
    (.mapping [.pair (.str "RETRY-AFTER") .none] false none none) "Retry-After" = .ok (some "None") := by
  decide +kernel



theorem directNumber_ok (f : PyFloat) : directNumber (.ok f) = .ok (some (pyMax0 f)) := rfl

/-- A number in the attribute wins: an `int`/`bool`/`float` `retry_after` attribute decides alone —
headers and response are never consulted: in float range it gives `max(0.0, float(direct))`
(so −5 ↦ 0, NaN ↦ 0, −∞ ↦ 0, +∞ ↦ +∞, True ↦ 1), beyond float range it gives `None` and does NOT
fall through to the headers. -/
theorem direct_int_wins (lim : Nat) (z : Int) (hd : Headers) (rs : Option Headers)
    (oracle : String → DateAns) (now : Int) :
    coerceRetryAfter lim { retryAfter := .int z, headers := hd, response := rs } oracle now
      = .ok (if z.natAbs < floatOverflowBound then some (pyMax0 (.fin z)) else none) := by
  simp only [coerceRetryAfter, directNumber, int_arm_eq]

theorem direct_bool_wins (lim : Nat) (b : Bool) (hd : Headers) (rs : Option Headers)
    (oracle : String → DateAns) (now : Int) :
    coerceRetryAfter lim { retryAfter := .bool b, headers := hd, response := rs } oracle now
      = .ok (some (.fin (if b then 1 else 0))) := by
  cases b <;> simp [coerceRetryAfter, directNumber_ok, pyMax0_fin] <;> decide

theorem direct_float_wins (lim : Nat) (f : PyFloat) (r : String) (hd : Headers) (rs : Option Headers)
    (oracle : String → DateAns) (now : Int) :
    coerceRetryAfter lim { retryAfter := .float f r, headers := hd, response := rs } oracle now
      = .ok (some (pyMax0 f)) := by
  simp only [coerceRetryAfter, directNumber_ok]

theorem pyMax0_special : pyMax0 .nan = .fin 0 ∧ pyMax0 .negInf = .fin 0 ∧ pyMax0 .inf = .inf := by
  simp [pyMax0, PyFloat.gtZero]

/-- A `str` attribute that parses decides alone; one that does not parse leaves the decision to the
headers. -/
theorem direct_str_wins (lim : Nat) (s : String) (p : PyFloat) (hd : Headers) (rs : Option Headers)
    (oracle : String → DateAns) (now : Int)
    (hp : parseRetryAfter lim s oracle now = .ok (some p)) :
    coerceRetryAfter lim { retryAfter := .str s, headers := hd, response := rs } oracle now
      = .ok (some p) := by
  simp only [coerceRetryAfter, hp]

theorem direct_str_falls_through (lim : Nat) (s : String) (hd : Headers) (rs : Option Headers)
    (oracle : String → DateAns) (now : Int)
    (hp : parseRetryAfter lim s oracle now = .ok none) :
    coerceRetryAfter lim { retryAfter := .str s, headers := hd, response := rs } oracle now
      = coerceFromHeaders lim { retryAfter := .str s, headers := hd, response := rs } oracle now := by
  simp only [coerceRetryAfter, hp]

-- non-vacuity of the two hypotheses: "7" parses, "abc" does not (the oracle rejecting it)
set_option exponentiation.threshold 2000 in
example : parseRetryAfter pyMaxStrDigits "7" (fun _ => .raised .valueError) 0 = .ok (some (.fin 7))
    ∧ parseRetryAfter pyMaxStrDigits "abc" (fun _ => .raised .valueError) 0 = .ok none := by decide +kernel

/-- `headers = exc.headers or exc.response.headers`: a FALSY `exc.headers` (None, `{}`, `[]`, an
object whose `__bool__` is false) hands over to the response's headers; a truthy one shadows them
even if it does not contain the header. -/
theorem pickHeaders_truthy (exc : ExcRec) (h : exc.headers.truthy = true) :
    exc.pickHeaders = exc.headers := by
  simp [ExcRec.pickHeaders, h]

theorem pickHeaders_falsy (exc : ExcRec) (hr : Headers) (h : exc.headers.truthy = false)
    (hresp : exc.response = some hr) : exc.pickHeaders = hr := by
  simp [ExcRec.pickHeaders, h, hresp]

example : (Headers.mapping [] false none none).truthy = false
    ∧ (Headers.pairs [] true).truthy = true := by decide


theorem pickHeaders_catchable {exc : ExcRec} (hc : Catchable exc) :
    headersCatchable exc.pickHeaders = true := by
  unfold ExcRec.pickHeaders
  split
  · exact hc.1
  · split
    · rfl
    · rename_i h hr
      exact hc.2 h hr

/-- Where a result of `_coerce_retry_after` can come from: no hint, a number in the attribute, the
parser (on a `str` attribute or on the header value), or an exception out of the header lookup.
What holds of these four holds of the result. -/
theorem coerce_induction {lim : Nat} {exc : ExcRec} {oracle : String → DateAns} {now : Int}
    {Q : Py (Option PyFloat) → Prop} (hnone : Q (.ok none))
    (hnum : ∀ f, Q (.ok (some (pyMax0 f)))) (hparse : ∀ s, Q (parseRetryAfter lim s oracle now))
    (hlookup : ∀ k, lookupHeader lim exc.pickHeaders "Retry-After" = .error k → Q (.error k)) :
    Q (coerceRetryAfter lim exc oracle now) := by
  have hfrom : Q (coerceFromHeaders lim exc oracle now) := by
    unfold coerceFromHeaders
    split
    · exact hlookup _ ‹_›
    · exact hnone
    · exact hparse _
  unfold coerceRetryAfter
  split
  · exact hnum _
  · rw [directNumber, int_arm_eq]
    split
    · exact hnum _
    · exact hnone
  · exact hnum _
  · split
    · exact ‹_ = Except.error _› ▸ hparse _
    · exact ‹_ = Except.ok (some _)› ▸ hparse _
    · exact hfrom
  · exact hfrom
  · exact hfrom

/-- complete account of how `_coerce_retry_after` can raise: a non-`Exception` out of a container
callback, or an unlisted kind out of the date parser -/
theorem coerce_error_origin (lim : Nat) (exc : ExcRec) (oracle : String → DateAns) (now : Int)
    (k : ExcKind) (h : coerceRetryAfter lim exc oracle now = .error k) :
    k.isException = false ∨ (∃ q, oracle q = .raised k ∧ dateExceptCatches k = false) := by
  revert k
  refine coerce_induction (Q := fun r => ∀ k, r = .error k →
    k.isException = false ∨ ∃ q, oracle q = .raised k ∧ dateExceptCatches k = false)
    (fun _ h => nomatch h) (fun _ _ h => nomatch h)
    (fun s k h => .inr ⟨_, parse_error_origin _ _ _ _ _ h⟩) ?_
  intro k hl k' h
  cases h
  exact .inl (lookup_error_is_base _ _ _ _ hl)

/-- every hint `_coerce_retry_after` returns is a non-negative number — no hypothesis at all -/
theorem coerce_hint_nonneg (lim : Nat) (exc : ExcRec) (oracle : String → DateAns) (now : Int)
    (s : PyFloat) (h : coerceRetryAfter lim exc oracle now = .ok (some s)) : s.NonNeg := by
  revert s
  refine coerce_induction (Q := fun r => ∀ s, r = .ok (some s) → s.NonNeg) (fun _ h => nomatch h) ?_
    (fun v s h => parse_hint_nonneg _ _ _ _ _ h) fun _ _ _ h => nomatch h
  intro f s h
  cases h
  exact pyMax0_nonneg f

/-- `_coerce_retry_after` passes the monitor for every attribute value, every container shape and
content, every date oracle within the except clause, every clock. -/
theorem coerce_safe (lim : Nat) (exc : ExcRec) (oracle : String → DateAns) (now : Int)
    (ho : OracleWithinExcept oracle) (hc : Catchable exc) :
    specOk (coerceRetryAfter lim exc oracle now) = true := by
  refine coerce_induction (Q := (specOk · = true)) rfl (fun f => by simpa [specOk] using pyMax0_nonneg f)
    (fun s => parse_safe lim s oracle now ho) fun k hl => ?_
  obtain ⟨r, hr⟩ := lookup_never_raises lim exc.pickHeaders "Retry-After" (pickHeaders_catchable hc)
  rw [hr] at hl
  cases hl

/-- Only RATE_LIMIT looks for a hint; every other class is returned
bare, whatever the exception carries (the containers are not even touched). -/
theorem non_rate_limit_no_hint (lim : Nat) (klass : EClass) (exc : ExcRec)
    (oracle : String → DateAns) (now : Int) (h : klass ≠ .rateLimit) :
    httpRetryAfterClassifier lim klass exc oracle now = .ok (.bare klass) := by
  simp [httpRetryAfterClassifier, h]

example : EClass.serverError ≠ EClass.rateLimit := by decide

theorem rate_limit_classifier (lim : Nat) (exc : ExcRec) (oracle : String → DateAns) (now : Int) :
    httpRetryAfterClassifier lim .rateLimit exc oracle now =
      match coerceRetryAfter lim exc oracle now with
      | .error k => .error k
      | .ok none => .ok (.bare .rateLimit)
      | .ok (some s) => .ok (.classification .rateLimit s) :=
  rfl

/-- Whenever the classifier returns a `Classification`, its class is
RATE_LIMIT and its `retry_after_s` is a non-negative number (not NaN) — no hypothesis. -/
theorem classifier_hint_nonneg (lim : Nat) (klass : EClass) (exc : ExcRec)
    (oracle : String → DateAns) (now : Int) (k : EClass) (s : PyFloat)
    (h : httpRetryAfterClassifier lim klass exc oracle now = .ok (.classification k s)) :
    k = .rateLimit ∧ klass = .rateLimit ∧ s.NonNeg := by
  unfold httpRetryAfterClassifier at h
  split at h
  · cases h
  · have hk : klass = .rateLimit := by simpa using ‹¬ klass ≠ .rateLimit›
    split at h <;> cases h
    exact ⟨hk, hk, coerce_hint_nonneg _ _ _ _ _ ‹_›⟩

/-- C20, first two sentences: `http_retry_after_classifier` never raises and yields either no
hint or a non-negative number of seconds — for every class `http_classifier` can return, every
`retry_after` attribute, every header container shape / content / key casing, every clock. -/
theorem classifier_safe (lim : Nat) (klass : EClass) (exc : ExcRec) (oracle : String → DateAns)
    (now : Int) (ho : OracleWithinExcept oracle) (hc : Catchable exc) :
    classifierSpecOk (httpRetryAfterClassifier lim klass exc oracle now) = true := by
  have hsafe := coerce_safe lim exc oracle now ho hc
  unfold httpRetryAfterClassifier
  split
  · rfl
  · split
    · rw [‹coerceRetryAfter _ _ _ _ = .error _›] at hsafe
      cases hsafe
    · rfl
    · rw [‹coerceRetryAfter _ _ _ _ = .ok (some _)›] at hsafe
      exact hsafe

-- non-vacuity of `Catchable`: the exception of the F4/F10 reproductions
example : Catchable { retryAfter := .int (10 ^ 400),
                      headers := .mapping [.pair (.str "Retry-After") (.str "01 Jan 2147483648 00:00:00 GMT")] false none none,
                      response := some (.pairs [.bad] false) } := by
  refine ⟨by decide, ?_⟩
  intro h hh
  cases hh
  decide

end Redress.C20
