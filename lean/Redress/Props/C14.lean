/-
  C14 — The event stream explains every run: `retry`* then exactly one terminal event.

  Theorems are about `Mon.C14.ok`, the monitor the driver also evaluates on implementation traces:
  for EVERY configuration, EVERY answer stream and every entry point the monitor accepts the model's run
  (`events_hold`, `events_hold_script`), and its four conjuncts are stated separately
  (`stream_shape`, `terminal_tags`, `sinks_agree`, `breaker_events_shape`, plus `rejected_silent`).
  The stream has up to three sinks: the requests to the metric hook, those to the log hook, and the timeline
  that `execute()` captures when `cfg.timeline` is set.  A sink that is not configured is not constrained.

  Guards of the monitor (each is part of the statement, not an extra assumption):
  * `hasLoop cfg e` — "a policy with a retry component";
  * `endsNormally e t r` — "ends normally (value, failure, deferral or abort)": a returned value / outcome;
    for `call()` an AbortRetryError / RetryExhaustedError made by the library, or the operation's own last
    exception (raised by the operation and by no other callback), or the breaker's rejection; never a
    cancellation kind, a nested RetryExhaustedError, or an error raised by a strategy / sleeper / classifier /
    hook; `execute()` delivers every normal end as an outcome, so a raising `execute()` is never normal;
  * `!attemptHookFault t` — no attempt hook and not `abort_if` itself raised (runs in which one did are
    outside the property, DESIGN §6.2);
  * `rejected t` is not a guard: a rejected call is checked to produce NO retry-level event.

  Method: a *view* of the world (the monitor's fold state as a function of the log, plus the fields of the
  retry state the events are built from).  The leaf procedures get exact specs ("the view was `v`, now it is
  `f v`") from one spec for `ask` and the equation of `obs` for the request asked.  Pure transition lemmas
  describe the stream automaton (`Running n` —retry→ `Running (n+1)`, `Running n` —terminal→ `Done`).  The
  structural procedures get specs whose pre- and postconditions are predicates of the view (`FailPre`,
  `FailPost`, `Retrying`, `After`, `Looping`, …), so that they chain without side goals; then induction on
  the loop fuel, then the policy wrapper.  `Exception` exits carry their own invariant (`MidX`, `CallX`):
  only `Exception`s are ever caught by the library, so every exceptional postcondition is conditional on
  `e.isException`.  The loop's specs are generic in `β : Brk`, the breaker part of the monitor state, which
  the loop never touches; the theorems use them at `β = quiet`.
-/
import Redress.Lemmas.PolicyFrame
import Redress.Lemmas.MonitorFacts
import Redress.Monitors

open Std.Do

namespace Redress.Props.C14
open Redress Redress.Retry Redress.Mon Redress.Mon.C14

def cur (cfg : Cfg) (tr : List (Req × Ans)) : St := tr.foldr (fun x s => step cfg s x) {}

@[simp] theorem cur_cons (cfg : Cfg) (x : Req × Ans) (t : List (Req × Ans)) :
    cur cfg (x :: t) = step cfg (cur cfg t) x := rfl

theorem run_reverse (cfg : Cfg) (t : List (Req × Ans)) : run cfg t.reverse = cur cfg t := by
  simp [run, cur, List.foldl_reverse]

def raisedExn : Ans → Option Exn
  | .raise e _ => some e
  | _ => none

def raisedOf (p : Req → Bool) (tr : List (Req × Ans)) : List Exn :=
  tr.filterMap fun x => if p x.1 then raisedExn x.2 else none

theorem raisedBy_cons (p : Req → Bool) (r : Req) (a : Ans) (t : List (Req × Ans)) (e : Exn) :
    Mon.raisedBy p ((r, a) :: t) e = ((p r && (raisedExn a == some e)) || Mon.raisedBy p t e) := by
  simp only [Mon.raisedBy, List.any_cons]
  congr 2
  cases a <;> simp [raisedExn]

theorem raisedBy_iff (p : Req → Bool) (t : List (Req × Ans)) (e : Exn) :
    Mon.raisedBy p t e = true ↔ e ∈ raisedOf p t := by
  induction t with
  | nil => simp [Mon.raisedBy, raisedOf]
  | cons x t ih =>
    obtain ⟨r, a⟩ := x
    rw [raisedBy_cons, Bool.or_eq_true, ih]
    simp only [raisedOf, List.filterMap_cons]
    cases hp : p r <;> cases h : raisedExn a <;>
      simp only [Bool.false_and, Bool.true_and, Bool.false_eq_true, false_or, if_true, if_false,
        beq_iff_eq, reduceCtorEq, Option.some.injEq, List.mem_cons]
    exact ⟨fun h => h.elim (fun h => Or.inl h.symm) Or.inr, fun h => h.elim (fun h => Or.inl h.symm) Or.inr⟩

structure View where
  mon : St
  nz : List Exn                 -- raised by a request other than `op` or an observability hook
  oz : List Exn                 -- raised by the operation
  esc : Bool                    -- an attempt hook or the abort predicate raised
  rej : Bool                    -- the breaker rejected the call
  tl : List EvRec               -- the captured timeline, newest first
  stop : Option StopReason
  lastClass : Option EClass
  lastCause : Option Cause
  lastExc : Option Exn

/-- requests whose exceptions are never swallowed by the library: everything but the operation
    (whose exceptions are *handled*) and the observability hooks (whose `Exception`s are swallowed) -/
def loud : Req → Bool
  | .op _ | .metric .. | .log .. | .beforeSleep .. => false
  | _ => true

theorem isNonOp_of_loud (r : Req) (h : loud r = true) : isNonOp r = true := by
  cases r <;> simp_all [loud, isNonOp, Mon.isOp]

def isReject : Req → Ans → Bool
  | .breakerAllow, .admit false _ _ => true
  | _, _ => false

def isRaise : Ans → Bool
  | .raise .. => true
  | _ => false

def view (cfg : Cfg) (w : World) : View :=
  ⟨cur cfg w.trace, raisedOf loud w.trace, raisedOf Mon.isOp w.trace, Mon.attemptHookFault w.trace,
   Mon.rejected w.trace, w.timeline.map tlRec, w.rs.lastStop, w.rs.lastClass, w.rs.lastCause,
   w.rs.lastExc⟩

def obs (cfg : Cfg) (v : View) (r : Req) (a : Ans) : View :=
  { v with mon := step cfg v.mon (r, a),
           nz := (if loud r then (raisedExn a).toList else []) ++ v.nz,
           oz := (if Mon.isOp r then (raisedExn a).toList else []) ++ v.oz,
           esc := (Mon.isAttemptHook r && isRaise a) || v.esc,
           rej := isReject r a || v.rej }

theorem attemptHookFault_cons (r : Req) (a : Ans) (t : List (Req × Ans)) :
    Mon.attemptHookFault ((r, a) :: t) = ((Mon.isAttemptHook r && isRaise a) || Mon.attemptHookFault t) := by
  simp only [Mon.attemptHookFault, List.any_cons]
  cases a <;> simp [isRaise]

theorem rejected_cons (r : Req) (a : Ans) (t : List (Req × Ans)) :
    Mon.rejected ((r, a) :: t) = (isReject r a || Mon.rejected t) := by
  simp only [Mon.rejected, List.any_cons]
  rfl

theorem raisedOf_cons (p : Req → Bool) (r : Req) (a : Ans) (t : List (Req × Ans)) :
    raisedOf p ((r, a) :: t) = (if p r then (raisedExn a).toList else []) ++ raisedOf p t := by
  simp only [raisedOf, List.filterMap_cons]
  cases p r <;> cases h : raisedExn a <;> simp

theorem view_log2 (cfg : Cfg) (w : World) (r : Req) (a : Ans) (ans : List Ans) (now : Nat) (as : AState)
    (att oc : Nat) (bud : Budget.St) (br : Breaker.St) (xc : XCtx) :
    view cfg { w with answers := ans, now := now, trace := (r, a) :: w.trace, as := as, attempts := att,
                      opCalls := oc, budget := bud, breaker := br, xc := xc } = obs cfg (view cfg w) r a := by
  simp [view, obs, attemptHookFault_cons, rejected_cons, raisedOf_cons]

theorem view_log (cfg : Cfg) (w : World) (r : Req) (a : Ans) (ans : List Ans) (now : Nat) :
    view cfg { w with answers := ans, now := now, trace := (r, a) :: w.trace } = obs cfg (view cfg w) r a :=
  view_log2 cfg w r a ans now w.as w.attempts w.opCalls w.budget w.breaker w.xc

theorem step_raise_dur (cfg : Cfg) (s : St) (r : Req) (e : Exn) (d : Nat) :
    step cfg s (r, .raise e d) = step cfg s (r, .raise e 0) := by
  cases r <;> rfl

theorem obs_raise_dur (cfg : Cfg) (v : View) (r : Req) (e : Exn) (d : Nat) :
    obs cfg v r (.raise e d) = obs cfg v r (.raise e 0) := by
  simp [obs, step_raise_dur cfg _ r e d, raisedExn, isRaise, isReject]

theorem raisedExn_none {a : Ans} (h : ∀ e d, a ≠ .raise e d) : raisedExn a = none := by
  cases a <;> first | rfl | exact absurd rfl (h _ _)

theorem ask_spec (cfg : Cfg) (v : View) (r : Req) :
    ⦃fun w => ⌜view cfg w = v⌝⦄ ask r
    ⦃post⟨fun a w => ⌜view cfg w = obs cfg v r a ∧ raisedExn a = none⌝,
          fun e w => ⌜view cfg w = obs cfg v r (.raise e 0)⌝⟩⦄ :=
  triple_mono (ask_view (view cfg) (fun v x => obs cfg v x.1 x.2) (fun w x => view_log cfg w x.1 x.2 _ _) v r)
    (fun _ h => h) (fun _ _ h => ⟨h.2, raisedExn_none h.1⟩) (fun _ _ ⟨d, h⟩ => h.trans (obs_raise_dur cfg v r _ d))

theorem askHook_spec (cfg : Cfg) (v : View) (r : Req) :
    ⦃fun w => ⌜view cfg w = v⌝⦄ askHook r
    ⦃post⟨fun a w => ⌜view cfg w = obs cfg v r a ∧ raisedExn a = none⌝,
          fun e w => ⌜view cfg w = obs cfg v r (.raise e 0)⌝⟩⦄ :=
  askHook_triple r (ask_spec cfg v r) (fun w h => presil_cases (fun w => view cfg w = v) w (fun _ => h))

@[simp] theorem isRaise_eq (a : Ans) : isRaise a = (raisedExn a).isSome := by
  cases a <;> rfl

@[simp] theorem stuck_isException : Exn.stuck.isException = false := rfl
@[simp] theorem libAbort_isException : Exn.libAbort.isException = true := rfl
@[simp] theorem libValueError_isException : Exn.libValueError.isException = true := rfl

def View.raised (v : View) (e : Exn) (hook : Bool) : View :=
  { v with nz := e :: v.nz, esc := hook || v.esc }

abbrev leafPost (cfg : Cfg) (v : View) (hook : Bool) : PostCond α (.except Exn (.arg World .pure)) :=
  post⟨fun _ w => ⌜view cfg w = v⌝, fun e w => ⌜e.isException = true → view cfg w = v.raised e hook⌝⟩

section leaves
variable (cfg : Cfg) (v : View)

/-- requests that show in the view only when they raise: the monitor does not listen to them, and they are
    neither the operation, nor an observability hook, nor the breaker -/
def quietReq : Req → Bool
  | .abortIf | .attemptStart _ | .attemptEnd _ | .strategy .. | .stratRecordFailure .. | .stratRecordSuccess _
  | .sleepHandler .. | .sleeper .. => true
  | _ => false

theorem obs_quiet {r : Req} (h : quietReq r = true) (a : Ans) :
    obs cfg v r a =
      { v with nz := (raisedExn a).toList ++ v.nz, esc := (Mon.isAttemptHook r && isRaise a) || v.esc } := by
  cases r <;> first | rfl | cases h

theorem ask_quiet (r : Req) (h : quietReq r = true) :
    ⦃fun w => ⌜view cfg w = v⌝⦄ ask r ⦃leafPost cfg v (Mon.isAttemptHook r)⦄ := by
  have := ask_spec cfg v r
  mvcgen [this]
  · intro h1 h2; simp [h1, obs_quiet cfg v h, h2]
  · intro h1 _; simp [h1, obs_quiet cfg v h, View.raised, raisedExn]

def View.classified (v : View) (k : EClass) (c : Cause) : View :=
  { v with mon := { v.mon with klass := some k, cause := some c } }

def View.opDone (v : View) (e : Option Exn) : View :=
  { v with mon := { v.mon with opExn := e }, oz := e.toList ++ v.oz }

def push (cfg : Cfg) (tl : Bool) (x : EvRec) (v : View) : View :=
  { v with mon := { v.mon with
              ms := if cfg.metric then x :: v.mon.ms else v.mon.ms,
              ls := if cfg.log then x :: v.mon.ls else v.mon.ls,
              tagsBad := v.mon.tagsBad || ((cfg.metric || cfg.log) && !describes cfg v.mon x) },
           tl := if tl then proj x :: v.tl else v.tl }

/-- what `_build_outcome` copies from the retry state -/
structure OutcomeOf (v : View) (isOk : Bool) (o : Outcome) : Prop where
  ok : o.ok = isOk
  stop : o.stop = if isOk then none else v.stop
  lastClass : o.lastClass = if isOk then none else v.lastClass
  cause : o.cause = if isOk then none else v.lastCause
  lastExc : o.lastExc = if !isOk && v.lastCause = some .exception then v.lastExc.map Exn.ref else none

theorem callStrategy_spec (key : SKey) (kind : SKind) (ctx : BackoffCtx) :
    ⦃fun w => ⌜view cfg w = v⌝⦄ callStrategy key kind ctx ⦃leafPost cfg v false⦄ := by
  have := ask_quiet cfg v
  mvcgen [callStrategy, this]
  nofun

theorem stratRecordFailure_spec (key : SKey) (k : EClass) :
    ⦃fun w => ⌜view cfg w = v⌝⦄ stratRecordFailure cfg key k ⦃leafPost cfg v false⦄ := by
  have := ask_quiet cfg v
  mvcgen [stratRecordFailure, this]

theorem recordStrategySuccess_spec :
    ⦃fun w => ⌜view cfg w = v⌝⦄ recordStrategySuccess cfg ⦃leafPost cfg v false⦄ := by
  have := ask_quiet cfg v
  mvcgen [recordStrategySuccess, getRS, this]

theorem callSleeper_spec (sl : Nat) :
    ⦃fun w => ⌜view cfg w = v⌝⦄ callSleeper cfg sl ⦃leafPost cfg v false⦄ := by
  have := ask_quiet cfg v
  mvcgen [callSleeper, this]

theorem callSleepHandler_spec (lvl : Lvl) (ctx : BackoffCtx) (sl : Nat) :
    ⦃fun w => ⌜view cfg w = v⌝⦄ callSleepHandler lvl ctx sl ⦃leafPost cfg v false⦄ := by
  have := ask_quiet cfg v
  mvcgen [callSleepHandler, this]
  nofun

theorem callAttemptStart_spec (a : Nat) :
    ⦃fun w => ⌜view cfg w = v⌝⦄ callAttemptStart cfg a ⦃leafPost cfg v true⦄ := by
  have := ask_quiet cfg v
  mvcgen [callAttemptStart, elapsed, this]

theorem callAttemptEnd_spec (a : Nat) (cls : Option Classification) (exc : Option Exn)
    (result : Option Nat) (d : AttemptDecision) (stop : Option StopReason) (cause : Option Cause)
    (sl : Option Nat) :
    ⦃fun w => ⌜view cfg w = v⌝⦄ callAttemptEnd cfg a cls exc result d stop cause sl
    ⦃leafPost cfg v true⦄ := by
  have := ask_quiet cfg v
  mvcgen [callAttemptEnd, elapsed, this]

theorem callAttemptEndFromOutcome_spec (a : Nat) (o : AOutcome) :
    ⦃fun w => ⌜view cfg w = v⌝⦄ callAttemptEndFromOutcome cfg a o ⦃leafPost cfg v true⦄ :=
  callAttemptEnd_spec cfg v a o.classification o.exc o.result o.decision o.stop o.cause o.sleep

theorem handleAbortAttemptEnd_spec (a : Nat) (x : Exn) :
    ⦃fun w => ⌜view cfg w = v⌝⦄ handleAbortAttemptEnd cfg a x ⦃leafPost cfg v true⦄ := by
  have := callAttemptEnd_spec cfg v
  mvcgen [handleAbortAttemptEnd, getAS, modifyAS, this]

/-- `before_sleep` is an observability hook: its `Exception`s are swallowed -/
theorem callBeforeSleep_spec (ctx : BackoffCtx) (sl : Nat) :
    ⦃fun w => ⌜view cfg w = v⌝⦄ callBeforeSleep cfg ctx sl
    ⦃post⟨fun _ w => ⌜view cfg w = v⌝, fun e _ => ⌜e.isException = false⌝⟩⦄ := by
  have := askHook_spec cfg v
  mvcgen [callBeforeSleep, swallowException, this]
  next h => exact h.1
  next h _ => exact Bool.eq_false_iff.mpr h

theorem budgetConsume_spec :
    ⦃fun w => ⌜view cfg w = v⌝⦄ budgetConsume cfg ⦃leafPost cfg v false⦄ := by
  mvcgen [budgetConsume]

theorem setStop_spec (s : StopReason) :
    ⦃fun w => ⌜view cfg w = v⌝⦄ setStop s
    ⦃post⟨fun _ w => ⌜view cfg w = { v with stop := some s }⌝, fun _ _ => ⌜False⌝⟩⦄ := by
  mvcgen [setStop, modifyRS]
  next h _ => subst h; rfl

theorem callClassifier_spec (x : Exn) :
    ⦃fun w => ⌜view cfg w = v⌝⦄ callClassifier x
    ⦃post⟨fun c w => ⌜view cfg w = v.classified c.klass .exception⌝,
          fun e w => ⌜e.isException = true → view cfg w = v.raised e false⌝⟩⦄ := by
  have := ask_spec cfg v
  mvcgen [callClassifier, this]
  next h => exact h.1
  · nofun
  · exact fun h _ => h

theorem shouldClassifyResult_spec (x : Nat) :
    ⦃fun w => ⌜view cfg w = v⌝⦄ shouldClassifyResult cfg x
    ⦃post⟨fun r w => ⌜match r with
                      | none => view cfg w = v
                      | some c => view cfg w = v.classified c.klass .result⌝,
          fun e w => ⌜e.isException = true → view cfg w = v.raised e false⌝⟩⦄ := by
  have := ask_spec cfg v
  mvcgen [shouldClassifyResult, this]
  next h => exact h.1
  next h => exact h.1
  · nofun
  · exact fun h _ => h

theorem invokeOp_spec (a : Nat) :
    ⦃fun w => ⌜view cfg w = v⌝⦄ invokeOp a
    ⦃post⟨fun _ w => ⌜view cfg w = v.opDone none⌝,
          fun e w => ⌜e.isException = true → view cfg w = v.opDone (some e)⌝⟩⦄ := by
  have := ask_spec cfg v
  mvcgen [invokeOp, this]
  next h => exact h.1
  · nofun
  · exact fun h _ => h

theorem buildOutcome_spec (ok : Bool) (value : Option Nat) (n : Nat) (ns : Option Nat) :
    ⦃fun w => ⌜view cfg w = v⌝⦄ buildOutcome ok value n ns
    ⦃post⟨fun o w => ⌜view cfg w = v ∧ OutcomeOf v ok o⌝, fun _ _ => ⌜False⌝⟩⦄ := by
  mvcgen [buildOutcome, getRS, elapsed]
  next h => subst h; exact ⟨rfl, rfl, rfl, rfl, rfl, rfl⟩

theorem recordTimeline_spec (ev : Event) (a sl : Nat) (tags : Tags) :
    ⦃fun w => ⌜view cfg w = v⌝⦄ recordTimeline ev a sl tags
    ⦃post⟨fun _ w => ⌜view cfg w = { v with tl := proj (ev, a, sl, tags) :: v.tl }⌝, fun _ _ => ⌜False⌝⟩⦄ := by
  mvcgen [recordTimeline]
  next h _ => subst h; rfl

theorem askMetric_spec (ev : Event) (a sl : Nat) (tags : Tags) :
    ⦃fun w => ⌜view cfg w = v⌝⦄ askMetric ev a sl tags
    ⦃post⟨fun _ w => ⌜view cfg w = { v with mon := onMetric cfg v.mon ev a sl tags }⌝,
          fun _ w => ⌜view cfg w = { v with mon := onMetric cfg v.mon ev a sl tags }⌝⟩⦄ := by
  have := askHook_spec cfg v
  mvcgen [askMetric, this]
  next h => exact h.1

theorem askLog_spec (ev : Event) (a sl : Nat) (tags : Tags) (ra : Option Int) :
    ⦃fun w => ⌜view cfg w = v⌝⦄ askLog ev a sl tags ra
    ⦃post⟨fun _ w => ⌜view cfg w = { v with mon := onLog cfg v.mon ev a sl tags }⌝,
          fun _ w => ⌜view cfg w = { v with mon := onLog cfg v.mon ev a sl tags }⌝⟩⦄ := by
  have := askHook_spec cfg v
  mvcgen [askLog, this]
  next h => exact h.1

/-- the tag dictionary `emit` builds -/
def tagsOf (cfg : Cfg) (klass : Option EClass) (exc : Option Exn) (stop : Option StopReason)
    (cause : Option Cause) : Tags :=
  { klass, err := exc.map Exn.typeName, stop, cause, operation := cfg.opTag }

theorem metricHook_spec (tl : Bool) (ev : Event) (a sl : Nat) (tags : Tags) :
    ⦃fun w => ⌜view cfg w = v⌝⦄ metricHook cfg tl ev a sl tags
    ⦃post⟨fun _ w => ⌜view cfg w = { v with
              mon := if cfg.metric then onMetric cfg v.mon ev a sl tags else v.mon,
              tl := if tl then proj (ev, a, sl, tags) :: v.tl else v.tl }⌝,
          fun _ w => ⌜view cfg w = { v with
              mon := if cfg.metric then onMetric cfg v.mon ev a sl tags else v.mon,
              tl := if tl then proj (ev, a, sl, tags) :: v.tl else v.tl }⌝⟩⦄ := by
  have h1 := askMetric_spec cfg
  have h2 := recordTimeline_spec cfg v
  mvcgen [metricHook, h1, h2]
  all_goals (clear h1 h2; intros; simp_all only [if_true, if_false, Bool.false_eq_true, Bool.not_eq_true])

theorem push_eq (tl : Bool) (ev : Event) (a sl : Nat) (tags : Tags) (hb : isBreakerEvent ev = false) :
    push cfg tl (ev, a, sl, tags) v =
      { v with mon := (if cfg.log then
                  onLog cfg (if cfg.metric then onMetric cfg v.mon ev a sl tags else v.mon) ev a sl tags
                else (if cfg.metric then onMetric cfg v.mon ev a sl tags else v.mon)),
               tl := if tl then proj (ev, a, sl, tags) :: v.tl else v.tl } := by
  cases hm : cfg.metric <;> cases hl : cfg.log <;>
    simp [push, onMetric, onLog, hb, describes, expErr, hm, hl]

theorem emit_spec (tl : Bool) (ev : Event) (a sl : Nat) (klass : Option EClass) (exc : Option Exn)
    (stop : Option StopReason) (cause : Option Cause) (cls : Option Classification)
    (hb : isBreakerEvent ev = false) :
    ⦃fun w => ⌜view cfg w = v⌝⦄ emit cfg tl ev a sl klass exc stop cause cls
    ⦃post⟨fun _ w => ⌜view cfg w = push cfg tl (ev, a, sl, tagsOf cfg klass exc stop cause) v⌝,
          fun e _ => ⌜e.isException = false⌝⟩⦄ := by
  have h1 := fun tags => swallowed_spec (metricHook_spec cfg v tl ev a sl tags)
  have h2 := fun v tags ra => swallowed_spec (askLog_spec cfg v ev a sl tags ra)
  -- `emit`, with its two `try` blocks named, so that each is entered once
  show ⦃_⦄ (do
    swallowed (metricHook cfg tl ev a sl (tagsOf cfg klass exc stop cause))
    if cfg.log then
      swallowed (askLog ev a sl (tagsOf cfg klass exc stop cause)
        (if ev = Event.retry then cls.bind (·.retryAfter) else none))
    else pure ()) ⦃_⦄
  mvcgen [h1, h2]
  all_goals (clear h1 h2; intros)
  all_goals simp_all only [push_eq cfg _ tl ev a sl _ hb, if_true, if_false, Bool.not_eq_true, Bool.false_eq_true]

end leaves



def Retries : Nat → List EvRec → Prop
  | 0, G => G = []
  | n + 1, G => ∃ x R, G = x :: R ∧ x.1 = .retry ∧ x.2.1 = n + 1 ∧ Retries n R

structure Agree (cfg : Cfg) (tl : Bool) (G : List EvRec) (v : View) : Prop where
  ms : v.mon.ms = if cfg.metric then G else []
  ls : v.mon.ls = if cfg.log then G else []
  tl : tl = true → v.tl = G.map proj

def brkOf (s : St) : Option BrkExp × Option BrkExp × Bool := (s.bm, s.bl, s.brkBad)

abbrev Brk := Option BrkExp × Option BrkExp × Bool

structure Base (β : Brk) (v : View) : Prop where
  tags : v.mon.tagsBad = false
  brk : brkOf v.mon = β
  rej : v.rej = false
  exc : ∀ e, v.lastExc = some e → v.lastCause = some .exception ∧ e.isAbort = false ∧ e.isExhausted = false

structure Sync (v : View) : Prop where
  klass : v.mon.klass = v.lastClass
  cause : v.mon.cause = v.lastCause
  err : expErr v.mon = v.lastExc.map Exn.typeName

/-- no terminal event yet; `n` retry events so far.  (All state predicates hold vacuously once an
    attempt hook has raised: the monitor is then skipped.) -/
def Running (cfg : Cfg) (tl : Bool) (β : Brk) (n : Nat) (v : View) : Prop :=
  v.esc = true ∨ (Base β v ∧ v.stop = none ∧ ∃ G, Retries n G ∧ Agree cfg tl G v)

def RunAny (cfg : Cfg) (tl : Bool) (β : Brk) (v : View) : Prop := ∃ n, Running cfg tl β n v

inductive TKind | success | failure | aborted
deriving DecidableEq

def TermRel (k : TKind) (t : EvRec) (v : View) : Prop :=
  t.2.2.2.stop = v.stop ∧
  match k with
  | .success => t.1 = .success ∧ v.stop = none
  | .aborted => t.1 ≠ .success ∧ v.stop = some .aborted
  | .failure => t.1 ≠ .success ∧ v.stop.isSome = true ∧ t.2.2.2.klass = v.lastClass
                ∧ t.2.2.2.cause = v.lastCause ∧ t.2.2.2.err = v.lastExc.map Exn.typeName

def Done (cfg : Cfg) (tl : Bool) (β : Brk) (k : TKind) (v : View) : Prop :=
  v.esc = true ∨ (Base β v ∧ ∃ t n G, t.1 ≠ .retry ∧ Retries n G ∧ Agree cfg tl (t :: G) v ∧ TermRel k t v)

def Final (cfg : Cfg) (tl : Bool) (β : Brk) (r : Res) (v : View) : Prop :=
  v.esc = true ∨ (v.mon.tagsBad = false ∧ brkOf v.mon = β ∧ v.rej = false ∧
    ∃ t n G, t.1 ≠ .retry ∧ Retries n G ∧ Agree cfg tl (t :: G) v ∧ terminalOk true t r = true)

/-- exceptions that are never a normal end of `call()` -/
def badKind : Exn → Bool
  | .libAbort | .libExhausted _ | .libCircuitOpen _ | .ordinary .. | .abort _ | .circuitOpen _ => false
  | _ => true

/-- the run ends with `e` and the monitor's guard is false -/
def Excused (e : Exn) (v : View) : Prop :=
  v.esc = true ∨ e ∈ v.nz ∨ badKind e = true ∨ (e.isExhausted = true ∧ e ∈ v.oz)

def MidX (cfg : Cfg) (tl : Bool) (β : Brk) (e : Exn) (v : View) : Prop :=
  v.esc = true ∨ (RunAny cfg tl β v ∧ (e ∈ v.nz ∨ badKind e = true)) ∨ (e = .libAbort ∧ Done cfg tl β .aborted v)

/-- how `check_abort` raises an `Exception`: the predicate itself raised, or the run was aborted -/
def AbX (cfg : Cfg) (tl : Bool) (β : Brk) (e : Exn) (v : View) : Prop :=
  v.esc = true ∨ (e = .libAbort ∧ Done cfg tl β .aborted v)

theorem MidX.of_ab {cfg : Cfg} {tl : Bool} {β : Brk} {e : Exn} {v : View} (h : AbX cfg tl β e v) : MidX cfg tl β e v :=
  h.elim Or.inl (fun h => Or.inr (Or.inr h))

section automaton
variable {cfg : Cfg} {tl : Bool} {β : Brk}

@[simp] theorem push_esc (x : EvRec) (v : View) : (push cfg tl x v).esc = v.esc := rfl
@[simp] theorem push_stop (x : EvRec) (v : View) : (push cfg tl x v).stop = v.stop := rfl
@[simp] theorem push_lastClass (x : EvRec) (v : View) : (push cfg tl x v).lastClass = v.lastClass := rfl
@[simp] theorem push_lastCause (x : EvRec) (v : View) : (push cfg tl x v).lastCause = v.lastCause := rfl
@[simp] theorem push_lastExc (x : EvRec) (v : View) : (push cfg tl x v).lastExc = v.lastExc := rfl
@[simp] theorem push_nz (x : EvRec) (v : View) : (push cfg tl x v).nz = v.nz := rfl
@[simp] theorem push_oz (x : EvRec) (v : View) : (push cfg tl x v).oz = v.oz := rfl

theorem Base.push {v : View} (b : Base β v) (x : EvRec) (hd : describes cfg v.mon x = true) :
    Base β (push cfg tl x v) :=
  ⟨by simp [C14.push, b.tags, hd], by simpa [C14.push, brkOf] using b.brk, b.rej, b.exc⟩

theorem Agree.push {G : List EvRec} {v : View} (a : Agree cfg tl G v) (x : EvRec) :
    Agree cfg tl (x :: G) (push cfg tl x v) := by
  refine ⟨?_, ?_, ?_⟩
  · simp only [C14.push, a.ms]; split <;> rfl
  · simp only [C14.push, a.ls]; split <;> rfl
  · intro h; simp [C14.push, h, a.tl h]

theorem Running.retry {n : Nat} {v : View} (h : Running cfg tl β n v) (t : EvRec) (hr : t.1 = .retry)
    (ha : t.2.1 = n + 1) (hd : describes cfg v.mon t = true) :
    Running cfg tl β (n + 1) (push cfg tl t v) := by
  exact h.imp_right fun ⟨b, hs, G, hG, ag⟩ => ⟨b.push t hd, hs, t :: G, ⟨t, G, rfl, hr, ha, hG⟩, ag.push t⟩

theorem Running.terminal {n : Nat} {v : View} (h : Running cfg tl β n v) (t : EvRec)
    (s' : Option StopReason) (k : TKind) (hr : t.1 ≠ .retry) (hd : describes cfg v.mon t = true)
    (ht : TermRel k t { v with stop := s' }) :
    Done cfg tl β k (push cfg tl t { v with stop := s' }) := by
  rcases h with h | ⟨b, _, G, hG, ag⟩
  · exact Or.inl h
  · have b' : Base β { v with stop := s' } := ⟨b.tags, b.brk, b.rej, b.exc⟩
    have ag' : Agree cfg tl G { v with stop := s' } := ⟨ag.ms, ag.ls, ag.tl⟩
    exact Or.inr ⟨b'.push t hd, t, n, G, hr, hG, ag'.push t, ht⟩


structure Same (v v' : View) : Prop where
  ms : v'.mon.ms = v.mon.ms
  ls : v'.mon.ls = v.mon.ls
  tags : v'.mon.tagsBad = v.mon.tagsBad
  brk : brkOf v'.mon = brkOf v.mon
  tl : v'.tl = v.tl
  stop : v'.stop = v.stop
  lastClass : v'.lastClass = v.lastClass
  lastCause : v'.lastCause = v.lastCause
  lastExc : v'.lastExc = v.lastExc
  esc : v'.esc = v.esc
  rej : v'.rej = v.rej

theorem Same.symm {v v' : View} (h : Same v v') : Same v' v :=
  ⟨h.ms.symm, h.ls.symm, h.tags.symm, h.brk.symm, h.tl.symm, h.stop.symm, h.lastClass.symm,
   h.lastCause.symm, h.lastExc.symm, h.esc.symm, h.rej.symm⟩

theorem Base.same {v v' : View} (h : Same v v') (b : Base β v) : Base β v' :=
  ⟨h.tags ▸ b.tags, h.brk ▸ b.brk, h.rej ▸ b.rej, by rw [h.lastExc, h.lastCause]; exact b.exc⟩

theorem Agree.same {G : List EvRec} {v v' : View} (h : Same v v') (a : Agree cfg tl G v) : Agree cfg tl G v' :=
  ⟨h.ms ▸ a.ms, h.ls ▸ a.ls, by rw [h.tl]; exact a.tl⟩

theorem TermRel.same {k : TKind} {t : EvRec} {v v' : View} (h : Same v v') (a : TermRel k t v) : TermRel k t v' := by
  unfold TermRel at *
  rw [h.stop, h.lastClass, h.lastCause, h.lastExc]
  exact a

theorem Running.same {n : Nat} {v v' : View} (h : Same v v') (r : Running cfg tl β n v) : Running cfg tl β n v' := by
  rcases r with r | ⟨b, hs, G, hG, ag⟩
  · exact Or.inl (h.esc ▸ r)
  · exact Or.inr ⟨b.same h, h.stop ▸ hs, G, hG, ag.same h⟩

theorem Done.same {k : TKind} {v v' : View} (h : Same v v') (r : Done cfg tl β k v) : Done cfg tl β k v' := by
  rcases r with r | ⟨b, t, n, G, hr, hG, ag, ht⟩
  · exact Or.inl (h.esc ▸ r)
  · exact Or.inr ⟨b.same h, t, n, G, hr, hG, ag.same h, ht.same h⟩

theorem Final.same {r : Res} {v v' : View} (h : Same v v') (f : Final cfg tl β r v) : Final cfg tl β r v' := by
  rcases f with f | ⟨h1, h2, h3, t, n, G, hr, hG, ag, ht⟩
  · exact Or.inl (h.esc ▸ f)
  · exact Or.inr ⟨h.tags ▸ h1, h.brk ▸ h2, h.rej ▸ h3, t, n, G, hr, hG, ag.same h, ht⟩

theorem same_raised (v : View) (e : Exn) : Same v (v.raised e false) := by
  constructor <;> simp [View.raised]
theorem same_classified (v : View) (k : EClass) (c : Cause) : Same v (v.classified k c) := by
  constructor <;> simp [View.classified, brkOf]
theorem same_opDone (v : View) (e : Option Exn) : Same v (v.opDone e) := by
  constructor <;> simp [View.opDone, brkOf]

@[simp] theorem Running_raised {n : Nat} {v : View} {e : Exn} :
    Running cfg tl β n (v.raised e false) ↔ Running cfg tl β n v :=
  ⟨Running.same (same_raised v e).symm, Running.same (same_raised v e)⟩
@[simp] theorem Running_classified {n : Nat} {v : View} {k : EClass} {c : Cause} :
    Running cfg tl β n (v.classified k c) ↔ Running cfg tl β n v :=
  ⟨Running.same (same_classified v k c).symm, Running.same (same_classified v k c)⟩
@[simp] theorem Running_opDone {n : Nat} {v : View} {e : Option Exn} :
    Running cfg tl β n (v.opDone e) ↔ Running cfg tl β n v :=
  ⟨Running.same (same_opDone v e).symm, Running.same (same_opDone v e)⟩
@[simp] theorem Done_raised {k : TKind} {v : View} {e : Exn} :
    Done cfg tl β k (v.raised e false) ↔ Done cfg tl β k v :=
  ⟨Done.same (same_raised v e).symm, Done.same (same_raised v e)⟩
@[simp] theorem Done_classified {k : TKind} {v : View} {k' : EClass} {c : Cause} :
    Done cfg tl β k (v.classified k' c) ↔ Done cfg tl β k v :=
  ⟨Done.same (same_classified v k' c).symm, Done.same (same_classified v k' c)⟩
@[simp] theorem Final_raised {r : Res} {v : View} {e : Exn} :
    Final cfg tl β r (v.raised e false) ↔ Final cfg tl β r v :=
  ⟨Final.same (same_raised v e).symm, Final.same (same_raised v e)⟩
@[simp] theorem Final_classified {r : Res} {v : View} {k' : EClass} {c : Cause} :
    Final cfg tl β r (v.classified k' c) ↔ Final cfg tl β r v :=
  ⟨Final.same (same_classified v k' c).symm, Final.same (same_classified v k' c)⟩

@[simp] theorem raised_hook_esc (v : View) (e : Exn) : (v.raised e true).esc = true := rfl
@[simp] theorem raised_esc (v : View) (e : Exn) : (v.raised e false).esc = v.esc := by simp [View.raised]

theorem Running.of_esc {n : Nat} {v : View} (h : v.esc = true) : Running cfg tl β n v := Or.inl h
theorem Done.of_esc {k : TKind} {v : View} (h : v.esc = true) : Done cfg tl β k v := Or.inl h
theorem Final.of_esc {r : Res} {v : View} (h : v.esc = true) : Final cfg tl β r v := Or.inl h
theorem MidX.of_esc {e : Exn} {v : View} (h : v.esc = true) : MidX cfg tl β e v := Or.inl h
theorem Excused.of_esc {e : Exn} {v : View} (h : v.esc = true) : Excused e v := Or.inl h

@[simp] theorem Final_hook {r : Res} {v : View} {e : Exn} : Final cfg tl β r (v.raised e true) := Or.inl rfl
@[simp] theorem MidX_hook {x : Exn} {v : View} {e : Exn} : MidX cfg tl β x (v.raised e true) := Or.inl rfl
@[simp] theorem AbX_hook {x : Exn} {v : View} {e : Exn} : AbX cfg tl β x (v.raised e true) := Or.inl rfl
@[simp] theorem Excused_hook {x : Exn} {v : View} {e : Exn} : Excused x (v.raised e true) := Or.inl rfl

theorem MidX.raised {n : Nat} {v : View} {e : Exn} (h : Running cfg tl β n v) :
    MidX cfg tl β e (v.raised e false) :=
  Or.inr (Or.inl ⟨⟨n, Running_raised.mpr h⟩, Or.inl (by simp [View.raised])⟩)

theorem MidX.of_raised {n : Nat} {v v' : View} {e : Exn} (hr : Running cfg tl β n v)
    (h : e.isException = true → v' = v.raised e false) (hx : e.isException = true) : MidX cfg tl β e v' :=
  h hx ▸ MidX.raised hr

theorem MidX.of_abx {v : View} {e : Exn} (h : e.isException = true → AbX cfg tl β e v)
    (hx : e.isException = true) : MidX cfg tl β e v := .of_ab (h hx)


def abortedEv (cfg : Cfg) (a : Nat) : EvRec := (.aborted, a, 0, tagsOf cfg none none (some .aborted) none)

theorem Running.aborted {n : Nat} {v : View} (h : Running cfg tl β n v) (a : Nat) :
    Done cfg tl β .aborted (push cfg tl (abortedEv cfg a) { v with stop := some .aborted }) :=
  h.terminal _ _ _ (by simp [abortedEv]) (by simp [abortedEv, describes, tagsOf])
    (by simp [abortedEv, TermRel, tagsOf])

theorem Done.aborted_stop {v : View} (h : Done cfg tl β .aborted v) : v.esc = true ∨ v.stop = some .aborted := by
  exact h.imp_right fun ⟨_, t, n, G, _, _, _, ht⟩ => ht.2.2

theorem Running.stop_none {n : Nat} {v : View} (h : Running cfg tl β n v) : v.esc = true ∨ v.stop = none := by
  exact h.imp_right fun ⟨_, hs, _⟩ => hs

/-- `if last_stop_reason is not ABORTED: set + emit aborted`, on the view -/
theorem abortedOnce {v : View} (h : RunAny cfg tl β v ∨ Done cfg tl β .aborted v) (a : Nat) :
    (v.stop = some .aborted → Done cfg tl β .aborted v) ∧
    (v.stop ≠ some .aborted →
      Done cfg tl β .aborted (push cfg tl (abortedEv cfg a) { v with stop := some .aborted })) := by
  constructor
  · intro hs
    rcases h with ⟨n, h⟩ | h
    · rcases h.stop_none with h' | h'
      · exact Or.inl h'
      · simp [hs] at h'
    · exact h
  · intro hs
    rcases h with ⟨n, h⟩ | h
    · exact h.aborted a
    · rcases h.aborted_stop with h' | h'
      · exact Or.inl h'
      · exact absurd h' hs

def Failed (cause : Cause) (exc : Option Exn) (v : View) : Prop :=
  v.esc = true ∨ (Sync v ∧ v.lastCause = some cause ∧ v.lastExc = exc)

@[simp] def failEv (ev : Event) : Bool :=
  ev != .success && ev != .aborted && ev != .retry && !isBreakerEvent ev

theorem failEv_not_breaker {ev : Event} (h : failEv ev = true) : isBreakerEvent ev = false := by
  simp_all [failEv]

theorem describes_fail (s : St) (ev : Event) (a sl : Nat) (k : Option EClass) (exc : Option Exn) (st : StopReason)
    (cause : Option Cause) (hev : failEv ev = true)
    (hk : s.klass = k) (hc : s.cause = cause) (he : expErr s = exc.map Exn.typeName) :
    describes cfg s (ev, a, sl, tagsOf cfg k exc (some st) cause) = true := by
  cases ev <;> simp_all [describes, tagsOf, failEv, isBreakerEvent]

theorem describes_retry (s : St) (a sl : Nat) (k : Option EClass) (exc : Option Exn)
    (cause : Option Cause) (hk : s.klass = k) (hc : s.cause = cause) (he : expErr s = exc.map Exn.typeName) :
    describes cfg s (.retry, a, sl, tagsOf cfg k exc none cause) = true := by
  simp_all [describes, tagsOf]

theorem Failed.push {cause : Cause} {exc : Option Exn} {v : View} (h : Failed cause exc v)
    (x : EvRec) (s' : Option StopReason) : Failed cause exc (C14.push cfg tl x { v with stop := s' }) := by
  exact h.imp_right fun ⟨sy, h2, h3⟩ => ⟨⟨sy.klass, sy.cause, sy.err⟩, h2, h3⟩

def SyncE (v : View) : Prop := v.esc = true ∨ Sync v

theorem Failed.syncE {cause : Cause} {exc : Option Exn} {v : View} (h : Failed cause exc v) :
    SyncE v := h.elim Or.inl (fun h => Or.inr h.1)

theorem Running.failSync {n : Nat} {v : View} (h : Running cfg tl β n v) (hs : SyncE v) (ev : Event)
    (a sl : Nat) (st : StopReason) (hev : failEv ev = true) :
    Done cfg tl β .failure
      (push cfg tl (ev, a, sl, tagsOf cfg v.lastClass v.lastExc (some st) v.lastCause) { v with stop := some st }) := by
  rcases hs with hs | sy
  · exact Or.inl hs
  · have h1 : ev ≠ .success := by rintro rfl; cases hev
    exact h.terminal _ _ _ (by rintro rfl; cases hev)
      (describes_fail _ _ _ _ _ _ _ _ hev sy.klass sy.cause sy.err) (by simp [TermRel, tagsOf, h1])

theorem Running.fail {n : Nat} {v : View} {k : EClass} {cause : Cause} {exc : Option Exn}
    (h : Running cfg tl β n v) (hf : Failed cause exc v) (hk : v.esc = true ∨ v.lastClass = some k)
    (ev : Event) (a sl : Nat) (st : StopReason) (hev : failEv ev = true) :
    Done cfg tl β .failure
      (push cfg tl (ev, a, sl, tagsOf cfg (some k) exc (some st) (some cause)) { v with stop := some st }) := by
  rcases hk with hk | hk
  · exact Or.inl hk
  rcases hf with hf | ⟨sy, hc, he⟩
  · exact Or.inl hf
  · rw [← hk, ← hc, ← he]
    exact h.failSync (Or.inr sy) ev a sl st hev

theorem Running.retryEv {n : Nat} {v : View} {k : EClass} {cause : Cause} {exc : Option Exn}
    (h : Running cfg tl β n v) (hf : Failed cause exc v) (hk : v.esc = true ∨ v.lastClass = some k) (sl : Nat) :
    Running cfg tl β (n + 1)
      (push cfg tl (.retry, n + 1, sl, tagsOf cfg (some k) exc none (some cause)) v) := by
  rcases hk with hk | hk
  · exact Or.inl hk
  rcases hf with hf | ⟨sy, hc, he⟩
  · exact Or.inl hf
  · refine h.retry _ rfl rfl (describes_retry _ _ _ _ _ _ ?_ ?_ ?_)
    · rw [sy.klass, hk]
    · rw [sy.cause, hc]
    · rw [sy.err, he]

def Heard (k : EClass) (cause : Cause) (exc : Option Exn) (v : View) : Prop :=
  v.esc = true ∨ (v.mon.klass = some k ∧ v.mon.cause = some cause ∧ expErr v.mon = exc.map Exn.typeName)

/-- the view after `record_failure` -/
def View.recorded (v : View) (k : EClass) (cause : Cause) (exc : Option Exn) : View :=
  { v with lastClass := some k, lastCause := some cause, lastExc := if cause = .exception then exc else none }

theorem Running.recorded {n : Nat} {v : View} (h : Running cfg tl β n v) (k : EClass) (cause : Cause)
    (exc : Option Exn) (he : ∀ e, exc = some e → e.isAbort = false ∧ e.isExhausted = false) :
    Running cfg tl β n (v.recorded k cause exc) := by
  rcases h with h | ⟨b, hs, G, hG, ag⟩
  · exact Or.inl h
  · refine Or.inr ⟨⟨b.tags, b.brk, b.rej, ?_⟩, hs, G, hG, ⟨ag.ms, ag.ls, ag.tl⟩⟩
    intro e hx
    simp only [View.recorded] at hx ⊢
    split at hx
    · rename_i hc; exact ⟨by rw [hc], he e hx⟩
    · cases hx

theorem Failed.of_heard {v : View} {k : EClass} {cause : Cause} {exc : Option Exn} (h : Heard k cause exc v)
    (hr : cause = .result → exc = none) : Failed cause exc (v.recorded k cause exc) := by
  rcases h with h | ⟨h1, h2, h3⟩
  · exact Or.inl h
  · refine Or.inr ⟨⟨h1, h2, ?_⟩, rfl, ?_⟩
    · cases cause <;> simp_all [View.recorded]
    · cases cause <;> simp_all [View.recorded]

theorem Heard.classified {v : View} (e : Exn) (k : EClass) (h : v.esc = true ∨ v.mon.opExn = some e) :
    Heard k .exception (some e) (v.classified k .exception) := by
  rcases h with h | h
  · exact Or.inl h
  · exact Or.inr ⟨rfl, rfl, by simp [expErr, View.classified, h]⟩

theorem Heard.classifiedResult {v : View} (k : EClass) : Heard k .result none (v.classified k .result) :=
  Or.inr ⟨rfl, rfl, by simp [expErr, View.classified]⟩

theorem Running.failParam {n : Nat} {v : View} {cause : Cause} {exc : Option Exn}
    (h : Running cfg tl β n v) (hf : Failed cause exc v) (ev : Event)
    (a sl : Nat) (st : StopReason) (hev : failEv ev = true) :
    Done cfg tl β .failure
      (push cfg tl (ev, a, sl, tagsOf cfg v.lastClass exc (some st) (some cause)) { v with stop := some st }) := by
  rcases hf with hf | ⟨sy, hc, he⟩
  · exact Or.inl hf
  · rw [← hc, ← he]
    exact h.failSync (Or.inr sy) ev a sl st hev


theorem Running.success {n : Nat} {v : View} (h : Running cfg tl β n v) (a : Nat) :
    Done cfg tl β .success (push cfg tl (.success, a, 0, tagsOf cfg none none none none) v) := by
  exact h.imp_right fun ⟨b, hs, G, hG, ag⟩ => ⟨b.push _ (by simp [describes, tagsOf]), _, n, G, by simp, hG, ag.push _,
      by simp [TermRel, tagsOf, hs]⟩

theorem Done.final {k : TKind} {v : View} {r : Res} (h : Done cfg tl β k v)
    (hr : ∀ t : EvRec, Base β v → TermRel k t v → terminalOk true t r = true) : Final cfg tl β r v := by
  exact h.imp_right fun ⟨b, t, n, G, hne, hG, ag, ht⟩ => ⟨b.tags, b.brk, b.rej, t, n, G, hne, hG, ag, hr t b ht⟩

theorem Done.final_ret {v : View} (h : Done cfg tl β .success v) (x : Nat) : Final cfg tl β (.ret x) v :=
  h.final (fun t _ ht => by simp_all [TermRel, terminalOk])

theorem Done.final_ok {v : View} {o : Outcome} (h : Done cfg tl β .success v) (ho : OutcomeOf v true o)
    (tl' : List TimelineEv) : Final cfg tl β (.outcome o tl') v :=
  h.final (fun t _ ht => by simp_all [TermRel, terminalOk, ho.ok])

theorem Done.final_fail {v : View} {o : Outcome} (h : Done cfg tl β .failure v) (ho : OutcomeOf v false o)
    (tl' : List TimelineEv) : Final cfg tl β (.outcome o tl') v :=
  h.final (fun t b ht => by
    obtain ⟨h1, h2, h3, h4, h5, h6⟩ := ht
    have hx := b.exc
    simp only [terminalOk, ho.ok, ho.stop, ho.lastClass, ho.cause, ho.lastExc]
    cases hl : v.lastExc with
    | none => simp_all
    | some e => have := (hx e hl).1; simp_all)

theorem Done.final_aborted {v : View} {o : Outcome} (h : Done cfg tl β .aborted v) (ho : OutcomeOf v false o)
    (tl' : List TimelineEv) : Final cfg tl β (.outcome o tl') v :=
  h.final (fun t _ ht => by
    obtain ⟨h1, h2, h3⟩ := ht
    simp_all [terminalOk, ho.ok, ho.stop])

theorem Done.final_abort {v : View} {e : Exn} (h : Done cfg tl β .aborted v) (he : e.isAbort = true) :
    Final cfg tl β (.raised e) v :=
  h.final (fun t _ ht => by
    obtain ⟨h1, h2, h3⟩ := ht
    -- `terminalOk` asks only for the stop reason `aborted` when an AbortRetryError is delivered (two constructors)
    cases e <;> simp_all [terminalOk, Exn.isAbort])

/-- `call()` re-raises the operation's last exception: the terminal event names it -/
theorem Done.final_reraise {v : View} {e : Exn} (h : Done cfg tl β .failure v) (hl : v.lastExc = some e) :
    Final cfg tl β (.raised e) v :=
  h.final (fun t b ht => by
    obtain ⟨h1, h2, h3, -, -, h6⟩ := ht
    obtain ⟨-, ha, hx⟩ := b.exc e hl
    have hs : t.2.2.2.stop.isSome = true := by rw [h1]; exact h3
    have herr : t.2.2.2.err = some e.typeName := by rw [h6, hl]; rfl
    clear h h1 h3 h6 hl b
    -- `e` is on record, hence neither an abort (`ha`) nor a RetryExhaustedError (`hx`); for every other kind
    -- `terminalOk` asks for a failure event with a stop reason and `err` naming `e`
    cases e <;> first
      | (simp [terminalOk, h2, hs, herr]; done)
      | (simp [Exn.isAbort] at ha; done)
      | (simp [Exn.isExhausted] at hx; done))

theorem Done.final_raise {v : View} {e : Exn} (h : Done cfg tl β .failure v)
    (hf : Failed .exception (some e) v) : Final cfg tl β (.raised e) v :=
  hf.elim Or.inl fun hf => h.final_reraise hf.2.2

theorem Done.final_exhausted {v : View} {f : ExhaustedFields} (h : Done cfg tl β .failure v)
    (hs : v.stop = some f.stop) (hc : f.lastClass = v.lastClass) (he : f.lastExc.isSome = v.lastExc.isSome) :
    Final cfg tl β (.raised (.libExhausted f)) v :=
  h.final (fun t _ ht => by
    obtain ⟨h1, h2, h3, h4, h5, h6⟩ := ht
    simp_all [terminalOk])

theorem Done.final_exhausted_result {v : View} {f : ExhaustedFields} (h : Done cfg tl β .failure v)
    (hs : v.stop = some f.stop) (hc : f.lastClass = v.lastClass) (he : f.lastExc = none)
    (hr : v.lastCause = some .result) : Final cfg tl β (.raised (.libExhausted f)) v :=
  h.final (fun t b ht => by
    obtain ⟨h1, h2, h3, h4, h5, h6⟩ := ht
    have : v.lastExc = none := by
      cases hl : v.lastExc with
      | none => rfl
      | some e => have := (b.exc e hl).1; simp_all
    simp_all [terminalOk])

end automaton

section specs
variable (cfg : Cfg) (tl : Bool) (β : Brk)

theorem view_set_rs (w : World) (r : RState) :
    view cfg { w with rs := r } =
      ⟨(view cfg w).mon, (view cfg w).nz, (view cfg w).oz, (view cfg w).esc, (view cfg w).rej, (view cfg w).tl,
       r.lastStop, r.lastClass, r.lastCause, r.lastExc⟩ := rfl
@[simp] theorem view_rs_prevSleep (w : World) (x : Option Nat) :
    view cfg { w with rs := { w.rs with prevSleep := x } } = view cfg w := rfl
@[simp] theorem view_rs_unknown (w : World) (x : Nat) :
    view cfg { w with rs := { w.rs with unknownAttempts := x } } = view cfg w := rfl
@[simp] theorem view_rs_counts (w : World) (x : EClass → Nat) :
    view cfg { w with rs := { w.rs with perClassCounts := x } } = view cfg w := rfl
@[simp] theorem view_rs_lastStrategy (w : World) (x : Option SKey) :
    view cfg { w with rs := { w.rs with lastStrategy := x } } = view cfg w := rfl
@[simp] theorem view_set_as (w : World) (a : AState) : view cfg { w with as := a } = view cfg w := rfl
@[simp] theorem view_set_attempts (w : World) (a : Nat) : view cfg { w with attempts := a } = view cfg w := rfl

theorem no_exception {e : Exn} {p : Prop} (h : e.isException = false) (h' : e.isException = true) : p :=
  nomatch h.symm.trans h'


theorem checkAbort_spec (v : View) (h : RunAny cfg tl β v) (a : Nat) :
    ⦃fun w => ⌜view cfg w = v⌝⦄ checkAbort cfg tl a
    ⦃post⟨fun _ w => ⌜view cfg w = v⌝,
          fun e w => ⌜e.isException = true → AbX cfg tl β e (view cfg w)⌝⟩⦄ := by
  obtain ⟨n, h⟩ := h
  have e0 := ask_quiet cfg v
  have e1 := setStop_spec cfg v
  have e2 := emit_spec cfg { v with stop := some .aborted } tl .aborted a 0 none none (some .aborted) none none rfl
  mvcgen -leave [checkAbort, e0, e1, e2]
  vc_intro
  · exact ‹view cfg _ = push ..› ▸ Or.inr ⟨rfl, h.aborted a⟩
  · exact no_exception ‹_› ‹_›
  · exact nomatch ‹Exn.stuck.isException = true›
  · exact ‹_ → view cfg _ = _› ‹_› ▸ AbX_hook

theorem emitAbortedOnce_spec (a : Nat) :
    ⦃fun w => ⌜RunAny cfg tl β (view cfg w) ∨ Done cfg tl β .aborted (view cfg w)⌝⦄ emitAbortedOnce cfg tl a
    ⦃post⟨fun _ w => ⌜Done cfg tl β .aborted (view cfg w)⌝, fun e _ => ⌜e.isException = false⌝⟩⦄ := by
  have e1 := setStop_spec cfg
  have e2 := fun v => emit_spec cfg v tl .aborted a 0 none none (some .aborted) none none rfl
  mvcgen -leave [emitAbortedOnce, getRS, e1, e2]
  vc_intro
  · exact (abortedOnce ‹_› a).1 ‹_›
  · simp only [*]; exact (abortedOnce ‹_› a).2 ‹_›

structure Retrying (n : Nat) (cause : Cause) (exc : Option Exn) (v : View) : Prop where
  running : Running cfg tl β n v
  failed : Failed cause exc v

structure FailPre (n : Nat) (k : EClass) (cause : Cause) (exc : Option Exn) (v : View) : Prop
    extends Retrying cfg tl β n cause exc v where
  klass : v.esc = true ∨ v.lastClass = some k

structure FailPost (n : Nat) (cause : Cause) (exc : Option Exn) (d : Decision) (v : View) : Prop where
  failed : Failed cause exc v
  done : d = .raise → Done cfg tl β .failure v
  running : d ≠ .raise → Running cfg tl β (n + 1) v

abbrev failPost (n : Nat) (cause : Cause) (exc : Option Exn) :
    PostCond Decision (.except Exn (.arg World .pure)) :=
  post⟨fun d w => ⌜FailPost cfg tl β n cause exc d (view cfg w)⌝,
       fun e w => ⌜e.isException = true → MidX cfg tl β e (view cfg w)⌝⟩

theorem stopWith_spec (n : Nat) (k : EClass) (cause : Cause) (exc : Option Exn)
    (s : StopReason) (ev : Event) (a : Nat) (hev : failEv ev = true) :
    ⦃fun w => ⌜FailPre cfg tl β n k cause exc (view cfg w)⌝⦄ stopWith cfg tl s ev a k exc cause
    ⦃failPost cfg tl β n cause exc⦄ := by
  have e1 := setStop_spec cfg
  have e2 := fun v => emit_spec cfg v tl ev a 0 (some k) exc (some s) (some cause) none (failEv_not_breaker hev)
  mvcgen -leave [stopWith, e1, e2]
  vc_intro
  · have hp := ‹FailPre ..›
    simp only [*]
    exact ⟨hp.failed.push _ _, fun _ => hp.running.fail hp.failed hp.klass ev a 0 s hev, fun hd => absurd rfl hd⟩
  · exact no_exception ‹_› ‹_›

theorem grantRetry_spec (n : Nat) (c : Classification) (cause : Cause) (exc : Option Exn)
    (key : SKey) (kind : SKind) (rem : Nat) :
    ⦃fun w => ⌜FailPre cfg tl β n c.klass cause exc (view cfg w)⌝⦄
    grantRetry cfg tl c (n + 1) cause exc key kind rem
    ⦃failPost cfg tl β n cause exc⦄ := by
  have e1 := callStrategy_spec cfg
  have e2 := budgetConsume_spec cfg
  have e3 := fun v sl => emit_spec cfg v tl .retry (n + 1) sl (some c.klass) exc none (some cause) (some c) rfl
  have e4 := stopWith_spec cfg tl β n c.klass cause exc
  mvcgen -leave [grantRetry, getRS, modifyRS, e1, e2, e3, e4]
  vc_intro
  · have hp := ‹FailPre ..›
    simp +zetaDelta only [view_rs_prevSleep, *]
    exact ⟨hp.failed.push _ _, nofun, fun _ => hp.running.retryEv hp.failed hp.klass _⟩
  · exact no_exception ‹_› ‹_›
  · simp only [*]
  · rfl
  · simp only [*]
    exact MidX.raised (‹FailPre ..›).running
  · exact MidX.of_raised (‹FailPre ..›).running ‹_› ‹_›

theorem handleFailure2_spec (n : Nat) (c : Classification) (cause : Cause) (exc : Option Exn) :
    ⦃fun w => ⌜FailPre cfg tl β n c.klass cause exc (view cfg w)⌝⦄
    handleFailure2 cfg tl c (n + 1) cause exc
    ⦃failPost cfg tl β n cause exc⦄ := by
  have e1 := stratRecordFailure_spec cfg
  have e2 := grantRetry_spec cfg tl β n c cause exc
  have e4 := stopWith_spec cfg tl β n c.klass cause exc
  mvcgen -leave [handleFailure2, elapsed, modifyRS, e1, e2, e4]
  vc_intro
  · exact ‹view cfg _ = _› ▸ ‹FailPre ..›
  · exact ‹view cfg _ = _› ▸ ‹FailPre ..›
  · exact MidX.of_raised (‹FailPre ..›).running ‹_› ‹_›

theorem handleUnknown_spec (n : Nat) (c : Classification) (cause : Cause) (exc : Option Exn) :
    ⦃fun w => ⌜FailPre cfg tl β n c.klass cause exc (view cfg w)⌝⦄
    handleUnknown cfg tl c (n + 1) cause exc
    ⦃failPost cfg tl β n cause exc⦄ := by
  have e2 := handleFailure2_spec cfg tl β n c cause exc
  have e4 := stopWith_spec cfg tl β n c.klass cause exc
  mvcgen -leave [handleUnknown, getRS, modifyRS, e2, e4]
  vc_intro

theorem handleFailure1_spec (n : Nat) (c : Classification) (cause : Cause) (exc : Option Exn) :
    ⦃fun w => ⌜FailPre cfg tl β n c.klass cause exc (view cfg w)⌝⦄
    handleFailure1 cfg tl c (n + 1) cause exc
    ⦃failPost cfg tl β n cause exc⦄ := by
  have e2 := handleFailure2_spec cfg tl β n c cause exc
  have e3 := handleUnknown_spec cfg tl β n c cause exc
  have e4 := stopWith_spec cfg tl β n c.klass cause exc
  mvcgen -leave [handleFailure1, getRS, e2, e3, e4]
  vc_intro

theorem recordFailure_spec (v : View) (c : Classification) (cause : Cause) (exc : Option Exn) (r : Option Nat) :
    ⦃fun w => ⌜view cfg w = v⌝⦄ Retry.recordFailure c cause exc r
    ⦃post⟨fun _ w => ⌜view cfg w = v.recorded c.klass cause exc⌝, fun _ _ => ⌜False⌝⟩⦄ := by
  mvcgen [Retry.recordFailure, modifyRS]
  next h _ => subst h; rfl

structure HeardPre (n : Nat) (k : EClass) (cause : Cause) (exc : Option Exn) (v : View) : Prop where
  running : Running cfg tl β n v
  heard : Heard k cause exc v

theorem handleFailure_spec (n : Nat) (c : Classification) (cause : Cause) (exc : Option Exn)
    (r : Option Nat) (hr : cause = .result → exc = none)
    (he : ∀ e, exc = some e → e.isAbort = false ∧ e.isExhausted = false) :
    ⦃fun w => ⌜HeardPre cfg tl β n c.klass cause exc (view cfg w)⌝⦄ handleFailure cfg tl c (n + 1) cause exc r
    ⦃failPost cfg tl β n cause exc⦄ := by
  have e1 := recordFailure_spec cfg
  have e2 := handleFailure1_spec cfg tl β n c cause exc
  mvcgen -leave [handleFailure, modifyRS, e1, e2]
  vc_intro
  · have hp := ‹HeardPre ..›
    simp +zetaDelta only [view_rs_counts, *]
    exact ⟨⟨hp.running.recorded _ _ _ he, .of_heard hp.heard hr⟩, Or.inr rfl⟩

structure OpFailed (n : Nat) (e : Exn) (v : View) : Prop where
  running : Running cfg tl β n v
  op : v.esc = true ∨ v.mon.opExn = some e

theorem handleException_spec (n : Nat) (e : Exn) (he : e.isAbort = false ∧ e.isExhausted = false) :
    ⦃fun w => ⌜OpFailed cfg tl β n e (view cfg w)⌝⦄ handleException cfg tl e (n + 1)
    ⦃failPost cfg tl β n .exception (some e)⦄ := by
  have e1 := callClassifier_spec cfg
  have e2 := fun (c : Classification) => handleFailure_spec cfg tl β n c .exception (some e) none nofun
    (by intro x hx; cases hx; exact he)
  mvcgen -leave [handleException, e1, e2]
  vc_intro
  · have hp := ‹OpFailed ..›
    simp only [*]
    exact ⟨Running_classified.mpr hp.running, .classified e _ hp.op⟩
  · exact MidX.of_raised (‹OpFailed ..›).running ‹_› ‹_›

inductive SleepPost (n : Nat) (cause : Cause) (exc : Option Exn) : SleepDecision → View → Prop
  | sleep {v} : Retrying cfg tl β n cause exc v → SleepPost n cause exc .sleep v
  | defer {v} : Failed cause exc v → Done cfg tl β .failure v → v.stop = some .scheduled →
      SleepPost n cause exc .defer v
  | abort {v} : Done cfg tl β .aborted v → SleepPost n cause exc .abort v

theorem handleSleepDecision_spec (n : Nat) (cause : Cause) (exc : Option Exn) (action : SleepDecision)
    (a sl : Nat) :
    ⦃fun w => ⌜Retrying cfg tl β n cause exc (view cfg w)⌝⦄ handleSleepDecision cfg tl action a sl
    ⦃post⟨fun r w => ⌜SleepPost cfg tl β n cause exc r (view cfg w)⌝,
          fun e w => ⌜e.isException = true → MidX cfg tl β e (view cfg w)⌝⟩⦄ := by
  have e1 := setStop_spec cfg
  have e2 := fun v k x c => emit_spec cfg v tl .scheduled a sl k x (some .scheduled) c none rfl
  have e3 := emitAbortedOnce_spec cfg tl β a
  mvcgen -leave [handleSleepDecision, getRS, e1, e2, e3]
  vc_intro
  · exact .sleep ‹_›
  · have hp := ‹Retrying ..›
    simp only [*]
    exact .defer (hp.failed.push _ _) (hp.running.failSync hp.failed.syncE .scheduled a sl .scheduled rfl) rfl
  · exact no_exception ‹_› ‹_›
  · exact Or.inl ⟨n, (‹Retrying ..›).running⟩
  · exact .abort ‹_›
  · exact no_exception ‹_› ‹_›
  · exact Or.inr (Or.inl ⟨⟨n, (‹Retrying ..›).running⟩, Or.inr rfl⟩)

theorem sleepAction_spec (n : Nat) (cause : Cause) (exc : Option Exn) (a sl : Nat) (ctx : BackoffCtx) :
    ⦃fun w => ⌜Retrying cfg tl β n cause exc (view cfg w)⌝⦄ sleepAction cfg tl a sl ctx
    ⦃post⟨fun r w => ⌜SleepPost cfg tl β n cause exc r (view cfg w)⌝,
          fun e w => ⌜e.isException = true → MidX cfg tl β e (view cfg w)⌝⟩⦄ := by
  have e1 := callBeforeSleep_spec cfg
  have e2 := callSleeper_spec cfg
  have e3 := callSleepHandler_spec cfg
  have e4 := handleSleepDecision_spec cfg tl β n cause exc
  mvcgen -leave [sleepAction, e1, e2, e3, e4]
  vc_intro
  · simp only [*]; exact .sleep ‹_›
  · simp only [*]; exact MidX.raised (‹Retrying ..›).running
  · exact no_exception ‹_› ‹_›
  · simp only [*]
  · subst_vars; simp only [*]
  · subst_vars
    cases ‹SleepPost ..› with | sleep hp => simp only [*]; exact MidX.raised hp.running
  · exact no_exception ‹_› ‹_›
  · exact MidX.of_raised (‹Retrying ..›).running ‹_› ‹_›

def After (n : Nat) (cause : Cause) (exc : Option Exn) (o : AOutcome) (v : View) : Prop :=
  match o.decision with
  | .retry => Retrying cfg tl β (n + 1) cause exc v
  | .raise => Failed cause exc v ∧ Done cfg tl β .failure v ∧ o.stop = v.stop
  | .scheduled => Failed cause exc v ∧ Done cfg tl β .failure v ∧ o.stop = some .scheduled ∧ v.stop = some .scheduled
  | .aborted => Done cfg tl β .aborted v
  | .success => False

theorem failureOutcome_spec (n : Nat) (cause : Cause) (exc : Option Exn) (d : Decision)
    (cls : Option Classification) (res : Option Nat) :
    ⦃fun w => ⌜FailPost cfg tl β n cause exc d (view cfg w)⌝⦄
    failureOutcome cfg tl (n + 1) d cls exc res (some cause)
    ⦃post⟨fun o w => ⌜After cfg tl β n cause exc o (view cfg w)⌝,
          fun e w => ⌜e.isException = true → MidX cfg tl β e (view cfg w)⌝⟩⦄ := by
  have e1 := setStop_spec cfg
  have e2 := fun v ev st kk => emit_spec cfg v tl ev (n + 1) 0 kk exc (some st) (some cause) none
  have e3 := sleepAction_spec cfg tl β (n + 1) cause exc (n + 1)
  mvcgen -leave [failureOutcome, finalizeAttempt, getRS, elapsed, e1, e2, e3]
  vc_intro
  · have hp := ‹FailPost ..›
    exact (⟨hp.failed, hp.done rfl, rfl⟩ : _ ∧ _ ∧ _)
  · have hp := ‹FailPost ..›
    exact ⟨hp.running nofun, hp.failed⟩
  · cases ‹some _ = some _›
    cases ‹SleepPost ..› with | defer hf hd hs => exact (⟨hf, hd, rfl, hs⟩ : _ ∧ _ ∧ _ ∧ _)
  · cases ‹some _ = some _›
    cases ‹SleepPost ..› with | abort h => exact h
  · cases ‹SleepPost ..› with
    | sleep hp =>
      simp only [*]
      exact (⟨hp.failed.push _ _, hp.running.failParam hp.failed .deadlineExceeded _ _ _ rfl, rfl⟩ : _ ∧ _ ∧ _)
    | defer | abort => contradiction
  · exact no_exception ‹_› ‹_›
  · cases ‹SleepPost ..› with
    | sleep hp =>
      simp only [*]
      exact (⟨hp.failed.push _ _, hp.running.failParam hp.failed .maxAttemptsExceeded _ _ _ rfl, rfl⟩ : _ ∧ _ ∧ _)
    | defer | abort => contradiction
  · exact no_exception ‹_› ‹_›
  · cases ‹SleepPost ..› with
    | sleep hp => exact hp
    | defer | abort => contradiction

end specs

section delivery
variable (cfg : Cfg) (β : Brk)

def CallX (x : Exn) (v : View) : Prop := Excused x v ∨ Final cfg false β (.raised x) v

variable {cfg β}

theorem CallX.of_mid {x : Exn} {v : View} (h : MidX cfg false β x v) : CallX cfg β x v := by
  rcases h with h | ⟨_, h⟩ | ⟨rfl, h⟩
  · exact Or.inl (Or.inl h)
  · exact Or.inl (Or.inr (h.elim Or.inl (fun h => Or.inr (Or.inl h))))
  · exact Or.inr (h.final_abort rfl)

@[simp] theorem CallX_hook {x e : Exn} {v : View} : CallX cfg β x (v.raised e true) := Or.inl (Or.inl rfl)

theorem CallX.raised {x : Exn} {v : View} : CallX cfg β x (v.raised x false) :=
  Or.inl (Or.inr (Or.inl (by simp [View.raised])))

theorem CallX.of_hook {x : Exn} {v v' : View} (h : x.isException = true → v' = v.raised x true)
    (hx : x.isException = true) : CallX cfg β x v' := h hx ▸ CallX_hook
theorem CallX.of_raised {x : Exn} {v v' : View} (h : x.isException = true → v' = v.raised x false)
    (hx : x.isException = true) : CallX cfg β x v' := h hx ▸ CallX.raised
theorem CallX.of_ab {x : Exn} {v : View} (h : x.isException = true → AbX cfg false β x v)
    (hx : x.isException = true) : CallX cfg β x v := .of_mid (.of_ab (h hx))
theorem CallX.of_midx {x : Exn} {v : View} (h : x.isException = true → MidX cfg false β x v)
    (hx : x.isException = true) : CallX cfg β x v := .of_mid (h hx)

theorem isRaise_false {d : Decision} (h : ¬ d.isRaise = true) : d ≠ .raise :=
  fun hd => h (hd ▸ rfl)

theorem Done.stop_some {tl : Bool} {v : View} (h : Done cfg tl β .failure v) : v.esc = true ∨ v.stop.isSome = true := by
  exact h.imp_right fun ⟨_, t, n, G, _, _, _, ht⟩ => ht.2.2.1

structure Looping (cfg : Cfg) (β : Brk) (tl : Bool) (n : Nat) (v : View) : Prop where
  running : Running cfg tl β n v
  sync : SyncE v

theorem deliver_continue {tl : Bool} {n : Nat} {cause : Cause} {exc : Option Exn} {o : AOutcome} {v : View}
    {r : RState} {a : Nat} {fr : Bool} (ha : After cfg tl β n cause exc o v)
    (hx : determineAction o r a fr = .continue_) : Looping cfg β tl (n + 1) v := by
  simp only [After, (determineAction_continue_iff _ _ _ _).mp hx] at ha
  exact ⟨ha.running, ha.failed.syncE⟩

theorem deliver_abort {tl : Bool} {n : Nat} {cause : Cause} {exc : Option Exn} {o : AOutcome} {v : View}
    {r : RState} {a : Nat} {fr : Bool} (ha : After cfg tl β n cause exc o v)
    (hx : determineAction o r a fr = .abort) : Done cfg tl β .aborted v := by
  simpa only [After, (determineAction_abort_iff _ _ _ _).mp hx] using ha

theorem deliver_sched {n : Nat} {cause : Cause} {exc : Option Exn} {o : AOutcome} {v : View}
    {w : World} {a : Nat} {fr : Bool} {f : ExhaustedFields} (ha : After cfg false β n cause exc o v)
    (hx : determineAction o w.rs a fr = .scheduled f) (hv : view cfg w = v) (hfr : fr = true → exc = none) :
    CallX cfg β (.libExhausted f) v := by
  subst hv
  by_cases hesc : (view cfg w).esc = true
  · exact Or.inl (Or.inl hesc)
  unfold determineAction at hx
  unfold After at ha
  cases hdec : o.decision <;> cases fr <;> simp_all
  all_goals subst hx
  · -- raise, for_result
    obtain ⟨h1, hd, hs⟩ := ha
    rcases hd.stop_some with h' | h'
    · exact absurd h' (by simpa using hesc)
    · rcases h1 with h1 | ⟨_, _, hl⟩
      · exact absurd h1 (by simpa using hesc)
      · refine Or.inr (hd.final_exhausted ?_ rfl ?_)
        · cases hst : (view cfg w).stop <;> simp_all [view]
        · simp_all [view]
  · -- scheduled, exception
    obtain ⟨-, hd, hs, hs'⟩ := ha
    refine Or.inr (hd.final_exhausted ?_ rfl ?_)
    · simp [hs']
    · simp [view]
  · -- scheduled, for_result
    obtain ⟨h1, hd, hs, hs'⟩ := ha
    rcases h1 with h1 | ⟨_, _, hl⟩
    · exact absurd h1 (by simpa using hesc)
    · refine Or.inr (hd.final_exhausted ?_ rfl ?_)
      · simp [hs']
      · simp_all [view]

theorem deliver_raise {n : Nat} {e : Exn} {o : AOutcome} {v : View}
    {r : RState} {a : Nat} (ha : After cfg false β n .exception (some e) o v)
    (hx : determineAction o r a false = .raise) : CallX cfg β e v := by
  unfold determineAction at hx
  unfold After at ha
  cases hdec : o.decision <;> simp_all
  exact Or.inr (ha.2.1.final_raise ha.1)

@[simp] theorem cancelled_isException : Exn.cancelled.isException = false := rfl

theorem exec_other {tl : Bool} {n : Nat} {cause : Cause} {exc : Option Exn} {o : AOutcome} {v : View}
    {r : RState} {a : Nat} {fr : Bool} (ha : After cfg tl β n cause exc o v)
    (h1 : determineAction o r a fr ≠ .continue_) (h2 : determineAction o r a fr ≠ .abort) :
    Done cfg tl β .failure v := by
  unfold After at ha
  unfold determineAction at h1 h2
  cases hdec : o.decision <;> simp_all

structure Fresh (β : Brk) (v : View) : Prop where
  ms : v.mon.ms = []
  ls : v.mon.ls = []
  tags : v.mon.tagsBad = false
  brk : brkOf v.mon = β
  klass : v.mon.klass = none
  cause : v.mon.cause = none
  rej : v.rej = false

theorem Fresh.looping {tl : Bool} {v : View} (h : Fresh β v) (htl : tl = true → v.tl = []) :
    Looping cfg β tl 0
      { v with stop := none, lastClass := none, lastCause := none, lastExc := none } :=
  ⟨Or.inr ⟨⟨h.tags, h.brk, h.rej, fun _ h => nomatch h⟩, rfl, [], rfl, ⟨by simp [h.ms], by simp [h.ls], by simpa using htl⟩⟩,
   Or.inr ⟨h.klass, h.cause, by simp [expErr, h.cause]⟩⟩

end delivery

section callmode
variable (cfg : Cfg) (β : Brk)

theorem handleSuccessAttemptEnd_spec (tl : Bool) (n a x : Nat) :
    ⦃fun w => ⌜Running cfg tl β n (view cfg w)⌝⦄ handleSuccessAttemptEnd cfg tl a x
    ⦃post⟨fun _ w => ⌜Done cfg tl β .success (view cfg w)⌝,
          fun e w => ⌜e.isException = true → MidX cfg tl β e (view cfg w)⌝⟩⦄ := by
  have e1 := recordStrategySuccess_spec cfg
  have e2 := fun v => emit_spec cfg v tl .success a 0 none none none none none rfl
  have e3 := callAttemptEnd_spec cfg
  mvcgen -leave [handleSuccessAttemptEnd, e1, e2, e3]
  vc_intro
  · simp only [*]; exact (‹Running ..›).success a
  · simp only [*]; exact MidX_hook
  · exact no_exception ‹_› ‹_›
  · exact MidX.of_raised ‹_› ‹_› ‹_›

def CallStep (n : Nat) (r : Option Nat) (v : View) : Prop :=
  match r with
  | none => Looping cfg β false (n + 1) v
  | some x => Final cfg false β (.ret x) v

abbrev callPost (n : Nat) : PostCond (Option Nat) (.except Exn (.arg World .pure)) :=
  post⟨fun r w => ⌜CallStep cfg β n r (view cfg w)⌝,
       fun x w => ⌜x.isException = true → CallX cfg β x (view cfg w)⌝⟩

theorem callExceptionPath_spec (n : Nat) (e : Exn) (he : e.isAbort = false ∧ e.isExhausted = false) :
    ⦃fun w => ⌜OpFailed cfg false β n e (view cfg w)⌝⦄ callExceptionPath cfg (n + 1) e ⦃callPost cfg β n⦄ := by
  have e1 := fun v h => checkAbort_spec cfg false β v h (n + 1)
  have e2 := handleException_spec cfg false β n e he
  have e3 := failureOutcome_spec cfg false β n .exception (some e)
  have e4 := callAttemptEndFromOutcome_spec cfg
  mvcgen -leave -trivial [callExceptionPath, getRS, modifyAS, deliverCall, e1, e2, e3, e4]
  -- premises into the context, then every goal rewritten into one about the view it has a hypothesis about
  vc_intro
  all_goals (clear e1 e2 e3 e4; try simp +zetaDelta only [view_set_as, *])
  · exact ⟨n, (‹OpFailed ..›).running⟩                                     -- `check_abort` may be entered
  -- the decision was `raise`: straight to the outcome and its delivery
  · exact deliver_continue ‹_› ‹_›                                     -- action `continue`
  · exact Or.inr ((deliver_abort ‹After ..› ‹_›).final_abort rfl)      -- action `abort`: AbortRetryError
  · exact deliver_sched (fr := false) ‹After ..› ‹_› ‹_› nofun         -- action `scheduled`: RetryExhaustedError
  · exact deliver_raise ‹After ..› ‹_›                                 -- action `raise`: the operation's exception
  · exact CallX_hook                                                   -- `on_attempt_end` raised
  · exact CallX.of_midx ‹_› ‹_›                                        -- raised inside the failure handling
  -- the decision was to retry: `check_abort` once more (the loop is still running), then the same exits
  · exact ⟨_, (‹FailPost ..›).running (isRaise_false ‹_›)⟩
  · exact deliver_continue ‹_› ‹_›                                     -- action `continue`
  · exact Or.inr ((deliver_abort ‹After ..› ‹_›).final_abort rfl)      -- action `abort`: AbortRetryError
  · exact deliver_sched (fr := false) ‹After ..› ‹_› ‹_› nofun         -- action `scheduled`: RetryExhaustedError
  · exact deliver_raise ‹After ..› ‹_›                                 -- action `raise`: the operation's exception
  · exact CallX_hook                                                   -- `on_attempt_end` raised
  · exact CallX.of_midx ‹_› ‹_›                                        -- raised inside the failure handling
  · exact CallX.of_ab ‹_› ‹_›                                          -- `check_abort` raised
  · exact CallX.of_midx ‹_› ‹_›                                        -- raised inside the failure handling
  · exact CallX.of_ab ‹_› ‹_›                                          -- `check_abort` raised

structure OpRaised (n : Nat) (e : Exn) (v : View) : Prop extends OpFailed cfg false β n e v where
  mem : v.esc = true ∨ e ∈ v.oz

/-- the `except` ladder: for a non-`Exception` nothing is known about the state, and nothing is needed -/
theorem callOpHandler_spec (n : Nat) (e : Exn) :
    ⦃fun w => ⌜e.isException = true → OpRaised cfg β n e (view cfg w)⌝⦄ callOpHandler cfg (n + 1) e
    ⦃callPost cfg β n⦄ := by
  have e1 := handleAbortAttemptEnd_spec cfg
  have e2 := emitAbortedOnce_spec cfg false β (n + 1)
  have e3 := callExceptionPath_spec cfg β n e
  mvcgen -leave [callOpHandler, e1, e2, e3]
  vc_intro
  · simp only [*]
    exact Or.inl ⟨n, (‹_ → OpRaised ..› ((Exn.abort_flags ‹_›).1)).running⟩
  · exact Or.inr (Done.final_abort ‹_› ‹_›)
  · exact no_exception ‹_› ‹_›
  · exact CallX.of_hook ‹_› ‹_›
  · subst_vars; exact nomatch ‹Exn.cancelled.isException = true›
  · exact no_exception (Exn.kiSe_flags ‹_›) ‹_›
  · exact Or.inl ((‹_ → OpRaised ..› ‹_›).mem.elim Or.inl fun h => Or.inr (Or.inr (Or.inr ⟨‹_›, h⟩)))
  · exact (‹_ → OpRaised ..› ‹_›).toOpFailed
  · exact ⟨Bool.eq_false_iff.mpr ‹_›, Bool.eq_false_iff.mpr ‹_›⟩
  · exact absurd ‹e.isException = true› ‹_›

theorem callResultFailure_spec (n x : Nat) (c : Classification) :
    ⦃fun w => ⌜HeardPre cfg false β n c.klass .result none (view cfg w)⌝⦄
    callResultFailure cfg (n + 1) x c ⦃callPost cfg β n⦄ := by
  have e1 := fun v h => checkAbort_spec cfg false β v h (n + 1)
  have e2 := handleFailure_spec cfg false β n c .result none (some x) (fun _ => rfl) (fun _ h => nomatch h)
  have e3 := failureOutcome_spec cfg false β n .result none
  have e4 := callAttemptEndFromOutcome_spec cfg
  mvcgen -leave -trivial [callResultFailure, getRS, modifyAS, deliverCall, e1, e2, e3, e4]
  vc_intro
  all_goals (clear e1 e2 e3 e4; try simp +zetaDelta only [view_set_as, *])
  · exact ⟨n, (‹HeardPre ..›).running⟩                                     -- `check_abort` may be entered
  -- the decision was `raise`: straight to the outcome and its delivery
  · exact deliver_continue ‹_› ‹_›                                     -- action `continue`
  · exact Or.inr ((deliver_abort ‹After ..› ‹_›).final_abort rfl)      -- action `abort`: AbortRetryError
  · exact deliver_sched (fr := true) ‹After ..› ‹_› ‹_› (fun _ => rfl) -- action `scheduled`: RetryExhaustedError
  · exact absurd ‹determineAction _ _ _ _ = Action.raise› (determineAction_true_ne_raise _ _ _) -- no `raise` for a result
  · exact CallX_hook                                                   -- `on_attempt_end` raised
  · exact CallX.of_midx ‹_› ‹_›                                        -- raised inside the failure handling
  -- the decision was to retry: `check_abort` once more (the loop is still running), then the same exits
  · exact ⟨_, (‹FailPost ..›).running (isRaise_false ‹_›)⟩
  · exact deliver_continue ‹_› ‹_›                                     -- action `continue`
  · exact Or.inr ((deliver_abort ‹After ..› ‹_›).final_abort rfl)      -- action `abort`: AbortRetryError
  · exact deliver_sched (fr := true) ‹After ..› ‹_› ‹_› (fun _ => rfl) -- action `scheduled`: RetryExhaustedError
  · exact absurd ‹determineAction _ _ _ _ = Action.raise› (determineAction_true_ne_raise _ _ _) -- no `raise` for a result
  · exact CallX_hook                                                   -- `on_attempt_end` raised
  · exact CallX.of_midx ‹_› ‹_›                                        -- raised inside the failure handling
  · exact CallX.of_ab ‹_› ‹_›                                          -- `check_abort` raised
  · exact CallX.of_midx ‹_› ‹_›                                        -- raised inside the failure handling
  · exact CallX.of_ab ‹_› ‹_›                                          -- `check_abort` raised

theorem callResultPath_spec (n x : Nat) :
    ⦃fun w => ⌜Running cfg false β n (view cfg w)⌝⦄ callResultPath cfg (n + 1) x ⦃callPost cfg β n⦄ := by
  have e1 := shouldClassifyResult_spec cfg
  have e2 := handleSuccessAttemptEnd_spec cfg β false n (n + 1) x
  have e3 := callResultFailure_spec cfg β n x
  mvcgen -leave [callResultPath, e1, e2, e3]
  vc_intro
  · simp only [*]
  · exact Done.final_ret ‹_› x
  · exact CallX.of_midx ‹_› ‹_›                                        -- raised inside the failure handling
  · simp only [*]
    exact ⟨Running_classified.mpr ‹_›, .classifiedResult _⟩
  · exact CallX.of_raised ‹_› ‹_›

theorem callAttempt_spec (n : Nat) :
    ⦃fun w => ⌜Running cfg false β n (view cfg w)⌝⦄ callAttempt cfg (n + 1) ⦃callPost cfg β n⦄ := by
  have e1 := fun v h => checkAbort_spec cfg false β v h n
  have e2 := callAttemptStart_spec cfg
  have e3 := invokeOp_spec cfg
  have e4 := callOpHandler_spec cfg β n
  have e5 := callResultPath_spec cfg β n
  mvcgen -leave [callAttempt, modifyAS, e1, e2, e3, e4, e5]
  vc_intro
  · exact ⟨n, ‹_›⟩
  · simp +zetaDelta only [view_set_as, *]
    exact Running_opDone.mpr ‹_›
  · simp +zetaDelta only [restore_dummy, view_set_as, *]
    exact ⟨⟨Running_opDone.mpr ‹_›, Or.inr rfl⟩, Or.inr List.mem_cons_self⟩
  · exact CallX.of_hook ‹_› ‹_›
  · exact CallX.of_ab ‹_› ‹_›                                          -- `check_abort` raised

theorem emitMaxAttemptsExceeded_spec (tl : Bool) (n : Nat) :
    ⦃fun w => ⌜Looping cfg β tl n (view cfg w)⌝⦄ emitMaxAttemptsExceeded cfg tl
    ⦃post⟨fun _ w => ⌜Done cfg tl β .failure (view cfg w) ∧ (view cfg w).stop = some .maxAttemptsGlobal⌝,
          fun e _ => ⌜e.isException = false⌝⟩⦄ := by
  have e1 := setStop_spec cfg
  have e2 := fun v k x c => emit_spec cfg v tl .maxAttemptsExceeded cfg.maxAttempts 0 k x (some .maxAttemptsGlobal) c none rfl
  mvcgen -leave [emitMaxAttemptsExceeded, getRS, e1, e2]
  vc_intro
  · have hp := ‹Looping ..›
    simp only [*]
    exact ⟨hp.running.failSync hp.sync .maxAttemptsExceeded cfg.maxAttempts 0 .maxAttemptsGlobal rfl, trivial⟩

theorem raiseExhaustedCall_spec (n : Nat) :
    ⦃fun w => ⌜Looping cfg β false n (view cfg w)⌝⦄ raiseExhaustedCall cfg
    ⦃post⟨fun _ _ => ⌜False⌝, fun x w => ⌜x.isException = true → CallX cfg β x (view cfg w)⌝⟩⦄ := by
  have e1 := emitMaxAttemptsExceeded_spec cfg β false n
  mvcgen -leave [raiseExhaustedCall, getRS, e1]
  vc_intro
  · exact Or.inr (Done.final_exhausted_result (‹Done .. ∧ _›).1 (‹Done .. ∧ _›).2 rfl rfl ‹_›)
  · exact Or.inr (Done.final_reraise (‹Done .. ∧ _›).1 ‹_›)
  · exact Or.inl (Or.inr (Or.inr (Or.inl rfl)))
  · exact no_exception ‹_› ‹_›

abbrev runPost : PostCond Nat (.except Exn (.arg World .pure)) :=
  post⟨fun x w => ⌜Final cfg false β (.ret x) (view cfg w)⌝,
       fun x w => ⌜x.isException = true → CallX cfg β x (view cfg w)⌝⟩

theorem callLoop_spec : ∀ (fuel n : Nat),
    ⦃fun w => ⌜Looping cfg β false n (view cfg w)⌝⦄ callLoop cfg fuel (n + 1) ⦃runPost cfg β⦄
  | 0, n => by
    have e1 := raiseExhaustedCall_spec cfg β n
    mvcgen -leave [callLoop, e1]
    vc_intro
    exact False.elim ‹_›
  | f + 1, n => by
    have e1 := callAttempt_spec cfg β n
    have ih := callLoop_spec f (n + 1)
    mvcgen -leave [callLoop, e1, ih]
    vc_intro
    exact (‹Looping ..›).running

theorem initState_spec (v : View) :
    ⦃fun w => ⌜view cfg w = v⌝⦄ initState
    ⦃post⟨fun _ w => ⌜view cfg w = { v with stop := none, lastClass := none, lastCause := none, lastExc := none }⌝,
          fun _ _ => ⌜False⌝⟩⦄ := by
  mvcgen [initState]
  next h _ => subst h; rfl

theorem runCall_spec :
    ⦃fun w => ⌜Fresh β (view cfg w)⌝⦄ runCall cfg ⦃runPost cfg β⦄ := by
  have e1 := initState_spec cfg
  have e2 := callLoop_spec cfg β cfg.maxAttempts 0
  mvcgen -leave [runCall, e1, e2]
  vc_intro
  simp only [*]
  exact (‹Fresh ..›).looping nofun

end callmode
section execmode
variable (cfg : Cfg) (tl : Bool) (β : Brk)

def FinalO (o : Outcome) (v : View) : Prop := ∀ tl' : List TimelineEv, Final cfg tl β (.outcome o tl') v

def ExecStep (n : Nat) (r : Option Outcome) (v : View) : Prop :=
  match r with
  | none => Looping cfg β tl (n + 1) v
  | some o => FinalO cfg tl β o v

abbrev execPost (n : Nat) : PostCond (Option Outcome) (.except Exn (.arg World .pure)) :=
  post⟨fun r w => ⌜ExecStep cfg tl β n r (view cfg w)⌝, fun _ _ => ⌜True⌝⟩

theorem abortOutcome_spec (a : Nat) :
    ⦃fun w => ⌜RunAny cfg tl β (view cfg w) ∨ Done cfg tl β .aborted (view cfg w)⌝⦄ abortOutcome cfg tl a
    ⦃post⟨fun o w => ⌜FinalO cfg tl β o (view cfg w)⌝, fun e _ => ⌜e.isException = false⌝⟩⦄ := by
  have e1 := emitAbortedOnce_spec cfg tl β a
  have e2 := buildOutcome_spec cfg
  mvcgen -leave [abortOutcome, e1, e2]
  vc_intro
  · obtain ⟨h1, h2⟩ := ‹_ ∧ OutcomeOf ..›
    simp only [h1]
    exact fun tl' => Done.final_aborted ‹_› h2 tl'

theorem execAbortExit_spec (n a : Nat) (e : Exn) :
    ⦃fun w => ⌜RunAny cfg tl β (view cfg w) ∨ Done cfg tl β .aborted (view cfg w)⌝⦄ execAbortExit cfg tl a e
    ⦃execPost cfg tl β n⦄ := by
  have e1 := handleAbortAttemptEnd_spec cfg
  have e2 := abortOutcome_spec cfg tl β
  mvcgen -leave [execAbortExit, e1, e2]
  vc_intro
  simp only [*]

theorem checkAbortCaught_spec (v : View) (h : RunAny cfg tl β v) (a : Nat) :
    ⦃fun w => ⌜view cfg w = v⌝⦄ checkAbortCaught cfg tl a
    ⦃post⟨fun b w => ⌜(b = false → view cfg w = v) ∧
                      (b = true → (view cfg w).esc = true ∨ Done cfg tl β .aborted (view cfg w))⌝,
          fun e w => ⌜e.isException = true → (view cfg w).esc = true⌝⟩⦄ := by
  have e1 := checkAbort_spec cfg tl β v h a
  mvcgen -leave [checkAbortCaught, abortToTrue, e1]
  vc_intro
  · exact ⟨fun _ => ‹_›, nofun⟩
  · simp only [restore_dummy]
    exact ⟨nofun, fun _ => (‹_ → AbX ..› ((Exn.abort_flags ‹_›).1)).elim Or.inl fun h => Or.inr h.2⟩
  · simp only [restore_dummy]
    exact (‹_ → AbX ..› ‹_›).elim id fun h => ((h.1 ▸ ‹¬ _ = true› : ¬ Exn.libAbort.isAbort = true) rfl).elim

theorem execExceptionPath3_spec (n : Nat) (e : Exn) (d : Decision) :
    ⦃fun w => ⌜FailPost cfg tl β n .exception (some e) d (view cfg w)⌝⦄
    execExceptionPath3 cfg tl (n + 1) e d ⦃execPost cfg tl β n⦄ := by
  have e3 := failureOutcome_spec cfg tl β n .exception (some e) d
  have e4 := callAttemptEndFromOutcome_spec cfg
  have e5 := abortOutcome_spec cfg tl β
  have e6 := buildOutcome_spec cfg
  mvcgen -leave -trivial [execExceptionPath3, deliverExecute, getRS, modifyAS, e3, e4, e5, e6]
  vc_intro
  all_goals (clear e3 e4 e5 e6; try simp +zetaDelta only [view_set_as, *])
  · exact deliver_continue ‹_› ‹_›                                     -- action `continue`
  · exact Or.inr (deliver_abort ‹After ..› ‹_›)                        -- action `abort`: `_abort_outcome` may be entered
  · exact ‹FinalO ..›                                                  -- …and its outcome is explained
  · subst_vars                                                         -- any other action: a failure outcome
    obtain ⟨-, ho⟩ := ‹_ ∧ OutcomeOf ..›
    simp +zetaDelta only [view_set_as, *] at ho
    exact fun tl' => Done.final_fail (exec_other ‹After ..› ‹_› ‹_›) ho tl'

theorem execExceptionPath2_spec (n : Nat) (e : Exn) (he : e.isAbort = false ∧ e.isExhausted = false) :
    ⦃fun w => ⌜OpFailed cfg tl β n e (view cfg w)⌝⦄ execExceptionPath2 cfg tl (n + 1) e ⦃execPost cfg tl β n⦄ := by
  have e1 := handleException_spec cfg tl β n e he
  have e2 := execExceptionPath3_spec cfg tl β n e
  have e3 := fun v h => checkAbortCaught_spec cfg tl β v h (n + 1)
  have e4 := execAbortExit_spec cfg tl β n (n + 1) e
  mvcgen -leave [execExceptionPath2, getRS, modifyAS, e1, e2, e3, e4]
  vc_intro
  all_goals (clear e1 e2 e3 e4; try simp +zetaDelta only [view_set_as, *])
  · exact ⟨_, (‹FailPost ..›).running (isRaise_false ‹_›)⟩ -- the decision was to retry: `check_abort` may be entered
  · obtain ⟨-, h⟩ := ‹_ ∧ (_ = true → _)›                    -- it aborted: the abort exit may be entered
    exact (h ‹_›).elim (fun h => Or.inr (Or.inl h)) Or.inr

theorem execExceptionPath_spec (n : Nat) (e : Exn) (he : e.isAbort = false ∧ e.isExhausted = false) :
    ⦃fun w => ⌜OpFailed cfg tl β n e (view cfg w)⌝⦄ execExceptionPath cfg tl (n + 1) e ⦃execPost cfg tl β n⦄ := by
  have e1 := fun v h => checkAbortCaught_spec cfg tl β v h (n + 1)
  have e2 := execExceptionPath2_spec cfg tl β n e he
  have e4 := execAbortExit_spec cfg tl β n (n + 1) e
  mvcgen -leave [execExceptionPath, modifyAS, e1, e2, e4]
  vc_intro
  all_goals (clear e1 e2 e4; try simp +zetaDelta only [view_set_as, *])
  · exact ⟨n, (‹OpFailed ..›).running⟩
  · obtain ⟨-, h⟩ := ‹_ ∧ (_ = true → _)›
    exact (h ‹_›).elim (fun h => Or.inr (Or.inl h)) Or.inr

def PreX (n : Nat) (e : Exn) (v : View) : Prop :=
  AbX cfg tl β e v ∨ (Running cfg tl β n v ∧ v.mon.opExn = some e)

theorem execHandler_spec (n : Nat) (e : Exn) :
    ⦃fun w => ⌜e.isException = true → PreX cfg tl β n e (view cfg w)⌝⦄ execHandler cfg tl (n + 1) e
    ⦃execPost cfg tl β n⦄ := by
  have e1 := execAbortExit_spec cfg tl β n (n + 1) e
  have e2 := execExceptionPath_spec cfg tl β n e
  mvcgen -leave [execHandler, e1, e2]
  vc_intro
  · rcases ‹_ → PreX ..› ((Exn.abort_flags ‹_›).1) with (h | ⟨_, h⟩) | ⟨h, _⟩
    · exact Or.inr (Or.inl h)
    · exact Or.inr h
    · exact Or.inl ⟨n, h⟩
  · rcases ‹_ → PreX ..› ‹_› with (h | ⟨rfl, _⟩) | ⟨h, h'⟩
    · exact ⟨Or.inl h, Or.inl h⟩
    · exact absurd rfl ‹¬ Exn.libAbort.isAbort = true›
    · exact ⟨h, Or.inr h'⟩
  · exact ⟨Bool.eq_false_iff.mpr ‹_›, Bool.eq_false_iff.mpr ‹_›⟩

abbrev execResultPost (n : Nat) : PostCond (Option Outcome) (.except Exn (.arg World .pure)) :=
  post⟨fun r w => ⌜ExecStep cfg tl β n r (view cfg w)⌝,
       fun e w => ⌜e.isException = true → MidX cfg tl β e (view cfg w)⌝⟩

theorem execResultFailure_spec (n x : Nat) (c : Classification) :
    ⦃fun w => ⌜HeardPre cfg tl β n c.klass .result none (view cfg w)⌝⦄
    execResultFailure cfg tl (n + 1) x c ⦃execResultPost cfg tl β n⦄ := by
  have e1 := fun v h => checkAbort_spec cfg tl β v h (n + 1)
  have e2 := handleFailure_spec cfg tl β n c .result none (some x) (fun _ => rfl) (fun _ h => nomatch h)
  have e3 := failureOutcome_spec cfg tl β n .result none
  have e4 := callAttemptEndFromOutcome_spec cfg
  have e5 := abortOutcome_spec cfg tl β
  have e6 := buildOutcome_spec cfg
  mvcgen -leave -trivial [execResultFailure, deliverExecute, getRS, modifyAS, e1, e2, e3, e4, e5, e6]
  vc_intro
  all_goals (clear e1 e2 e3 e4 e5 e6; try simp +zetaDelta only [view_set_as, *])
  · exact ⟨n, (‹HeardPre ..›).running⟩                                     -- `check_abort` may be entered
  -- the decision was `raise`: straight to the outcome and its delivery
  · exact deliver_continue ‹_› ‹_›                                     -- action `continue`
  · exact Or.inr (deliver_abort ‹After ..› ‹_›)                        -- action `abort`: `_abort_outcome` may be entered
  · exact ‹FinalO ..›                                                  -- …and its outcome is explained
  · exact no_exception ‹_› ‹_›
  · subst_vars                                                         -- any other action: a failure outcome
    obtain ⟨-, ho⟩ := ‹_ ∧ OutcomeOf ..›
    simp +zetaDelta only [view_set_as, *] at ho
    exact fun tl' => Done.final_fail (exec_other ‹After ..› ‹_› ‹_›) ho tl'
  · exact MidX_hook                                                    -- `on_attempt_end` raised
  -- the decision was to retry: `check_abort` once more (the loop is still running), then the same exits
  · exact ⟨_, (‹FailPost ..›).running (isRaise_false ‹_›)⟩
  · exact deliver_continue ‹_› ‹_›                                     -- action `continue`
  · exact Or.inr (deliver_abort ‹After ..› ‹_›)                        -- action `abort`: `_abort_outcome` may be entered
  · exact ‹FinalO ..›                                                  -- …and its outcome is explained
  · exact no_exception ‹_› ‹_›
  · subst_vars                                                         -- any other action: a failure outcome
    obtain ⟨-, ho⟩ := ‹_ ∧ OutcomeOf ..›
    simp +zetaDelta only [view_set_as, *] at ho
    exact fun tl' => Done.final_fail (exec_other ‹After ..› ‹_› ‹_›) ho tl'
  · exact MidX_hook                                                    -- `on_attempt_end` raised
  · exact MidX.of_abx ‹_› ‹_›                                          -- `check_abort` raised
  · exact MidX.of_abx ‹_› ‹_›                                          -- `check_abort` raised

theorem execResultPath_spec (n x : Nat) :
    ⦃fun w => ⌜Running cfg tl β n (view cfg w)⌝⦄ execResultPath cfg tl (n + 1) x
    ⦃execResultPost cfg tl β n⦄ := by
  have e1 := shouldClassifyResult_spec cfg
  have e2 := handleSuccessAttemptEnd_spec cfg β tl n (n + 1) x
  have e3 := execResultFailure_spec cfg tl β n x
  have e6 := buildOutcome_spec cfg
  mvcgen -leave [execResultPath, e1, e2, e3, e6]
  vc_intro
  · simp only [*]
  · obtain ⟨h, ho⟩ := ‹_ ∧ OutcomeOf ..›
    simp only [h]
    exact fun tl' => Done.final_ok ‹_› ho tl'
  · simp only [*]
    exact ⟨Running_classified.mpr ‹_›, .classifiedResult _⟩
  · exact MidX.of_raised ‹_› ‹_› ‹_›

theorem execReturnedHandler_spec (n : Nat) (e : Exn) :
    ⦃fun w => ⌜e.isException = true → MidX cfg tl β e (view cfg w)⌝⦄ execReturnedHandler cfg tl (n + 1) e
    ⦃execPost cfg tl β n⦄ := by
  have e4 := execAbortExit_spec cfg tl β n (n + 1) e
  mvcgen -leave [execReturnedHandler, e4]
  vc_intro
  rcases ‹_ → MidX ..› ((Exn.abort_flags ‹_›).1) with h | ⟨h, _⟩ | ⟨_, h⟩
  · exact Or.inr (Or.inl h)
  · exact Or.inl h
  · exact Or.inr h

@[simp] theorem view_frame (w : World) (a : AState) (n oc : Nat) (bud : Budget.St) (br : Breaker.St) (xc : XCtx) :
    view cfg { w with as := a, attempts := n, opCalls := oc, budget := bud, breaker := br, xc := xc } = view cfg w := rfl

theorem execPre_spec (n : Nat) :
    ⦃fun w => ⌜Running cfg tl β n (view cfg w)⌝⦄ execPre cfg tl (n + 1)
    ⦃post⟨fun _ w => ⌜Running cfg tl β n (view cfg w)⌝,
          fun e w => ⌜e.isException = true → PreX cfg tl β n e (view cfg w)⌝⟩⦄ := by
  have e1 := fun v h => checkAbort_spec cfg tl β v h n
  have e2 := callAttemptStart_spec cfg
  have e3 := invokeOp_spec cfg
  mvcgen -leave [execPre, modifyAS, e1, e2, e3]
  vc_intro
  · exact ⟨n, ‹_›⟩
  · simp +zetaDelta only [view_frame, *]
    exact Running_opDone.mpr ‹_›
  · simp +zetaDelta only [view_frame, *]
    exact Or.inr ⟨Running_opDone.mpr ‹_›, rfl⟩
  · exact ‹_ → view cfg _ = _› ‹_› ▸ Or.inl AbX_hook
  · exact Or.inl (‹_ → AbX ..› ‹_›)

theorem execAttempt_spec (n : Nat) :
    ⦃fun w => ⌜Running cfg tl β n (view cfg w)⌝⦄ execAttempt cfg tl (n + 1) ⦃execPost cfg tl β n⦄ := by
  have e1 := execPre_spec cfg tl β n
  have e2 := execHandler_spec cfg tl β n
  have e3 := execResultPath_spec cfg tl β n
  have e4 := execReturnedHandler_spec cfg tl β n
  mvcgen -leave [execAttempt, e1, e2, e3, e4]
  vc_intro
  exact ‹_›

theorem buildExhaustedOutcome_spec (n : Nat) :
    ⦃fun w => ⌜Looping cfg β tl n (view cfg w)⌝⦄ buildExhaustedOutcome cfg tl
    ⦃post⟨fun o w => ⌜FinalO cfg tl β o (view cfg w)⌝, fun _ _ => ⌜True⌝⟩⦄ := by
  have e1 := emitMaxAttemptsExceeded_spec cfg β tl n
  have e2 := buildOutcome_spec cfg
  mvcgen -leave [buildExhaustedOutcome, e1, e2]
  vc_intro
  obtain ⟨h, ho⟩ := ‹_ ∧ OutcomeOf ..›
  simp only [h]
  exact fun tl' => Done.final_fail (‹Done .. ∧ _›).1 ho tl'

abbrev execRunPost : PostCond Outcome (.except Exn (.arg World .pure)) :=
  post⟨fun o w => ⌜FinalO cfg tl β o (view cfg w)⌝, fun _ _ => ⌜True⌝⟩

theorem execLoop_spec : ∀ (fuel n : Nat),
    ⦃fun w => ⌜Looping cfg β tl n (view cfg w)⌝⦄ execLoop cfg tl fuel (n + 1)
    ⦃execRunPost cfg tl β⦄
  | 0, n => by
    have e1 := buildExhaustedOutcome_spec cfg tl β n
    mvcgen -leave [execLoop, e1]
    vc_intro
  | f + 1, n => by
    have e1 := execAttempt_spec cfg tl β n
    have ih := execLoop_spec f (n + 1)
    mvcgen -leave [execLoop, e1, ih]
    vc_intro
    exact (‹Looping ..›).running

theorem runExecute_spec :
    ⦃fun w => ⌜Fresh β (view cfg w)⌝⦄ runExecute cfg ⦃execRunPost cfg cfg.timeline β⦄ := by
  have e1 := initState_spec cfg
  have e2 := execLoop_spec cfg cfg.timeline β cfg.maxAttempts 0
  mvcgen -leave [runExecute, e1, e2]
  vc_intro
  have hf := ‹Fresh ..›
  simp only [*]
  exact Fresh.looping ⟨hf.ms, hf.ls, hf.tags, hf.brk, hf.klass, hf.cause, hf.rej⟩ (fun _ => rfl)

end execmode

theorem retries_proj : ∀ {n : Nat} {G : List EvRec}, Retries n G → Retries n (G.map proj)
  | 0, _, h => by simp_all [Retries]
  | n + 1, _, ⟨x, R, hG, h1, h2, hR⟩ => ⟨proj x, R.map proj, by simp [hG], h1, h2, retries_proj hR⟩

theorem shapeOk_append : ∀ {n : Nat} {G : List EvRec}, Retries n G → ∀ (y : EvRec) (rest : List EvRec),
    shapeOk (G.reverse ++ y :: rest) 1 = shapeOk (y :: rest) (n + 1)
  | 0, _, h, y, rest => by simp_all [Retries]
  | n + 1, _, ⟨x, R, hG, h1, h2, hR⟩, y, rest => by
    subst hG
    rw [List.reverse_cons, List.append_assoc, List.singleton_append, shapeOk_append hR x (y :: rest)]
    simp [shapeOk, h1, h2]

theorem shapeOk_done {n : Nat} {G : List EvRec} {t : EvRec} (h : Retries n G) (ht : t.1 ≠ .retry) :
    shapeOk (t :: G).reverse 1 = true := by
  rw [List.reverse_cons, shapeOk_append h t []]
  simp [shapeOk, ht]

theorem terminalOk_proj {t : EvRec} {r : Res} (h : terminalOk true t r = true) : terminalOk false (proj t) r = true := by
  unfold terminalOk at *
  cases r with
  | ret v => simpa [proj] using h
  | outcome o tl =>
    simp only [proj, projTags] at *
    split <;> simp_all
    rcases h.2 with h' | h'
    · exact Or.inl h'
    · exact Or.inr h'.1
  -- for a raised result every case of `terminalOk` looks at `stop`, `klass` (kept by `proj`) and, only when `full`, at `err`
  | raised x => cases x <;> simp_all [proj, projTags]

/-- the breaker part is quiet: nothing announced is still unreported -/
abbrev quiet : Brk := (none, none, false)

def TlLink (cfg : Cfg) (e : Entry) (r : Res) (tlf : Bool) (v : View) : Prop :=
  timelineOf cfg e r = if tlf then some v.tl.reverse else none

theorem conjuncts_of_final {cfg : Cfg} {e : Entry} {r : Res} {tlf : Bool} {v : View}
    (hf : Final cfg tlf quiet r v) (hesc : v.esc = false) (hl : TlLink cfg e r tlf v) :
    streamShape cfg e v.mon r = true ∧ terminalTags cfg e v.mon r = true ∧ sinksAgree cfg e v.mon r = true
    ∧ breakerEventsShape v.mon = true ∧ v.rej = false := by
  rcases hf with hf | ⟨h1, h2, h3, t, n, G, hne, hG, ag, ht⟩
  · simp [hesc] at hf
  have hshape := shapeOk_done hG hne
  have hshape' := shapeOk_done (retries_proj hG) (t := proj t) (by simpa [proj] using hne)
  have sink : ∀ (b : Bool) (l : List EvRec), (l = if b then t :: G else []) →
      (!b || shapeOk l.reverse 1) = true ∧ (!b || lastOk true l r) = true := by
    intro b l hl
    subst hl
    cases b
    · exact ⟨rfl, rfl⟩
    · exact ⟨hshape, ht⟩
  have htl : tlf = true → v.tl.reverse = (proj t :: G.map proj).reverse := fun h => by rw [ag.tl h]; rfl
  have hbrk : v.mon.bm = none ∧ v.mon.bl = none ∧ v.mon.brkBad = false := by
    simpa [brkOf, quiet] using h2
  refine ⟨?_, ?_, ?_, ?_, h3⟩
  · unfold streamShape
    rw [hl, (sink _ _ ag.ms).1, (sink _ _ ag.ls).1]
    cases tlf
    · rfl
    · simp only [htl rfl, hshape', if_true, Bool.and_self]
  · unfold terminalTags
    rw [hl, (sink _ _ ag.ms).2, (sink _ _ ag.ls).2, h1]
    cases tlf
    · rfl
    · simp [htl rfl, lastOk, terminalOk_proj ht]
  · unfold sinksAgree
    rw [hl, ag.ms, ag.ls]
    clear sink hshape hshape' hbrk ht hG hne h1 h2 h3 hl
    cases cfg.metric <;> cases cfg.log <;> cases tlf <;> simp [htl]
  · simp [breakerEventsShape, hbrk]

theorem mem_nz_raisedBy (cfg : Cfg) (w : World) (x : Exn) (h : x ∈ (view cfg w).nz) :
    Mon.raisedBy isNonOp w.trace x = true := by
  rw [raisedBy_iff]
  simp only [view, raisedOf, List.mem_filterMap] at h ⊢
  obtain ⟨a, ha, hx⟩ := h
  refine ⟨a, ha, ?_⟩
  split at hx
  · rename_i hl; simp [isNonOp_of_loud _ hl, hx]
  · cases hx

theorem mem_oz_raisedBy (cfg : Cfg) (w : World) (x : Exn) (h : x ∈ (view cfg w).oz) :
    Mon.raisedBy Mon.isOp w.trace x = true := by
  rw [raisedBy_iff]; exact h

theorem guard_raised (cfg : Cfg) (w : World) (e : Entry) (x : Exn)
    (hn : endsNormally e w.trace.reverse (.raised x) = true)
    (hh : Mon.attemptHookFault w.trace.reverse = false) :
    x.isException = true ∧ ¬ Excused x (view cfg w) ∧ e.isExecute = false := by
  simp only [endsNormally, raisedBy_reverse, rejected_reverse, Bool.and_eq_true,
    Bool.not_eq_eq_eq_not, Bool.not_true] at hn
  obtain ⟨⟨he, hnz⟩, hk⟩ := hn
  rw [attemptHookFault_reverse] at hh
  refine ⟨?_, ?_, he⟩
  · -- the kinds `endsNormally` lets through are all `Exception`s
    cases x <;> simp_all [Exn.isException]
  · rintro (h | h | h | ⟨h1, h2⟩)
    · simp [view, hh] at h
    · rw [mem_nz_raisedBy cfg w x h] at hnz; cases hnz
    · -- `badKind` is the complement of the kinds `endsNormally` lets through
      cases x <;> simp_all [badKind]
    · -- a RetryExhaustedError is normal only if the operation did not raise it
      have := mem_oz_raisedBy cfg w x h2
      cases x <;> simp_all [Exn.isExhausted]

def Holds (cfg : Cfg) (e : Entry) (t : Trace) (r : Res) : Prop :=
  guard cfg e t r = true →
    (Mon.rejected t = false →
      streamShape cfg e (run cfg t) r = true ∧ terminalTags cfg e (run cfg t) r = true
      ∧ sinksAgree cfg e (run cfg t) r = true ∧ breakerEventsShape (run cfg t) = true)
    ∧ (Mon.rejected t = true → noRetryEvents cfg e (run cfg t) r = true ∧ breakerEventsShape (run cfg t) = true)

theorem Holds.ok {cfg : Cfg} {e : Entry} {t : Trace} {r : Res} (h : Holds cfg e t r) :
    Mon.C14.ok cfg e t r = true := by
  unfold Mon.C14.ok
  split
  · rename_i hg
    obtain ⟨h1, h2⟩ := h hg
    unfold verdict
    cases hr : Mon.rejected t
    · simp [h1 hr]
    · simp [h2 hr]
  · rfl

theorem guard_esc {cfg : Cfg} {e : Entry} {w : World} {r : Res} (hg : guard cfg e w.trace.reverse r = true) :
    (view cfg w).esc = false := by
  simp only [Mon.C14.guard, Bool.and_eq_true, Bool.not_eq_true', attemptHookFault_reverse] at hg
  exact hg.2

theorem guard_normal {cfg : Cfg} {e : Entry} {t : Trace} {r : Res} (hg : guard cfg e t r = true) :
    endsNormally e t r = true ∧ Mon.attemptHookFault t = false ∧ hasLoop cfg e = true := by
  simp only [Mon.C14.guard, Bool.and_eq_true, Bool.not_eq_true'] at hg
  exact ⟨hg.1.2, hg.2, hg.1.1⟩

theorem holds_of_final {cfg : Cfg} {e : Entry} {r : Res} {tlf : Bool} {w : World}
    (h : guard cfg e w.trace.reverse r = true →
      Final cfg tlf quiet r (view cfg w) ∧ TlLink cfg e r tlf (view cfg w)) :
    Holds cfg e w.trace.reverse r := by
  intro hg
  obtain ⟨hf, hl⟩ := h hg
  have h4 := conjuncts_of_final hf (guard_esc hg) hl
  have hrej : Mon.rejected w.trace.reverse = false := by
    rw [rejected_reverse]; exact h4.2.2.2.2
  rw [run_reverse]
  exact ⟨fun _ => ⟨h4.1, h4.2.1, h4.2.2.1, h4.2.2.2.1⟩, fun h => by rw [hrej] at h; cases h⟩

theorem fresh_start (cfg : Cfg) (w : World) : Fresh quiet (view cfg (startWorld w)) :=
  ⟨rfl, rfl, rfl, rfl, rfl, rfl, rfl⟩

theorem tlLink_call (cfg : Cfg) (e : Entry) (r : Res) (v : View) (he : e.isExecute = false) :
    TlLink cfg e r false v := by
  unfold TlLink timelineOf
  cases r <;> simp [he]

theorem holds_of_not_guard {cfg : Cfg} {e : Entry} {t : Trace} {r : Res} (h : Mon.C14.guard cfg e t r = false) :
    Holds cfg e t r := by
  intro hg; rw [h] at hg; cases hg

theorem guard_execute_raised (cfg : Cfg) (e : Entry) (t : Trace) (x : Exn) (he : e.isExecute = true) :
    Mon.C14.guard cfg e t (.raised x) = false := by
  simp [Mon.C14.guard, endsNormally, he]

theorem tlLink_execute (cfg : Cfg) (e : Entry) (o : Outcome) (w : World) (tlf : Bool) (he : e.isExecute = true)
    (ht : tlf = cfg.timeline) :
    TlLink cfg e (.outcome o (if tlf then w.timeline.reverse else [])) tlf (view cfg w) := by
  subst ht
  unfold TlLink timelineOf
  cases h : cfg.timeline <;> simp [he, view, List.map_reverse]

open Redress.Policy

section bookkeeping
variable (cfg : Cfg)

/-- `v'` arises from `v` by the policy wrapper's bookkeeping: breaker interactions and their events,
    a second classifier call; nothing the retry-level stream or the guard's facts depend on is lost -/
structure Bk (v v' : View) : Prop where
  ms : v'.mon.ms = v.mon.ms
  ls : v'.mon.ls = v.mon.ls
  tags : v'.mon.tagsBad = v.mon.tagsBad
  brk : brkOf v.mon = quiet → brkOf v'.mon = quiet
  tl : v'.tl = v.tl
  stop : v'.stop = v.stop
  lastClass : v'.lastClass = v.lastClass
  lastCause : v'.lastCause = v.lastCause
  lastExc : v'.lastExc = v.lastExc
  esc : v'.esc = v.esc
  rej : v'.rej = v.rej
  nz : ∀ x, x ∈ v.nz → x ∈ v'.nz
  oz : ∀ x, x ∈ v.oz → x ∈ v'.oz

theorem Bk.refl (v : View) : Bk v v := ⟨rfl, rfl, rfl, id, rfl, rfl, rfl, rfl, rfl, rfl, rfl, fun _ h => h, fun _ h => h⟩

theorem Bk.trans {v1 v2 v3 : View} (h1 : Bk v1 v2) (h2 : Bk v2 v3) : Bk v1 v3 :=
  ⟨h2.ms.trans h1.ms, h2.ls.trans h1.ls, h2.tags.trans h1.tags, fun h => h2.brk (h1.brk h), h2.tl.trans h1.tl,
   h2.stop.trans h1.stop, h2.lastClass.trans h1.lastClass, h2.lastCause.trans h1.lastCause,
   h2.lastExc.trans h1.lastExc, h2.esc.trans h1.esc, h2.rej.trans h1.rej,
   fun x h => h2.nz x (h1.nz x h), fun x h => h2.oz x (h1.oz x h)⟩

variable {cfg}

theorem Final.bk {tlf : Bool} {r : Res} {v v' : View} (h : Bk v v') (f : Final cfg tlf quiet r v) :
    Final cfg tlf quiet r v' := by
  rcases f with f | ⟨h1, h2, h3, t, n, G, hr, hG, ag, ht⟩
  · exact Or.inl (h.esc ▸ f)
  · exact Or.inr ⟨h.tags ▸ h1, h.brk h2, h.rej ▸ h3, t, n, G, hr, hG,
      ⟨h.ms ▸ ag.ms, h.ls ▸ ag.ls, by rw [h.tl]; exact ag.tl⟩, ht⟩

theorem Excused.bk {x : Exn} {v v' : View} (h : Bk v v') (f : Excused x v) : Excused x v' := by
  rcases f with f | f | f | ⟨f1, f2⟩
  · exact Or.inl (h.esc ▸ f)
  · exact Or.inr (Or.inl (h.nz x f))
  · exact Or.inr (Or.inr (Or.inl f))
  · exact Or.inr (Or.inr (Or.inr ⟨f1, h.oz x f2⟩))

theorem CallX.bk {x : Exn} {v v' : View} (h : Bk v v') (f : CallX cfg quiet x v) : CallX cfg quiet x v' :=
  f.elim (fun f => Or.inl (f.bk h)) (fun f => Or.inr (f.bk h))

theorem FinalO.bk {tlf : Bool} {o : Outcome} {v v' : View} (h : Bk v v') (f : FinalO cfg tlf quiet o v) :
    FinalO cfg tlf quiet o v' := fun tl' => (f tl').bk h

def brkEmit (cfg : Cfg) (s : St) (ev : Event) (st : CState) (k : Option EClass) : St :=
  let tags : Tags := { state := some st, klass := k, operation := cfg.opTag }
  let s1 := if cfg.metric then onMetric cfg s ev 0 0 tags else s
  if cfg.log then onLog cfg s1 ev 0 0 tags else s1

def brkPair (cfg : Cfg) (s : St) (ev : Option Event) (st : CState) (k : Option EClass) : St :=
  match ev with
  | none => s
  | some e => brkEmit cfg (expect cfg s (e, st, k)) e st k

theorem brkPair_bk (v : View) (ev : Option Event) (st : CState) (k : Option EClass)
    (hb : ∀ e, ev = some e → isBreakerEvent e = true) :
    Bk v { v with mon := brkPair cfg v.mon ev st k } := by
  cases ev with
  | none => exact Bk.refl v
  | some e =>
    have he := hb e rfl
    constructor <;> try rfl
    all_goals (cases hm : cfg.metric <;> cases hl : cfg.log <;>
      simp_all [brkPair, brkEmit, expect, onMetric, onLog, brkOf, brkTagsOk, quiet])
    all_goals (try (intro h; exact h))

variable (cfg)

theorem emitBreakerEvent_spec (v : View) (ev : Option Event) (st : CState) (k : Option EClass) :
    ⦃fun w => ⌜view cfg w = v⌝⦄ emitBreakerEvent cfg ev st k
    ⦃post⟨fun _ w => ⌜view cfg w = { v with mon := match ev with
                                                   | none => v.mon
                                                   | some e => brkEmit cfg v.mon e st k }⌝,
          fun e _ => ⌜e.isException = false⌝⟩⦄ := by
  have e1 := fun v e tags => swallowed_spec (askMetric_spec cfg v e 0 0 tags)
  have e2 := fun v e tags => swallowed_spec (askLog_spec cfg v e 0 0 tags none)
  cases ev with
  | none => mvcgen [emitBreakerEvent]
  | some e =>
    show ⦃_⦄ (do
      if cfg.metric then swallowed (askMetric e 0 0 { state := some st, klass := k, operation := cfg.opTag })
      else pure ()
      if cfg.log then swallowed (askLog e 0 0 { state := some st, klass := k, operation := cfg.opTag } none)
      else pure ()) ⦃_⦄
    mvcgen [e1, e2]
    all_goals (clear e1 e2; intros)
    all_goals simp_all only [brkEmit, if_true, if_false, Bool.not_eq_true, Bool.false_eq_true]

theorem isBreakerEvent_eq (e : Event) : isBreakerEvent e = e.isCircuit := by cases e <;> rfl

@[simp] theorem obs_breakerSuccess (v : View) (ev : Option Event) (st : CState) :
    obs cfg v .breakerSuccess (.recorded ev st) =
      { v with mon := match ev with | some e => expect cfg v.mon (e, st, none) | none => v.mon } := by
  cases ev <;> simp [obs, step, loud, isReject, Mon.isOp, Mon.isAttemptHook, raisedExn]

@[simp] theorem obs_breakerFailure (v : View) (k : EClass) (ev : Option Event) (st : CState) :
    obs cfg v (.breakerFailure k) (.recorded ev st) =
      { v with mon := match ev with | some e => expect cfg v.mon (e, st, some k) | none => v.mon } := by
  cases ev <;> simp [obs, step, loud, isReject, Mon.isOp, Mon.isAttemptHook, raisedExn]

@[simp] theorem obs_breakerCancel (v : View) (ev : Option Event) (st : CState) :
    obs cfg v .breakerCancel (.recorded ev st) = v := by
  simp [obs, step, loud, isReject, Mon.isOp, Mon.isAttemptHook, raisedExn]

@[simp] theorem obs_breakerAllow (v : View) (b : Bool) (ev : Option Event) (st : CState) :
    obs cfg v .breakerAllow (.admit b st ev) =
      { v with mon := (match ev with | some e => expect cfg v.mon (e, st, none) | none => v.mon),
               rej := !b || v.rej } := by
  cases ev <;> cases b <;> simp [obs, step, loud, isReject, Mon.isOp, Mon.isAttemptHook, raisedExn]

/-- the form in which the view after a breaker interaction and the report of its event comes out of the specs -/
theorem pair_eq (s : St) (ev : Option Event) (st : CState) (k : Option EClass) :
    (match ev with
     | none => (match ev with | some e => expect cfg s (e, st, k) | none => s)
     | some e => brkEmit cfg (match ev with | some e => expect cfg s (e, st, k) | none => s) e st k)
    = brkPair cfg s ev st k := by
  cases ev <;> rfl

abbrev bkPost (v : View) : PostCond α (.except Exn (.arg World .pure)) :=
  post⟨fun _ w => ⌜Bk v (view cfg w)⌝, fun e _ => ⌜e.isException = false⌝⟩

theorem recordSuccess_spec (v : View) :
    ⦃fun w => ⌜view cfg w = v⌝⦄ Policy.recordSuccess cfg ⦃bkPost cfg v⦄ := by
  have e1 := emitBreakerEvent_spec cfg
  mvcgen [Policy.recordSuccess, e1]
  all_goals (try clear e1)
  all_goals (try subst_vars)
  all_goals (try simp_all only [view_log2, obs_breakerSuccess, pair_eq])
  · exact Bk.refl _
  · exact fun _ => brkPair_bk _ _ _ _ (fun e h => isBreakerEvent_eq e ▸ Breaker.recordSuccess_ev _ e h)

theorem policyRecordFailure_spec (v : View) (k : EClass) :
    ⦃fun w => ⌜view cfg w = v⌝⦄ Policy.recordFailure cfg k ⦃bkPost cfg v⦄ := by
  have e1 := emitBreakerEvent_spec cfg
  mvcgen [Policy.recordFailure, e1]
  all_goals (try clear e1)
  all_goals (try subst_vars)
  all_goals (try simp_all only [view_log2, obs_breakerFailure, pair_eq])
  · exact Bk.refl _
  · exact fun _ => brkPair_bk _ _ _ _ (fun e h => isBreakerEvent_eq e ▸ Breaker.recordFailure_ev _ _ _ _ e h)

theorem recordCancel_spec (v : View) :
    ⦃fun w => ⌜view cfg w = v⌝⦄ Policy.recordCancel cfg
    ⦃post⟨fun _ w => ⌜view cfg w = v⌝, fun _ _ => ⌜False⌝⟩⦄ := by
  mvcgen [Policy.recordCancel]
  all_goals (try subst_vars)
  all_goals (try simp_all only [view_log2, obs_breakerCancel])

theorem breakerAllow_spec (v : View) (bc : Breaker.Cfg) :
    ⦃fun w => ⌜view cfg w = v⌝⦄ breakerAllow bc
    ⦃post⟨fun d w => ⌜view cfg w = obs cfg v .breakerAllow (.admit d.1 d.2.1 d.2.2)
                      ∧ ∀ e, d.2.2 = some e → isBreakerEvent e = true⌝, fun _ _ => ⌜False⌝⟩⦄ := by
  mvcgen [breakerAllow]
  all_goals (try subst_vars)
  all_goals (try simp only [view_log2])
  all_goals (exact ⟨trivial, fun e h => isBreakerEvent_eq e ▸ Breaker.allow_ev _ _ _ e h⟩)

structure RejectedV (v : View) : Prop where
  rej : v.rej = true
  ms : v.mon.ms = []
  ls : v.mon.ls = []
  brk : brkOf v.mon = quiet
  tl : v.tl = []

structure Idle (v : View) : Prop where
  fresh : Fresh quiet v
  tl : v.tl = []

theorem Idle.bk {v v' : View} (h : Bk v v') (i : Idle v) (hk : v'.mon.klass = none ∧ v'.mon.cause = none) : Idle v' :=
  ⟨⟨h.ms ▸ i.fresh.ms, h.ls ▸ i.fresh.ls, h.tags ▸ i.fresh.tags, h.brk i.fresh.brk, hk.1, hk.2, h.rej ▸ i.fresh.rej⟩,
   h.tl ▸ i.tl⟩

theorem brkPair_klass (s : St) (ev : Option Event) (st : CState) (k : Option EClass) :
    (brkPair cfg s ev st k).klass = s.klass ∧ (brkPair cfg s ev st k).cause = s.cause := by
  cases ev with
  | none => exact ⟨rfl, rfl⟩
  | some e =>
    cases hm : cfg.metric <;> cases hl : cfg.log <;> cases hb : isBreakerEvent e <;>
      simp [brkPair, brkEmit, expect, onMetric, onLog, hm, hl, hb]

theorem pair_idle (v : View) (hi : Idle v) (ev : Option Event) (st : CState) (k : Option EClass) (r : Bool)
    (hb : ∀ e, ev = some e → isBreakerEvent e = true) :
    (r = v.rej → Idle { v with mon := brkPair cfg v.mon ev st k, rej := r }) ∧
    (r = true → RejectedV { v with mon := brkPair cfg v.mon ev st k, rej := r }) := by
  have hbk := brkPair_bk (cfg := cfg) v ev st k hb
  have hk := brkPair_klass cfg v.mon ev st k
  constructor
  · intro hr
    subst hr
    exact hi.bk hbk ⟨hk.1.trans hi.fresh.klass, hk.2.trans hi.fresh.cause⟩
  · intro hr
    subst hr
    exact ⟨rfl, hbk.ms.trans hi.fresh.ms, hbk.ls.trans hi.fresh.ls, hbk.brk hi.fresh.brk, hi.tl⟩

theorem checkBreaker_spec (v : View) (hi : Idle v) :
    ⦃fun w => ⌜view cfg w = v⌝⦄ checkBreaker cfg
    ⦃post⟨fun _ w => ⌜Idle (view cfg w)⌝,
          fun x w => ⌜x.isException = true → (∃ st, x = .libCircuitOpen st) ∧ RejectedV (view cfg w)⌝⟩⦄ := by
  have e1 := breakerAllow_spec cfg
  have e2 := emitBreakerEvent_spec cfg
  mvcgen [checkBreaker, e1, e2]
  · exact ‹view cfg _ = _› ▸ hi
  · obtain ⟨h1, hb⟩ := ‹_ ∧ ∀ e : Event, _›
    subst_vars
    simp only [*, obs_breakerAllow, pair_eq]
    exact (pair_idle cfg _ hi _ _ _ _ hb).1 rfl
  · obtain ⟨h1, hb⟩ := ‹_ ∧ ∀ e : Event, _›
    subst_vars
    simp only [*, obs_breakerAllow, pair_eq]
    exact fun _ => ⟨⟨_, rfl⟩, (pair_idle cfg _ hi _ _ _ _ hb).2 rfl⟩
  · exact no_exception

variable {cfg}

@[simp] theorem Excused_classified {x : Exn} {v : View} {k : EClass} {c : Cause} :
    Excused x (v.classified k c) ↔ Excused x v := by
  simp [Excused, View.classified]

@[simp] theorem CallX_classified {x : Exn} {v : View} {k : EClass} {c : Cause} :
    CallX cfg quiet x (v.classified k c) ↔ CallX cfg quiet x v := by
  simp [CallX]

theorem bk_classified (v : View) (k : EClass) (c : Cause) : Bk v (v.classified k c) := by
  constructor <;> simp [View.classified, brkOf]

theorem bk_raised (v : View) (e : Exn) : Bk v (v.raised e false) := by
  constructor <;> simp [View.raised, brkOf]
  intro x hx; exact Or.inr hx

variable (cfg)

/-- `_handle_exception_call` for a policy with a retry component: classify once more, record the failure -/
theorem handleExceptionCall_spec (hret : cfg.hasRetry = true) (v : View) (e : Exn) (onEnd : Bool) :
    ⦃fun w => ⌜view cfg w = v⌝⦄ handleExceptionCall cfg e onEnd
    ⦃post⟨fun _ w => ⌜Bk v (view cfg w)⌝,
          fun x w => ⌜x.isException = true → Bk v (view cfg w) ∧ x ∈ (view cfg w).nz⌝⟩⦄ := by
  have e1 := callClassifier_spec cfg
  have e2 := policyRecordFailure_spec cfg
  unfold handleExceptionCall classifyForBreaker
  simp only [hret, Bool.not_true, Bool.false_and, Bool.false_eq_true, if_false, if_true]
  mvcgen [e1, e2]
  · subst_vars; exact Bk.refl _
  · intro h
    subst_vars
    rw [‹view cfg _ = _›] at h
    exact (bk_classified _ _ _).trans h
  · exact no_exception
  · intro h hx
    subst_vars
    rw [h hx]
    exact ⟨bk_raised _ _, List.mem_cons_self⟩

theorem handleAbortCall_spec (hret : cfg.hasRetry = true) (v : View) (e : Exn) :
    ⦃fun w => ⌜view cfg w = v⌝⦄ handleAbortCall cfg e
    ⦃post⟨fun _ w => ⌜view cfg w = v⌝, fun _ _ => ⌜False⌝⟩⦄ := by
  have e1 := recordCancel_spec cfg
  unfold handleAbortCall
  simp only [hret, Bool.not_true, Bool.false_eq_true, if_false]
  mvcgen [e1]

theorem handleExhaustedCall_spec (v : View) (e : Exn) :
    ⦃fun w => ⌜view cfg w = v⌝⦄ handleExhaustedCall cfg e ⦃bkPost cfg v⦄ := by
  have e2 := policyRecordFailure_spec cfg
  mvcgen [handleExhaustedCall, e2]

variable {cfg} in
theorem RejectedV.bk {v v' : View} (h : Bk v v') (r : RejectedV v) : RejectedV v' :=
  ⟨h.rej ▸ r.rej, h.ms.trans r.ms, h.ls.trans r.ls, h.brk r.brk, h.tl.trans r.tl⟩

def PCallX (x : Exn) (v : View) : Prop :=
  CallX cfg quiet x v ∨ ((∃ st, x = .libCircuitOpen st) ∧ RejectedV v)

variable {cfg} in
theorem PCallX.bk {x : Exn} {v v' : View} (h : Bk v v') (f : PCallX cfg x v) : PCallX cfg x v' :=
  f.elim (fun f => Or.inl (f.bk h)) (fun f => Or.inr ⟨f.1, f.2.bk h⟩)

abbrev pcallPost : PostCond Nat (.except Exn (.arg World .pure)) :=
  post⟨fun x w => ⌜Final cfg false quiet (.ret x) (view cfg w)⌝,
       fun x w => ⌜x.isException = true → PCallX cfg x (view cfg w)⌝⟩

/-- from a spec of a piece of bookkeeping about the view to: what bookkeeping cannot disturb is kept -/
theorem of_bk {α : Type} {x : M α} {I : View → Prop} {X : View → Exn → World → Prop} {E : Exn → World → Prop}
    (hx : ∀ v, ⦃fun w => ⌜view cfg w = v⌝⦄ x ⦃exits (fun _ w => Bk v (view cfg w)) (X v)⦄)
    (hI : ∀ v v', Bk v v' → I v → I v') (hE : ∀ v e w, I v → X v e w → E e w) :
    ⦃fun w => ⌜I (view cfg w)⌝⦄ x ⦃exits (fun _ w => I (view cfg w)) E⦄ :=
  fun w hw => triple_mono (hx (view cfg w)) (fun _ h => h) (fun _ _ h => hI _ _ h hw) (fun e w' h => hE _ e w' hw h)
    w rfl

/-- …for a piece that leaves the view as it is and does not raise -/
theorem of_same {α : Type} {x : M α} {I : View → Prop} {E : Exn → World → Prop}
    (hx : ∀ v, ⦃fun w => ⌜view cfg w = v⌝⦄ x ⦃post⟨fun _ w => ⌜view cfg w = v⌝, fun _ _ => ⌜False⌝⟩⦄) :
    ⦃fun w => ⌜I (view cfg w)⌝⦄ x ⦃exits (fun _ w => I (view cfg w)) E⦄ :=
  fun w hw => triple_mono (hx (view cfg w)) (fun _ h => h) (fun _ _ h => h ▸ hw) (fun _ _ h => h.elim) w rfl

theorem call_arm {x : M Unit} {e : Exn} (hx : ∀ v, ⦃fun w => ⌜view cfg w = v⌝⦄ x ⦃bkPost cfg v⦄) :
    ⦃fun w => ⌜e.isException = true → PCallX cfg e (view cfg w)⌝⦄ x
    ⦃armPost (fun x w => x.isException = true → PCallX cfg x (view cfg w)) e⦄ :=
  of_bk cfg (I := fun v => e.isException = true → PCallX cfg e v) hx (fun _ _ h f hx => (f hx).bk h)
    fun _ _ _ _ h hx => no_exception h hx

theorem recordCancel_arm (e : Exn) :
    ⦃fun w => ⌜e.isException = true → PCallX cfg e (view cfg w)⌝⦄ Policy.recordCancel cfg
    ⦃armPost (fun x w => x.isException = true → PCallX cfg x (view cfg w)) e⦄ :=
  of_same cfg (I := fun v => e.isException = true → PCallX cfg e v) (recordCancel_spec cfg)

theorem callLadder_spec (hret : cfg.hasRetry = true) (e : Exn) :
    ⦃fun w => ⌜e.isException = true → PCallX cfg e (view cfg w)⌝⦄ callLadder cfg e ⦃pcallPost cfg⦄ :=
  callLadder_rule e (fun _ => recordCancel_arm cfg e)
    (fun _ => of_same cfg (I := fun v => e.isException = true → PCallX cfg e v)
      fun v => handleAbortCall_spec cfg hret v e)
    (fun _ => call_arm cfg fun v => handleExhaustedCall_spec cfg v e)
    (fun _ _ _ => of_bk cfg (I := fun v => e.isException = true → PCallX cfg e v)
      (fun v => handleExceptionCall_spec cfg hret v e true) (fun _ _ h f hx => (f hx).bk h)
      fun _ _ _ _ h hx => Or.inl (Or.inl (Or.inr (Or.inl (h hx).2))))
    (fun _ _ h => h)

theorem policyCall_spec (hret : cfg.hasRetry = true) :
    ⦃fun w => ⌜Idle (view cfg w)⌝⦄ Policy.call cfg ⦃pcallPost cfg⦄ :=
  settled_rule (P := fun w => Idle (view cfg w)) (fun _ h => h)
    (callAdmitted_retry_rule hret
      (fun w hw => triple_raise (checkBreaker_spec cfg _ hw) (fun _ _ h hx => Or.inr (h hx)) w rfl)
      (triple_mono (runCall_spec cfg quiet) (fun _ h => h.fresh) (fun _ _ h => h) (fun _ _ h hx => Or.inl (h hx)))
      (fun x => of_bk cfg (I := Final cfg false quiet (.ret x)) (recordSuccess_spec cfg) (fun _ _ h f => f.bk h)
        fun _ _ _ _ h hx => no_exception h hx)
      (callLadder_spec cfg hret))
    (fun x => of_same cfg (I := Final cfg false quiet (.ret x)) (recordCancel_spec cfg)) (recordCancel_arm cfg)

def PExecO (o : Outcome) (v : View) : Prop := FinalO cfg cfg.timeline quiet o v ∨ RejectedV v

variable {cfg} in
theorem PExecO.bk {o : Outcome} {v v' : View} (h : Bk v v') (f : PExecO cfg o v) : PExecO cfg o v' :=
  f.elim (fun f => Or.inl (f.bk h)) (fun f => Or.inr (f.bk h))

abbrev pexecPost : PostCond Outcome (.except Exn (.arg World .pure)) :=
  post⟨fun o w => ⌜PExecO cfg o (view cfg w)⌝, fun _ _ => ⌜True⌝⟩

theorem exec_bk {α : Type} {x : M α} {I : View → Prop} {X : View → Exn → World → Prop}
    (hx : ∀ v, ⦃fun w => ⌜view cfg w = v⌝⦄ x ⦃exits (fun _ w => Bk v (view cfg w)) (X v)⦄)
    (hI : ∀ v v', Bk v v' → I v → I v') :
    ⦃fun w => ⌜I (view cfg w)⌝⦄ x ⦃post⟨fun _ w => ⌜I (view cfg w)⌝, fun _ _ => ⌜True⌝⟩⦄ :=
  of_bk cfg hx hI fun _ _ _ _ _ => trivial

def Asked (d : Bool × CState × Option Event) (v : View) : Prop :=
  (d.1 = true → Idle v) ∧ (¬ d.1 = true → RejectedV v)

theorem policyExecute_spec (hret : cfg.hasRetry = true) :
    ⦃fun w => ⌜Idle (view cfg w)⌝⦄ Policy.execute cfg ⦃pexecPost cfg⦄ :=
  settled_rule (P := fun w => Idle (view cfg w)) (E := fun _ _ => True) (fun _ h => h)
    (executeAdmitted_rule (Pd := fun d w => Asked d (view cfg w))
      (Pa := fun d w => ∃ v, Idle v ∧ view cfg w = obs cfg v .breakerAllow (.admit d.1 d.2.1 d.2.2) ∧
        ∀ e, d.2.2 = some e → isBreakerEvent e = true)
      (fun bc w hw => triple_mono (breakerAllow_spec cfg (view cfg w) bc) (fun _ h => h)
        (fun _ _ h => ⟨_, hw, h.1, h.2⟩) (fun _ _ h => h.elim) w rfl)
      (fun d w hw => triple_mono (emitBreakerEvent_spec cfg (view cfg w) d.2.2 d.2.1 none) (fun _ h => h)
        (fun _ w' h => by
          obtain ⟨v, hi, hv, hb⟩ := hw
          have hp := pair_idle cfg v hi d.2.2 d.2.1 none (!d.1 || v.rej) hb
          rw [h, hv, obs_breakerAllow]
          simp only [pair_eq]
          exact ⟨fun hd => hp.1 (by simp [hd]), fun hd => hp.2 (by simp [hd])⟩)
        (fun _ _ _ => trivial) w rfl)
      (fun _ _ hd h => h.1 hd) (fun _ _ hd h => Or.inr (h.2 hd))
      (executeAdmitted2_retry_rule hret
        (triple_mono (runExecute_spec cfg quiet) (fun _ h => h.fresh) (fun _ _ h => Or.inl h)
          (fun _ _ h => h))
        (fun e => executeLadder_rule (S := fun _ => True) e
          (fun _ => exec_bk cfg (I := fun _ => True) (fun v => handleExhaustedCall_spec cfg v e) fun _ _ _ h => h)
          (fun _ => of_same cfg (I := fun _ => True) (recordCancel_spec cfg))
          (fun _ _ _ => exec_bk cfg (I := fun _ => True) (fun v => handleExceptionCall_spec cfg hret v e false)
            fun _ _ _ h => h)
          (fun _ _ h => h))
        (fun o => exec_bk cfg (I := PExecO cfg o) (recordSuccess_spec cfg) fun _ _ h f => f.bk h)
        (fun o k => exec_bk cfg (I := PExecO cfg o) (fun v => policyRecordFailure_spec cfg v k) fun _ _ h f => f.bk h)
        (fun o => of_same cfg (I := PExecO cfg o) (recordCancel_spec cfg))))
    (fun o => of_same cfg (I := PExecO cfg o) (recordCancel_spec cfg))
    (fun _ => of_same cfg (I := fun _ => True) (recordCancel_spec cfg))

end bookkeeping


theorem idle_start (cfg : Cfg) (w : World) : Idle (view cfg (startWorld w)) := ⟨fresh_start cfg w, rfl⟩

theorem holds_of_rejected {cfg : Cfg} {e : Entry} {r : Res} {w : World} (h : RejectedV (view cfg w))
    (htl : ∀ tl, timelineOf cfg e r = some tl → tl = []) :
    Holds cfg e w.trace.reverse r := by
  intro _
  have hrej : Mon.rejected w.trace.reverse = true := by rw [rejected_reverse]; exact h.rej
  rw [run_reverse]
  refine ⟨fun hh => absurd (hrej.symm.trans hh) (by simp), fun _ => ⟨?_, ?_⟩⟩
  · have hms := h.ms
    have hls := h.ls
    simp only [view] at hms hls
    unfold noRetryEvents
    cases ht : timelineOf cfg e r with
    | none => simp [hms, hls]
    | some tl => simp [hms, hls, htl tl ht]
  · have := h.brk
    simp only [brkOf, quiet, Prod.mk.injEq, view] at this
    simp [breakerEventsShape, this.1, this.2.1, this.2.2]

theorem guard_no_loop (cfg : Cfg) (e : Entry) (t : Trace) (r : Res) (h : hasLoop cfg e = false) :
    Mon.C14.guard cfg e t r = false := by
  simp [Mon.C14.guard, h]

theorem holds_ret {cfg : Cfg} {e : Entry} {w : World} {x : Nat} (he : e.isExecute = false)
    (h : Final cfg false quiet (.ret x) (view cfg w)) : Holds cfg e w.trace.reverse (.ret x) :=
  holds_of_final (tlf := false) (fun _ => ⟨h, tlLink_call _ _ _ _ he⟩)

theorem holds_raised {cfg : Cfg} {e : Entry} {w : World} {x : Exn} (he : e.isExecute = false)
    (h : x.isException = true → PCallX cfg x (view cfg w)) : Holds cfg e w.trace.reverse (.raised x) := by
  intro hg
  obtain ⟨hn, hh, _⟩ := guard_normal hg
  obtain ⟨hx, hne, _⟩ := guard_raised cfg _ _ _ hn hh
  rcases h hx with hc | ⟨_, hr⟩
  · exact holds_of_final (tlf := false) (fun _ => ⟨hc.resolve_left hne, tlLink_call _ _ _ _ he⟩) hg
  · exact holds_of_rejected hr (by simp [timelineOf]) hg

theorem holds_outcome {cfg : Cfg} {e : Entry} {w : World} {o : Outcome} {tlf : Bool} (he : e.isExecute = true)
    (ht : tlf = cfg.timeline) (h : PExecO cfg o (view cfg w)) :
    Holds cfg e w.trace.reverse (.outcome o (if tlf then w.timeline.reverse else [])) := by
  subst ht
  rcases h with hf | hr
  · exact holds_of_final (tlf := cfg.timeline) (fun _ => ⟨hf _, tlLink_execute _ _ _ _ _ he rfl⟩)
  · refine holds_of_rejected hr fun tl ht => ?_
    have htl := hr.tl
    simp only [view, List.map_eq_nil_iff] at htl
    simp only [timelineOf] at ht
    split at ht
    · cases ht; simp [htl]
    · cases ht



/-- Every conjunct of C14 at once, for one call from any world. -/
theorem holds (cfg : Cfg) (e : Entry) (w : World) :
    Holds cfg e (runEntry cfg e w).2.trace.reverse (runEntry cfg e w).1 := by
  cases e with
  | call =>
    exact toRes_of_triple (Q := fun r w' => Holds cfg .call w'.trace.reverse r)
      (triple_mono (runCall_spec cfg quiet) (fun _ h => h) (fun _ _ h => holds_ret rfl h)
        (fun _ _ h => holds_raised rfl fun hx => Or.inl (h hx)))
      (startWorld w) (fresh_start cfg w)
  | execute =>
    exact toResO_of_triple (Q := fun r w' => Holds cfg .execute w'.trace.reverse r) cfg.timeline
      (triple_mono (runExecute_spec cfg quiet) (fun _ h => h) (fun _ _ h => holds_outcome rfl rfl (Or.inl h))
        (fun _ _ _ => holds_of_not_guard (guard_execute_raised _ _ _ _ rfl)))
      (startWorld w) (fresh_start cfg w)
  | pcall =>
    cases hret : cfg.hasRetry with
    | false => exact holds_of_not_guard (guard_no_loop _ _ _ _ (by simp [hasLoop, hret, Entry.isPolicy]))
    | true =>
      exact toRes_of_triple (Q := fun r w' => Holds cfg .pcall w'.trace.reverse r)
        (triple_mono (policyCall_spec cfg hret) (fun _ h => h)
          (fun _ _ h => holds_ret rfl h) (fun _ _ h => holds_raised rfl h))
        (startWorld w) (idle_start cfg w)
  | pexecute =>
    cases hret : cfg.hasRetry with
    | false => exact holds_of_not_guard (guard_no_loop _ _ _ _ (by simp [hasLoop, hret, Entry.isPolicy]))
    | true =>
      exact toResO_of_triple (Q := fun r w' => Holds cfg .pexecute w'.trace.reverse r) (cfg.timeline && cfg.hasRetry)
        (triple_mono (policyExecute_spec cfg hret) (fun _ h => h)
          (fun _ _ h => holds_outcome rfl (by simp [hret]) h)
          (fun _ _ _ => holds_of_not_guard (guard_execute_raised _ _ _ _ rfl)))
        (startWorld w) (idle_start cfg w)

/--
**C14, conjunct 1 (`stream_shape`).**  For every configuration, entry point and world: if the run ends
normally (the monitor's guard) and was not rejected by the breaker, then the REQUESTS to the metric hook,
those to the log hook and the captured timeline are each `retry(1,·) … retry(n,·)` followed by exactly
one terminal event.
-/
theorem stream_shape (cfg : Cfg) (e : Entry) (w : World)
    (hg : Mon.C14.guard cfg e (runEntry cfg e w).2.trace.reverse (runEntry cfg e w).1 = true)
    (hr : Mon.rejected (runEntry cfg e w).2.trace.reverse = false) :
    streamShape cfg e (run cfg (runEntry cfg e w).2.trace.reverse) (runEntry cfg e w).1 = true :=
  ((holds cfg e w hg).1 hr).1

/--
**C14, conjunct 2 (`terminal_tags`).**  Every retry-level event's tags describe the failure in progress
(class and cause as the classifier announced them, `err` the type name of what the operation raised,
`operation`; `success` carries nothing, `aborted` only its reason), and the terminal event agrees with the
delivered result (`success` ⇔ success; `stop_reason` = the delivered stop reason; class / cause / err of the
final failure).
-/
theorem terminal_tags (cfg : Cfg) (e : Entry) (w : World)
    (hg : Mon.C14.guard cfg e (runEntry cfg e w).2.trace.reverse (runEntry cfg e w).1 = true)
    (hr : Mon.rejected (runEntry cfg e w).2.trace.reverse = false) :
    terminalTags cfg e (run cfg (runEntry cfg e w).2.trace.reverse) (runEntry cfg e w).1 = true :=
  ((holds cfg e w hg).1 hr).2.1

/--
**C14, conjunct 3 (`sinks_agree`).**  The log hook is asked exactly what the metric hook is asked, and the
captured timeline is the projection of that stream (also when a hook raises an `Exception`: the composite
hook records before it calls `on_metric`).
-/
theorem sinks_agree (cfg : Cfg) (e : Entry) (w : World)
    (hg : Mon.C14.guard cfg e (runEntry cfg e w).2.trace.reverse (runEntry cfg e w).1 = true)
    (hr : Mon.rejected (runEntry cfg e w).2.trace.reverse = false) :
    sinksAgree cfg e (run cfg (runEntry cfg e w).2.trace.reverse) (runEntry cfg e w).1 = true :=
  ((holds cfg e w hg).1 hr).2.2.1

/--
**C14, conjunct 4 (`breaker_events_shape`).**  Every transition / rejection the breaker announced is
reported to each configured hook, once, with attempt 0, sleep 0, the breaker's state (and the failure class
for `record_failure`) and `operation`; no other breaker event is reported.  Also for rejected calls.
-/
theorem breaker_events_shape (cfg : Cfg) (e : Entry) (w : World)
    (hg : Mon.C14.guard cfg e (runEntry cfg e w).2.trace.reverse (runEntry cfg e w).1 = true) :
    breakerEventsShape (run cfg (runEntry cfg e w).2.trace.reverse) = true := by
  cases hr : Mon.rejected (runEntry cfg e w).2.trace.reverse
  · exact ((holds cfg e w hg).1 hr).2.2.2
  · exact ((holds cfg e w hg).2 hr).2

/-- A call the breaker rejected produces no retry-level event at all, in any sink. -/
theorem rejected_silent (cfg : Cfg) (e : Entry) (w : World)
    (hg : Mon.C14.guard cfg e (runEntry cfg e w).2.trace.reverse (runEntry cfg e w).1 = true)
    (hr : Mon.rejected (runEntry cfg e w).2.trace.reverse = true) :
    noRetryEvents cfg e (run cfg (runEntry cfg e w).2.trace.reverse) (runEntry cfg e w).1 = true :=
  ((holds cfg e w hg).2 hr).1

/--
**C14.**  For every configuration, every entry point (`Retry`/`Policy` × `call`/`execute`) and every world —
every answer stream, clock value and state of a shared budget or breaker — the run satisfies the
event-stream monitor `Mon.C14.ok` (the same function the driver evaluates on the implementation's log).
-/
theorem events_hold (cfg : Cfg) (e : Entry) (w : World) :
    Mon.C14.ok cfg e (runEntry cfg e w).2.trace.reverse (runEntry cfg e w).1 = true :=
  (holds cfg e w).ok

/-- …and therefore of every call in every script of calls and clock advances on ONE policy object. -/
theorem events_hold_script (cfg : Cfg) : ∀ (steps : List Step) (w : World),
    ∀ l ∈ (runScript cfg steps w).1, Mon.C14.ok cfg l.entry l.trace l.res = true :=
  forall_script (P := fun e t r => Mon.C14.ok cfg e t r = true) cfg (events_hold cfg)

/-! Non-vacuity of the guard (tests on concrete LOGS, not runs of the model): a call that succeeds at the
    second attempt, and a call that re-raises the operation's exception; the guard holds and the monitor
    accepts. -/
example :
    let t : Trace :=
      [(.op 1, .raise (.ordinary 1 .transient) 0), (.classify "o1", .klass ⟨.transient, none⟩ 0),
       (.metric .retry 1 3 { klass := some .transient, err := some "XTRANSIENT", cause := some .exception }, .unit 0),
       (.op 2, .value 7 0), (.metric .success 2 0 {}, .unit 0)]
    Mon.C14.guard { metric := true } .call t (.ret 7) = true ∧ Mon.C14.ok { metric := true } .call t (.ret 7) = true := by
  decide

example :
    let x : Exn := .ordinary 1 .permanent
    let t : Trace :=
      [(.op 1, .raise x 0), (.classify "o1", .klass ⟨.permanent, none⟩ 0),
       (.metric .permanentFail 1 0 (Tags.mk (some .permanent) (some "XGEN") (some .nonRetryableClass)
          (some .exception) none none), .unit 0)]
    Mon.C14.guard { metric := true } .call t (.raised x) = true ∧ Mon.C14.ok { metric := true } .call t (.raised x) = true := by
  decide

/-- a rejected call (hypotheses of `rejected_silent` / `breaker_events_shape`) -/
example :
    let t : Trace :=
      [(.breakerAllow, .admit false .opened (some .circuitRejected)),
       (.metric .circuitRejected 0 0 { state := some .opened }, .unit 0)]
    Mon.C14.guard { metric := true } .pcall t (.raised (.libCircuitOpen .opened)) = true
    ∧ Mon.rejected t = true
    ∧ Mon.C14.ok { metric := true } .pcall t (.raised (.libCircuitOpen .opened)) = true := by
  decide

/-- …and teeth: a second terminal event is rejected. -/
example :
    let t : Trace :=
      [(.op 1, .value 7 0), (.metric .success 1 0 {}, .unit 0), (.metric .success 1 0 {}, .unit 0)]
    Mon.C14.ok { metric := true } .call t (.ret 7) = false := by
  decide

end Redress.Props.C14
