/-
  C11H — `execute()`'s outcome reports `attempts` = the number of times the operation was invoked,
  also in the runs `Mon.C11` does not judge because an attempt hook or the abort predicate RAISED.

  The theorem is about `Mon.C11H.ok` (Redress/MonitorsNR.lean), the monitor the driver also evaluates on the
  implementation's logs: for EVERY configuration, entry point and world (answer stream, clock, component
  states) the model's run satisfies it.

  Scope of the monitor: `execute()` with a retry loop, and no invocation of the operation FOLLOWS a start
  hook / abort predicate that raised a plain `Exception` (`preOpFault`).  In scope, in particular: hooks or
  `abort_if` raising `AbortRetryError` / cancellation kinds / `RetryExhaustedError`; end hooks raising
  anything; a start hook / `abort_if` raising a plain `Exception` that ends the run without another
  invocation; calls rejected by the breaker.

  Proof.  `execPre` sets `attempts := attempt` only AFTER the abort poll and the start hook returned and
  immediately before the invocation, and everything else in the loop leaves `attempts` and the number of `op`
  exchanges alone (`Q`: for the leaf procedures a consequence of their footprints, `Lemmas/Footprint.lean`; for
  the procedures built from them see `section QSpecs`).  Invariant at the top
  of attempt `a` (`Top a`): unless the run is out of scope, `attempts` = #`op` exchanges, and = `a - 1` as
  long as no start hook / abort poll has failed.  An attempt leaves the loop going (`none`) either after
  its invocation (`Aft a`) or — never having invoked the operation — because its abort poll / start hook
  raised a plain `Exception`; the latter is visible in the log (`faulted`), and the next invocation then
  puts the run out of scope.  At policy level the outcome passes through unchanged and only breaker /
  metric / log exchanges are added (`Lemmas/PolicyFrame.lean`).
-/
import Redress.Lemmas.PolicyFrame
import Redress.MonitorsNR

open Std.Do

namespace Redress.Props.C11H
open Redress Redress.Retry Redress.Mon Redress.Mon.C11H

abbrev Log := List (Req × Ans)

def ops (tr : Log) : Nat := opCount tr
/-- a start hook / abort predicate has raised a plain `Exception` -/
def faulted (tr : Log) : Bool := tr.any isPreOpFault
/-- …and the operation was invoked afterwards: the monitor's guard -/
def bad (tr : Log) : Bool := preOpFault tr.reverse

theorem opCount_reverse (t : Log) : opCount t.reverse = opCount t := by
  simp [opCount, List.filter_reverse]

theorem preOpFault_snoc (t : Log) (x : Req × Ans) :
    preOpFault (t ++ [x]) = (preOpFault t || (isOp x.1 && t.any isPreOpFault)) := by
  induction t with
  | nil => simp [preOpFault]
  | cons y t ih =>
    simp only [List.cons_append, preOpFault, ih, List.any_append, List.any_cons, List.any_nil,
      Bool.or_false]
    generalize isPreOpFault y = b1
    generalize isOp x.1 = b2
    generalize preOpFault t = b3
    generalize (t.any fun y => isOp y.1) = b4
    generalize t.any isPreOpFault = b5
    cases b1 <;> cases b2 <;> cases b3 <;> cases b4 <;> cases b5 <;> rfl

theorem ops_cons (x : Req × Ans) (tr : Log) : ops (x :: tr) = ops tr + (if isOp x.1 = true then 1 else 0) := by
  simp only [ops, opCount, List.filter_cons]
  split <;> simp

theorem bad_cons (x : Req × Ans) (tr : Log) : bad (x :: tr) = (bad tr || (isOp x.1 && faulted tr)) := by
  simp [bad, faulted, preOpFault_snoc]

/-- `w` arises from `w0` by steps that leave the invocation count, the guard and `execute()`'s local
    `attempts` as they are; `faulted` can only become true (everything else is free) -/
def Q (w0 w : World) : Prop :=
  ops w.trace = ops w0.trace ∧ bad w.trace = bad w0.trace ∧ w.attempts = w0.attempts ∧
    (faulted w0.trace = true → faulted w.trace = true)

theorem Q.refl (w : World) : Q w w := ⟨rfl, rfl, rfl, id⟩

abbrev qPost (w0 : World) : PostCond α (.except Exn (.arg World .pure)) :=
  post⟨fun _ w => ⌜Q w0 w⌝, fun _ w => ⌜Q w0 w⌝⟩

/-- `Q` on what it reads of the origin (`Q w0 w` unfolds to `QP w0.trace w0.attempts w`): the form in which
    the specifications are stated.  `mvcgen` fills a ghost of type `World` with the state at the call, so that
    every VC would be a chain `Q w0 s₁`, `Q s₁ s₂`, … `⊢ Q w0 sₙ`; a log and a number it takes from the
    hypothesis `QP tr0 n0 s`, and the VCs of a procedure all of whose callees are quiet close by themselves. -/
def QP (tr0 : Log) (n0 : Nat) (w : World) : Prop :=
  ops w.trace = ops tr0 ∧ bad w.trace = bad tr0 ∧ w.attempts = n0 ∧ (faulted tr0 = true → faulted w.trace = true)

abbrev Quiet {α : Type} (tr0 : Log) (n0 : Nat) (x : M α) : Prop :=
  ⦃fun w => ⌜QP tr0 n0 w⌝⦄ x ⦃post⟨fun _ w => ⌜QP tr0 n0 w⌝, fun _ w => ⌜QP tr0 n0 w⌝⟩⦄

def noOp : Kind → Bool
  | .op => false
  | _ => true

theorem isOp_of_noOp (r : Req) (h : noOp r.kind = true) : isOp r = false := by
  cases r <;> first | rfl | cases h

theorem keep (δ tr : Log) (h : ∀ x ∈ δ, isOp x.1 = false) :
    ops (δ ++ tr) = ops tr ∧ bad (δ ++ tr) = bad tr := by
  induction δ with
  | nil => exact ⟨rfl, rfl⟩
  | cons x δ ih =>
    have hx := h x List.mem_cons_self
    have := ih fun y hy => h y (List.mem_cons_of_mem _ hy)
    simpa only [List.cons_append, ops_cons, bad_cons, hx, Bool.false_and, Bool.or_false, Bool.false_eq_true,
      if_false, Nat.add_zero] using this

theorem faulted_append (δ tr : Log) : faulted (δ ++ tr) = (faulted δ || faulted tr) := List.any_append

theorem QP.foot {tr0 : Log} {n0 : Nat} {w w' : World} (h : Foot noOp w w') (hq : QP tr0 n0 w) : QP tr0 n0 w' := by
  obtain ⟨δ, e, k⟩ := h.trace
  have := keep δ w.trace fun x hx => isOp_of_noOp _ (k x hx)
  unfold QP
  rw [e, this.1, this.2, h.attempts]
  exact ⟨hq.1, hq.2.1, hq.2.2.1, fun h0 => by rw [faulted_append, hq.2.2.2 h0, Bool.or_true]⟩

theorem out_some {r : Outcome} {n0 : Nat} (h : r.attempts = n0) : ∀ o, some r = some o → o.attempts = n0 :=
  fun _ ho => Option.some.inj ho ▸ h

theorem q_of_foot {α : Type} {x : M α} (hx : ∀ w0, ⦃fun w => ⌜Foot noOp w0 w⌝⦄ x ⦃footPost noOp w0⦄)
    (tr0 : Log) (n0 : Nat) : Quiet tr0 n0 x :=
  inv_of_foot _ hx fun _ _ => QP.foot

/-! ### every procedure of the loop but `invokeOp` / `execPre` and what contains them is quiet

The `[local spec]` attributes end with the section: further down some of the same procedures get
invariant-style specifications. -/
section QSpecs
variable (tr0 : Log) (n0 : Nat) (cfg : Cfg) (tl : Bool) (a n x : Nat) (e : Exn)

theorem setStop_q (s : StopReason) : Quiet tr0 n0 (setStop s) :=
  q_of_foot (fun w => setStop_foot noOp w s) tr0 n0

theorem emit_q (ev : Event) (klass : Option EClass) (exc : Option Exn) (stop : Option StopReason)
    (cause : Option Cause) (cls : Option Classification) :
    Quiet tr0 n0 (emit cfg tl ev a n klass exc stop cause cls) :=
  q_of_foot (fun w => emit_foot noOp w rfl rfl cfg tl ev a n klass exc stop cause cls) tr0 n0

theorem checkAbort_q : Quiet tr0 n0 (checkAbort cfg tl a) :=
  q_of_foot (fun w => checkAbort_foot noOp w rfl rfl rfl cfg tl a) tr0 n0

/-- For the first call inside a `tryCatch`, `mvcgen` picks `n0` among the `Nat`s in sight: `checkAbort_q` is
    passed with its ghosts fixed, and before it becomes a `spec` (a registered one would be preferred). -/
theorem checkAbortCaught_q : Quiet tr0 n0 (checkAbortCaught cfg tl a) := by
  have h := checkAbort_q tr0 n0
  mvcgen [checkAbortCaught, abortToTrue, h]

theorem callStrategy_q (key : SKey) (kind : SKind) (ctx : BackoffCtx) :
    Quiet tr0 n0 (callStrategy key kind ctx) :=
  q_of_foot (fun w => callStrategy_foot noOp w rfl key kind ctx) tr0 n0

theorem stratRecordFailure_q (key : SKey) (k : EClass) :
    Quiet tr0 n0 (stratRecordFailure cfg key k) :=
  q_of_foot (fun w => stratRecordFailure_foot noOp w rfl cfg key k) tr0 n0

theorem callClassifier_q : Quiet tr0 n0 (callClassifier e) :=
  q_of_foot (fun w => callClassifier_foot noOp w rfl e) tr0 n0

theorem shouldClassifyResult_q : Quiet tr0 n0 (shouldClassifyResult cfg x) :=
  q_of_foot (fun w => shouldClassifyResult_foot noOp w rfl cfg x) tr0 n0

theorem callAttemptEndFromOutcome_q (o : AOutcome) :
    Quiet tr0 n0 (callAttemptEndFromOutcome cfg a o) :=
  q_of_foot (fun w => callAttemptEndFromOutcome_foot noOp w rfl cfg a o) tr0 n0

theorem callBeforeSleep_q (ctx : BackoffCtx) : Quiet tr0 n0 (callBeforeSleep cfg ctx n) :=
  q_of_foot (fun w => callBeforeSleep_foot noOp w rfl cfg ctx n) tr0 n0

theorem callSleeper_q : Quiet tr0 n0 (callSleeper cfg n) :=
  q_of_foot (fun w => callSleeper_foot noOp w rfl cfg n) tr0 n0

theorem callSleepHandler_q (lvl : Lvl) (ctx : BackoffCtx) :
    Quiet tr0 n0 (callSleepHandler lvl ctx n) :=
  q_of_foot (fun w => callSleepHandler_foot noOp w rfl lvl ctx n) tr0 n0

theorem emitAbortedOnce_q : Quiet tr0 n0 (emitAbortedOnce cfg tl a) :=
  q_of_foot (fun w => emitAbortedOnce_foot noOp w rfl rfl cfg tl a) tr0 n0

theorem handleSuccessAttemptEnd_q : Quiet tr0 n0 (handleSuccessAttemptEnd cfg tl a x) :=
  q_of_foot (fun w => handleSuccessAttemptEnd_foot noOp w rfl rfl rfl rfl cfg tl a x) tr0 n0

theorem handleAbortAttemptEnd_q : Quiet tr0 n0 (handleAbortAttemptEnd cfg a e) :=
  q_of_foot (fun w => handleAbortAttemptEnd_foot noOp w rfl cfg a e) tr0 n0

theorem emitMaxAttemptsExceeded_q : Quiet tr0 n0 (emitMaxAttemptsExceeded cfg tl) :=
  q_of_foot (fun w => emitMaxAttemptsExceeded_foot noOp w rfl rfl cfg tl) tr0 n0

theorem modifyRS_q (f : RState → RState) : Quiet tr0 n0 (modifyRS f) := by
  mvcgen [modifyRS]

theorem modifyAS_q (f : AState → AState) : Quiet tr0 n0 (modifyAS f) := by
  mvcgen [modifyAS]

theorem budgetConsume_q : Quiet tr0 n0 (budgetConsume cfg) := by
  mvcgen [budgetConsume]
  exact QP.foot (Foot.internal _ _ _ _ _ _ rfl) ‹_›

attribute [local spec] setStop_q emit_q checkAbort_q checkAbortCaught_q callStrategy_q stratRecordFailure_q callClassifier_q
  shouldClassifyResult_q callAttemptEndFromOutcome_q callBeforeSleep_q callSleeper_q callSleepHandler_q
  emitAbortedOnce_q handleSuccessAttemptEnd_q handleAbortAttemptEnd_q emitMaxAttemptsExceeded_q modifyRS_q
  modifyAS_q budgetConsume_q

theorem stopWith_q (s : StopReason) (ev : Event) (k : EClass) (exc : Option Exn) (cause : Cause) :
    Quiet tr0 n0 (stopWith cfg tl s ev a k exc cause) := by
  mvcgen [stopWith]

attribute [local spec] stopWith_q

theorem handleFailure2_q (c : Classification) (cause : Cause) (exc : Option Exn) :
    Quiet tr0 n0 (handleFailure2 cfg tl c a cause exc) := by
  mvcgen [handleFailure2, grantRetry, elapsed, getRS]
attribute [local spec] handleFailure2_q

theorem handleFailure_q (c : Classification) (cause : Cause) (exc : Option Exn) (r : Option Nat) :
    Quiet tr0 n0 (handleFailure cfg tl c a cause exc r) := by
  mvcgen [handleFailure, Retry.recordFailure, handleFailure1, handleUnknown, getRS]
attribute [local spec] handleFailure_q

theorem finalizeAttempt_q (d : Decision) (act : Option SleepDecision) (cls : Option Classification) (exc : Option Exn)
    (r : Option Nat) (c : Option Cause) :
    Quiet tr0 n0 (finalizeAttempt cfg tl a d act cls exc r c) := by
  mvcgen [finalizeAttempt, getRS, elapsed]
attribute [local spec] finalizeAttempt_q

theorem failureOutcome_q (d : Decision) (cls : Option Classification) (exc : Option Exn) (r : Option Nat) (c : Option Cause) :
    Quiet tr0 n0 (failureOutcome cfg tl a d cls exc r c) := by
  mvcgen [failureOutcome, sleepAction, handleSleepDecision, getRS]
attribute [local spec] failureOutcome_q

abbrev QuietOut (tr0 : Log) (n0 : Nat) (x : M (Option Outcome)) : Prop :=
  ⦃fun w => ⌜QP tr0 n0 w⌝⦄ x
  ⦃post⟨fun r w => ⌜(∀ o, r = some o → o.attempts = n0) ∧ QP tr0 n0 w⌝, fun _ w => ⌜QP tr0 n0 w⌝⟩⦄

theorem buildOutcome_q (ok : Bool) (value : Option Nat) (ns : Option Nat) :
    ⦃fun w => ⌜QP tr0 n0 w⌝⦄ buildOutcome ok value n ns
    ⦃post⟨fun o w => ⌜o.attempts = n ∧ QP tr0 n0 w⌝, fun _ w => ⌜QP tr0 n0 w⌝⟩⦄ := by
  mvcgen [buildOutcome, getRS, elapsed]
attribute [local spec] buildOutcome_q

theorem abortOutcome_q :
    ⦃fun w => ⌜QP tr0 n0 w⌝⦄ abortOutcome cfg tl n
    ⦃post⟨fun o w => ⌜o.attempts = n ∧ QP tr0 n0 w⌝, fun _ w => ⌜QP tr0 n0 w⌝⟩⦄ := by
  mvcgen [abortOutcome]
attribute [local spec] abortOutcome_q

theorem deliverExecute_q (act : Action) (o : AOutcome) :
    QuietOut tr0 n0 (deliverExecute cfg tl act o) := by
  mvcgen [deliverExecute]
  · exact ⟨(fun _ h => nomatch h), ‹_›⟩
  · rename_i h _ _ _ h'
    exact ⟨out_some (h'.1.trans h.2.2.1), h'.2⟩
  · rename_i h _ _ _ _ _ _ h'
    exact ⟨out_some (h'.1.trans h.2.2.1), h'.2⟩
attribute [local spec] deliverExecute_q

theorem execResultPath_q (ha : n0 = a) : QuietOut tr0 n0 (execResultPath cfg tl a x) := by
  subst ha
  mvcgen [execResultPath, execResultFailure, getRS]
  rename_i h
  exact ⟨out_some h.1, h.2⟩
attribute [local spec] execResultPath_q

theorem execAbortExit_q :
    ⦃fun w => ⌜QP tr0 n0 w⌝⦄ execAbortExit cfg tl a e
    ⦃post⟨fun r w => ⌜r ≠ none ∧ (∀ o, r = some o → o.attempts = n0) ∧ QP tr0 n0 w⌝, fun _ w => ⌜QP tr0 n0 w⌝⟩⦄ := by
  mvcgen [execAbortExit]
  rename_i h _ _ h'
  exact ⟨Option.some_ne_none _, out_some (h'.1.trans h.2.2.1), h'.2⟩
attribute [local spec] execAbortExit_q

theorem execExceptionPath3_q (d : Decision) :
    QuietOut tr0 n0 (execExceptionPath3 cfg tl a e d) := by
  mvcgen [execExceptionPath3, getRS]
attribute [local spec] execExceptionPath3_q

theorem execExceptionPath_q : QuietOut tr0 n0 (execExceptionPath cfg tl a e) := by
  mvcgen [execExceptionPath, execExceptionPath2, handleException, getRS]
  all_goals exact fun _ h1 h2 => ⟨h1, h2⟩
attribute [local spec] execExceptionPath_q

theorem execHandler_q :
    ⦃fun w => ⌜QP tr0 n0 w⌝⦄ execHandler cfg tl a e
    ⦃post⟨fun r w => ⌜(∀ o, r = some o → o.attempts = n0) ∧ (r = none → isFault e = true) ∧ QP tr0 n0 w⌝, fun _ w => ⌜QP tr0 n0 w⌝⟩⦄ := by
  mvcgen [execHandler]
  · exact fun hn h1 h2 => ⟨h1, fun h => absurd h hn, h2⟩
  · exact fun h1 h2 => ⟨h1, fun _ => by simp [isFault, *], h2⟩

theorem execReturnedHandler_q : QuietOut tr0 n0 (execReturnedHandler cfg tl a e) := by
  mvcgen [execReturnedHandler]
  exact fun _ h1 h2 => ⟨h1, h2⟩

theorem buildExhaustedOutcome_q :
    ⦃fun w => ⌜QP tr0 n0 w⌝⦄ buildExhaustedOutcome cfg tl
    ⦃post⟨fun o w => ⌜o.attempts = n0 ∧ QP tr0 n0 w⌝, fun _ w => ⌜QP tr0 n0 w⌝⟩⦄ := by
  mvcgen [buildExhaustedOutcome]
  rename_i h _ _
  exact fun h1 h2 => ⟨h1.trans h.2.2.1, h2⟩

end QSpecs

theorem callAttemptStart_q (w0 : World) (cfg : Cfg) (a : Nat) :
    ⦃fun w => ⌜Q w0 w⌝⦄ callAttemptStart cfg a ⦃qPost w0⦄ :=
  q_of_foot (fun w => callAttemptStart_foot noOp w rfl cfg a) w0.trace w0.attempts

/-- unless the run is out of scope, `attempts` is the number of invocations -/
def Good (w : World) : Prop := bad w.trace = false → w.attempts = ops w.trace
/-- at the top of attempt `a`: moreover, unless a start hook / abort poll has failed, `a - 1` invocations
    have been made -/
def Top (a : Nat) (w : World) : Prop :=
  bad w.trace = false → w.attempts = ops w.trace ∧ (faulted w.trace = false → ops w.trace + 1 = a)
/-- after the invocation of attempt `a` -/
def Aft (a : Nat) (w : World) : Prop := w.attempts = a ∧ Good w
/-- when the part of attempt `a` up to and including the invocation raised `e` -/
def PreErr (a : Nat) (e : Exn) (w : World) : Prop := Good w ∧ (isFault e = true → Top (a + 1) w)
/-- at the end of attempt `a` -/
def StepPost (a : Nat) (r : Option Outcome) (w : World) : Prop :=
  Good w ∧ (r = none → Top (a + 1) w) ∧ (∀ o, r = some o → o.attempts = w.attempts)
/-- what the monitor checks -/
def Fin (o : Outcome) (w : World) : Prop := bad w.trace = false → o.attempts = ops w.trace

theorem Good.q {w w' : World} (h : Q w w') (hg : Good w) : Good w' := by
  obtain ⟨h1, h2, h3, _⟩ := h
  intro hb
  rw [h1, h3]
  exact hg (by rw [← h2]; exact hb)

theorem Top.q {a : Nat} {w w' : World} (h : Q w w') (ht : Top a w) : Top a w' := by
  obtain ⟨h1, h2, h3, h4⟩ := h
  intro hb
  have := ht (by rw [← h2]; exact hb)
  rw [h1, h3]
  refine ⟨this.1, fun hf => this.2 ?_⟩
  cases hf0 : faulted w.trace with
  | false => rfl
  | true => rw [h4 hf0] at hf; cases hf

theorem Aft.q {a : Nat} {w w' : World} (h : Q w w') (ht : Aft a w) : Aft a w' :=
  ⟨by rw [h.2.2.1]; exact ht.1, Good.q h ht.2⟩

theorem Top.good {a : Nat} {w : World} (h : Top a w) : Good w := fun hb => (h hb).1

theorem Aft.top {a : Nat} {w : World} (h : Aft a w) : Top (a + 1) w := by
  intro hb
  have := h.2 hb
  refine ⟨this, fun _ => ?_⟩
  rw [← this, h.1]

theorem Aft.preErr {a : Nat} {w : World} (e : Exn) (h : Aft a w) : PreErr a e w := ⟨h.2, fun _ => h.top⟩

theorem StepPost.q {a : Nat} {r : Option Outcome} {w w' : World} (h : Q w w') (hg : Good w)
    (ht : r = none → Top (a + 1) w) (hv : ∀ o, r = some o → o.attempts = w.attempts) : StepPost a r w' :=
  ⟨Good.q h hg, fun hn => Top.q h (ht hn), fun o ho => (hv o ho).trans h.2.2.1.symm⟩

/-- the handler of the part of an attempt before the operation returned -/
theorem execHandler_top (cfg : Cfg) (tl : Bool) (a : Nat) (e : Exn) :
    ⦃fun w => ⌜PreErr a e w⌝⦄ execHandler cfg tl a e
    ⦃post⟨fun r w => ⌜StepPost a r w⌝, fun _ _ => ⌜True⌝⟩⦄ :=
  triple_of_rel (fun w0 => execHandler_q w0.trace w0.attempts cfg tl a e) Q.refl
    (fun _ _ _ hp ⟨h1, h2, h3⟩ => StepPost.q h3 hp.1 (fun hn => hp.2 (h2 hn)) h1) (fun _ _ _ _ _ => trivial)

theorem execResultPath_top (cfg : Cfg) (tl : Bool) (a x : Nat) :
    ⦃fun w => ⌜Aft a w⌝⦄ execResultPath cfg tl a x
    ⦃post⟨fun r w => ⌜StepPost a r w⌝, fun _ w => ⌜Aft a w⌝⟩⦄ :=
  triple_of_rel' (fun w0 hp => execResultPath_q w0.trace w0.attempts cfg tl a x hp.1) (fun w _ => Q.refl w)
    (fun _ _ _ hp ⟨h1, h3⟩ => StepPost.q h3 hp.2 (fun _ => hp.top) h1) (fun _ _ _ hp h => Aft.q h hp)

theorem execReturnedHandler_top (cfg : Cfg) (tl : Bool) (a : Nat) (e : Exn) :
    ⦃fun w => ⌜Aft a w⌝⦄ execReturnedHandler cfg tl a e
    ⦃post⟨fun r w => ⌜StepPost a r w⌝, fun _ _ => ⌜True⌝⟩⦄ :=
  triple_of_rel (fun w0 => execReturnedHandler_q w0.trace w0.attempts cfg tl a e) Q.refl
    (fun _ _ _ hp ⟨h1, h3⟩ => StepPost.q h3 hp.2 (fun _ => hp.top) h1) (fun _ _ _ _ _ => trivial)

theorem buildExhaustedOutcome_top (cfg : Cfg) (tl : Bool) :
    ⦃fun w => ⌜Good w⌝⦄ buildExhaustedOutcome cfg tl
    ⦃post⟨fun o w => ⌜Fin o w⌝, fun _ _ => ⌜True⌝⟩⦄ :=
  triple_of_rel (fun w0 => buildExhaustedOutcome_q w0.trace w0.attempts cfg tl) Q.refl
    (fun _ _ _ hp ⟨h1, h3⟩ hb => by rw [h1, ← h3.2.2.1]; exact Good.q h3 hp hb) (fun _ _ _ _ _ => trivial)

/-- what the abort poll and the start hook may ask -/
def preQ : Req → Bool
  | .abortIf | .attemptStart _ | .metric .. | .log .. => true
  | _ => false

/-- An error that leaves such a procedure and that `execute()` treats as the failure of the attempt was raised
    by the abort predicate or the start hook (what a metric / log hook raises gets out only if it is not an
    `Exception`): the log says so. -/
theorem faulted_of_exc {Own : Exn → Prop} {w w' : World} {e : Exn} (h : FX.ExcS preQ Own w w' e)
    (hOwn : Own e → isFault e = false) (hf : isFault e = true) : faulted w'.trace = true := by
  rcases h.src with ho | rfl | ⟨δ, hδ, r, d, hm, hs⟩
  · rw [hOwn ho] at hf; cases hf
  · cases hf
  · obtain ⟨δ', hδ', hq, _⟩ := h.foot.trace
    obtain rfl : δ = δ' := List.append_cancel_right (hδ.symm.trans hδ')
    have hr := hq _ hm
    rw [faulted, hδ, List.any_append, List.any_eq_true.mpr ⟨_, hm, ?_⟩, Bool.true_or]
    cases r <;> first | exact hf | (simp [isFault, hs rfl] at hf) | cases hr

theorem Top.foot {a : Nat} {w w' : World} (h : Foot noOp w w') (ht : Top a w) : Top a w' :=
  Top.q (QP.foot h (Q.refl w)) ht

/-- From the two footprints of a procedure that runs before the invocation (`Foot`: no invocation, `attempts`
    unchanged; `FX`: where an error comes from) to its effect on `Top a`. -/
theorem top_of_fx {α : Type} {x : M α} {F : World → World → Prop} {E : World → World → Exn → Prop} (a : Nat)
    (hf : ∀ w0, ⦃fun w => ⌜Foot noOp w0 w⌝⦄ x ⦃footPost noOp w0⦄)
    (hx : ∀ w0, ⦃fun w => ⌜F w0 w⌝⦄ x ⦃post⟨fun _ w => ⌜F w0 w⌝, fun e w => ⌜E w0 w e⌝⟩⦄)
    (hr : ∀ w, F w w) (hE : ∀ w w' e, E w w' e → isFault e = true → faulted w'.trace = true) :
    ⦃fun w => ⌜Top a w⌝⦄ x
    ⦃post⟨fun _ w => ⌜Top a w⌝, fun e w => ⌜Top a w ∧ (isFault e = true → faulted w.trace = true)⌝⟩⦄ :=
  triple_of_rel (fun w0 => triple_and (hf w0) (hx w0)) (fun w => ⟨Foot.refl _ w, hr w⟩)
    (fun _ _ _ hw h => Top.foot h.1 hw) (fun _ _ _ hw h => ⟨Top.foot h.1 hw, hE _ _ _ h.2⟩)

theorem checkAbort_top (cfg : Cfg) (tl : Bool) (a n : Nat) :
    ⦃fun w => ⌜Top a w⌝⦄ checkAbort cfg tl n
    ⦃post⟨fun _ w => ⌜Top a w⌝, fun e w => ⌜Top a w ∧ (isFault e = true → faulted w.trace = true)⌝⟩⦄ :=
  top_of_fx a (fun w => checkAbort_foot noOp w rfl rfl rfl cfg tl n)
    (fun w => FX.checkAbort_fx preQ w cfg tl n rfl (fun _ => rfl) (fun _ _ => rfl)) FX.FootXS.refl
    (fun _ _ _ h => faulted_of_exc h (fun ho => by rw [ho]; rfl))

theorem callAttemptStart_top (cfg : Cfg) (a n : Nat) :
    ⦃fun w => ⌜Top a w⌝⦄ callAttemptStart cfg n
    ⦃post⟨fun _ w => ⌜Top a w⌝, fun e w => ⌜Top a w ∧ (isFault e = true → faulted w.trace = true)⌝⟩⦄ :=
  top_of_fx a (fun w => callAttemptStart_foot noOp w rfl cfg n)
    (fun w => FX.callAttemptStart_fx preQ w cfg n (fun _ => rfl)) FX.FootX.refl
    (fun _ _ _ h => faulted_of_exc h.toS False.elim)

/-- just before the invocation of attempt `a`: `attempts` has been set to `a` -/
def Ready (a : Nat) (w : World) : Prop :=
  w.attempts = a ∧ (bad w.trace = false → faulted w.trace = false → ops w.trace + 1 = a)

theorem Ready.op {a : Nat} {s s' : World} (k : Nat) (x : Ans) (h : Ready a s)
    (ht : s'.trace = (Req.op k, x) :: s.trace) (ha : s'.attempts = s.attempts) : Aft a s' := by
  refine ⟨ha.trans h.1, fun hb => ?_⟩
  rw [ht, bad_cons] at hb
  simp only [isOp, Bool.true_and, Bool.or_eq_false_iff] at hb
  rw [ht, ops_cons, ha, h.1]
  simp only [isOp, if_true]
  exact (h.2 hb.1 hb.2).symm

theorem Top.ready {a : Nat} {s s' : World} (h : Top a s) (ht : s'.trace = s.trace) (ha : s'.attempts = a) :
    Ready a s' := by
  refine ⟨ha, fun hb hf => ?_⟩
  rw [ht] at hb hf ⊢
  exact (h hb).2 hf

theorem Top.preErr {a : Nat} {e : Exn} {w : World} (h : Top a w)
    (hf : isFault e = true → faulted w.trace = true) : PreErr a e w := by
  refine ⟨h.good, fun he hb => ?_⟩
  refine ⟨(h hb).1, fun hn => ?_⟩
  rw [hf he] at hn
  cases hn

theorem invokeOp_spec (a x : Nat) :
    ⦃fun w => ⌜Ready a w⌝⦄ invokeOp x ⦃post⟨fun _ w => ⌜Aft a w⌝, fun _ w => ⌜Aft a w⌝⟩⦄ := by
  mvcgen [invokeOp, ask_exchanged]
  · obtain ⟨_, rfl⟩ := ‹_ ∧ _›
    exact Ready.op _ _ ‹_› rfl rfl
  · obtain ⟨_, rfl⟩ := ‹_ ∧ _›
    exact Ready.op _ _ ‹_› rfl rfl
  · rintro ⟨_, rfl⟩
    exact Ready.op _ _ ‹_› rfl rfl

/-- The part of attempt `a` up to and including the invocation.  `attempts := a` comes AFTER the start
    hook returned: if the abort poll or the start hook raises, `attempts` is still the number of
    invocations; and if what they raise is a plain `Exception` the log now says so (`faulted`). -/
theorem execPre_spec (cfg : Cfg) (tl : Bool) (a : Nat) :
    ⦃fun w => ⌜Top a w⌝⦄ execPre cfg tl a
    ⦃post⟨fun _ w => ⌜Aft a w⌝, fun e w => ⌜PreErr a e w⌝⟩⦄ := by
  have h1 := checkAbort_top cfg tl a (a - 1)
  have h2 := callAttemptStart_top cfg a a
  have h3 := invokeOp_spec a a
  mvcgen [execPre, modifyAS, h1, h2, h3]
  · rename_i h _ _
    exact Top.ready h rfl rfl
  · exact Aft.preErr _
  all_goals exact Top.preErr

theorem execAttempt_spec (cfg : Cfg) (tl : Bool) (a : Nat) :
    ⦃fun w => ⌜Top a w⌝⦄ execAttempt cfg tl a
    ⦃post⟨fun r w => ⌜StepPost a r w⌝, fun _ _ => ⌜True⌝⟩⦄ := by
  have hpre := execPre_spec cfg tl a
  have hh := execHandler_top cfg tl a
  have hrp := execResultPath_top cfg tl a
  have hrh := execReturnedHandler_top cfg tl a
  mvcgen [execAttempt, hpre, hh, hrp, hrh]
  exact id

theorem StepPost.fin {a : Nat} {o : Outcome} {w : World} (h : StepPost a (some o) w) : Fin o w := by
  intro hb
  rw [h.2.2 o rfl]
  exact h.1 hb

theorem execLoop_spec (cfg : Cfg) (tl : Bool) : ∀ (fuel a : Nat),
    ⦃fun w => ⌜Top a w⌝⦄ execLoop cfg tl fuel a
    ⦃post⟨fun o w => ⌜Fin o w⌝, fun _ _ => ⌜True⌝⟩⦄ := by
  intro fuel
  induction fuel with
  | zero =>
    intro a
    have hb := buildExhaustedOutcome_top cfg tl
    mvcgen [execLoop, hb]
    exact Top.good ‹_›
  | succ f ih =>
    intro a
    have h := ih (a + 1)
    have hat := execAttempt_spec cfg tl a
    mvcgen [execLoop, hat, h]
    · exact StepPost.fin ‹_›
    · exact ‹StepPost a none _›.2.1 rfl

/-- nothing relevant has happened yet: no invocation, no failed start hook / abort poll -/
def Pre0 (w : World) : Prop := ops w.trace = 0 ∧ faulted w.trace = false ∧ bad w.trace = false

theorem Pre0.top {s s' : World} (h : Pre0 s) (ht : s'.trace = s.trace) (ha : s'.attempts = 0) : Top 1 s' := by
  unfold Top
  rw [ht, ha, h.1]
  exact fun _ => ⟨rfl, fun _ => rfl⟩

/-- `Retry.execute` (and its async twin) -/
theorem runExecute_spec (cfg : Cfg) :
    ⦃fun w => ⌜Pre0 w⌝⦄ runExecute cfg ⦃post⟨fun o w => ⌜Fin o w⌝, fun _ _ => ⌜True⌝⟩⦄ := by
  have hloop := execLoop_spec cfg cfg.timeline cfg.maxAttempts 1
  mvcgen [runExecute, initState, hloop]
  exact Pre0.top ‹_› rfl rfl

/-! ### policy level: the outcome of `Retry.execute` passes through; nothing is invoked or polled outside it -/
open Policy

theorem allowK_inert (x : Req × Ans) (h : allowK x.1.kind = true) :
    isOp x.1 = false ∧ isPreOpFault x = false := by
  obtain ⟨r, a⟩ := x
  cases r <;> first | exact ⟨rfl, rfl⟩ | cases h

theorem Pre0.foot {w w' : World} (h : Foot allowK w w') (hp : Pre0 w) : Pre0 w' := by
  obtain ⟨δ, e, k⟩ := h.trace
  have := keep δ w.trace fun x hx => (allowK_inert x (k x hx)).1
  have hf : faulted δ = false := List.any_eq_false.mpr fun x hx => by simp [(allowK_inert x (k x hx)).2]
  unfold Pre0
  rw [e, this.1, this.2, faulted_append, hf, Bool.false_or]
  exact hp

theorem Fin.foot {o : Outcome} {w w' : World} (h : Foot noOp w w') (hp : Fin o w) : Fin o w' := by
  obtain ⟨h1, h2, _⟩ := QP.foot h (Q.refl w)
  unfold Fin
  rw [h1, h2]
  exact hp

theorem shellK_noOp : ∀ k, shellK k = true → noOp k = true := by
  intro k; cases k <;> simp [shellK, noOp]

/-- `Policy.execute` with a retry component: before the loop the shell asks the breaker and the metric / log
    sinks only, so `Pre0` survives; a rejected call reports zero attempts; afterwards the outcome passes through -/
theorem execute_retry_spec (cfg : Cfg) (hret : cfg.hasRetry = true) :
    ⦃fun w => ⌜Pre0 w⌝⦄ Policy.execute cfg ⦃post⟨fun o w => ⌜Fin o w⌝, fun _ _ => ⌜True⌝⟩⦄ :=
  execute_retry_outcome_frame cfg (E := fun _ => True) (fun _ _ _ h => h)
    (fun _ _ _ h => Fin.foot (h.mono shellK_noOp)) (fun _ _ _ => trivial) (fun _ _ => Pre0.foot)
    (fun _ _ => trivial) (fun _ _ h _ => h.1.symm) hret (runExecute_spec cfg)

theorem pre0_start (w : World) : Pre0 (startWorld w) := ⟨rfl, rfl, rfl⟩

/-- `Fin` of a result: nothing is claimed unless it is an outcome -/
def FinR (r : Res) (w : World) : Prop :=
  match r with
  | .outcome o _ => Fin o w
  | _ => True

theorem ok_of_fin {cfg : Cfg} {e : Entry} {r : Res} {w : World} (h : FinR r w) :
    Mon.C11H.ok cfg e w.trace.reverse r = true := by
  unfold Mon.C11H.ok
  split
  · rename_i hg
    simp only [Bool.and_eq_true, Bool.not_eq_true'] at hg
    cases r with
    | outcome o _ =>
      simp only [opCount_reverse, beq_iff_eq]
      exact h hg.2
    | _ => rfl
  · rfl

/--
**C11, `attempts` = invocations, hook faults included.**  For every configuration, every entry point and
every world — every answer stream (any callback raising anything at any invocation, in particular an
attempt hook or the abort predicate raising `AbortRetryError`, a cancellation kind, `RetryExhaustedError`
or a plain `Exception`), every clock value, every state of a shared budget or breaker — the run satisfies
`Mon.C11H.ok`: if `execute()` (of a `Retry`, or of a `Policy` with a retry component) returns an outcome
and no invocation of the operation follows a start hook / abort predicate that raised a plain `Exception`,
then `outcome.attempts` is the number of `op` exchanges in the log.
-/
theorem attempts_eq_invocations (cfg : Cfg) (e : Entry) (w : World) :
    Mon.C11H.ok cfg e (runEntry cfg e w).2.trace.reverse (runEntry cfg e w).1 = true := by
  cases e with
  | call => rfl
  | pcall => rfl
  | execute =>
    exact ok_of_fin (toResO_of_triple (Q := FinR) cfg.timeline (runExecute_spec cfg) _ (pre0_start w))
  | pexecute =>
    cases hret : cfg.hasRetry with
    | false => simp [Mon.C11H.ok, hasLoop, hret, Entry.isPolicy]
    | true =>
      exact ok_of_fin (toResO_of_triple (Q := FinR) _ (execute_retry_spec cfg hret) _ (pre0_start w))

/-- …and therefore of every call in every script of calls and clock advances on ONE policy object,
    whatever state earlier calls left behind. -/
theorem attempts_eq_invocations_script (cfg : Cfg) : ∀ (steps : List Step) (w : World),
    ∀ l ∈ (runScript cfg steps w).1, Mon.C11H.ok cfg l.entry l.trace l.res = true :=
  forall_script (P := fun e t r => Mon.C11H.ok cfg e t r = true) cfg (attempts_eq_invocations cfg)

/-- The same, as a statement about the run: `o.attempts` is the number of `op` exchanges of the log. -/
theorem attempts_eq_invocations_logical (cfg : Cfg) (e : Entry) (w : World) (o : Outcome)
    (tl : List TimelineEv)
    (he : e.isExecute = true) (hl : hasLoop cfg e = true)
    (hs : preOpFault (runEntry cfg e w).2.trace.reverse = false)
    (hr : (runEntry cfg e w).1 = .outcome o tl) :
    o.attempts = ((runEntry cfg e w).2.trace.reverse.filter (fun x => isOp x.1)).length := by
  have h := attempts_eq_invocations cfg e w
  rw [hr] at h
  unfold Mon.C11H.ok at h
  simpa [he, hl, hs, opCount] using h

/-- no start hook / abort predicate raised a plain `Exception` at all ⇒ in scope -/
theorem preOpFault_of_none (t : Trace) (h : ∀ x ∈ t, isPreOpFault x = false) : preOpFault t = false := by
  induction t with
  | nil => rfl
  | cons x t ih =>
    simp only [preOpFault, h x (by simp), Bool.false_and, Bool.false_or]
    exact ih (fun y hy => h y (by simp [hy]))

/-- the operation is not invoked after the (last) such error ⇒ in scope -/
theorem preOpFault_of_no_later_op (t₁ t₂ : Trace) (h1 : preOpFault t₁ = false)
    (h2 : ∀ x ∈ t₂, isOp x.1 = false) : preOpFault (t₁ ++ t₂) = false := by
  have := (keep t₂.reverse t₁.reverse fun x hx => h2 x (List.mem_reverse.mp hx)).2
  simp only [bad, List.reverse_append, List.reverse_reverse] at this
  exact this.trans h1

theorem fault_shape (x : Req × Ans) (h : isPreOpFault x = true) :
    isAttemptHook x.1 = true ∧ ∃ e d, x.2 = Ans.raise e d ∧ isFault e = true := by
  obtain ⟨r, a⟩ := x
  unfold isPreOpFault at h
  simp only [Bool.and_eq_true] at h
  obtain ⟨h1, h2⟩ := h
  constructor
  · cases r <;> first | rfl | (simp at h1)
  · cases a <;> first | exact ⟨_, _, rfl, h2⟩ | (simp at h2)

/-- every run `Mon.C11` judges (no attempt hook and no abort predicate raised anything) is in scope -/
theorem preOpFault_of_no_hookFault (t : Trace) (h : attemptHookFault t = false) : preOpFault t = false := by
  apply preOpFault_of_none
  intro x hx
  cases hfx : isPreOpFault x with
  | false => rfl
  | true =>
    obtain ⟨h1, e, d, h2, _⟩ := fault_shape x hfx
    have : attemptHookFault t = true := by
      unfold attemptHookFault
      rw [List.any_eq_true]
      exact ⟨x, hx, by simp [h1, h2]⟩
    rw [h] at this
    cases this

/-- **The case the property is about**: whatever the hooks and the abort predicate raise is an
    `AbortRetryError`, a `RetryExhaustedError` or not an `Exception` (cancellation kinds) ⇒ in scope. -/
theorem preOpFault_of_aborts_only (t : Trace)
    (h : ∀ r e d, (r, Ans.raise e d) ∈ t → isAttemptHook r = true →
      e.isAbort = true ∨ e.isExhausted = true ∨ e.isException = false) :
    preOpFault t = false := by
  apply preOpFault_of_none
  intro x hx
  cases hfx : isPreOpFault x with
  | false => rfl
  | true =>
    obtain ⟨h1, e, d, h2, h3⟩ := fault_shape x hfx
    obtain ⟨r, a⟩ := x
    simp only at h1 h2
    subst h2
    have := h r e d hx h1
    simp only [isFault, Bool.and_eq_true, Bool.not_eq_true'] at h3
    rcases this with h4 | h4 | h4 <;> simp [h4] at h3

/-! Non-vacuity.  The hypotheses of `attempts_eq_invocations_logical` are about `runEntry`; instances are
    exhibited through the compiled driver by `harness/families/loop.py`.  At the level of the monitor
    alone, on literal logs: the start hook of attempt 2 raises `AbortRetryError` after one invocation. -/

/-- `attempts = 1` = one invocation: accepted … -/
example : Mon.C11H.ok { cAttemptStart := true } .execute
    [(.attemptStart { attempt := 1, elapsed := 0 }, .unit 0),
     (.op 1, .raise (.ordinary 1 .transient) 0),
     (.classify "o1", .klass ⟨.transient, none⟩ 0),
     (.strategy .default .ctx ⟨1, .transient, none, none, 60, .exception⟩, .delay (.fin 1) 0),
     (.sleeper .dflt 1, .unit 0),
     (.attemptStart { attempt := 2, elapsed := 1 }, .raise (.abort 7) 0)]
    (.outcome { ok := false, value := none, stop := some .aborted, attempts := 1, lastClass := some .transient,
                lastExc := some "o1", lastResult := none, cause := some .exception, elapsed := 1,
                nextSleep := none } []) = true := by decide

/-- … `attempts = 2` (the assignment moved before the hook) with one invocation in the log: rejected -/
example : Mon.C11H.ok { cAttemptStart := true } .execute
    [(.attemptStart { attempt := 1, elapsed := 0 }, .unit 0),
     (.op 1, .raise (.ordinary 1 .transient) 0),
     (.classify "o1", .klass ⟨.transient, none⟩ 0),
     (.strategy .default .ctx ⟨1, .transient, none, none, 60, .exception⟩, .delay (.fin 1) 0),
     (.sleeper .dflt 1, .unit 0),
     (.attemptStart { attempt := 2, elapsed := 1 }, .raise (.abort 7) 0)]
    (.outcome { ok := false, value := none, stop := some .aborted, attempts := 2, lastClass := some .transient,
                lastExc := some "o1", lastResult := none, cause := some .exception, elapsed := 1,
                nextSleep := none } []) = false := by decide

/-- the same through a `Policy` with a retry component, and with the abort predicate raising instead -/
example : Mon.C11H.ok { abortIf := true } .pexecute
    [(.abortIf, .bool false 0), (.op 1, .value 5 0), (.resultClassify 5, .klass ⟨.transient, none⟩ 0),
     (.abortIf, .raise (.abort 3) 0)]
    (.outcome { ok := false, value := none, stop := some .aborted, attempts := 2, lastClass := none,
                lastExc := none, lastResult := none, cause := none, elapsed := 0, nextSleep := none } [])
    = false := by decide

/-- a start hook that raises a plain `Exception` and is NOT followed by an invocation is judged
    (`attempts = 1` accepted, `attempts = 2` rejected) … -/
example : Mon.C11H.ok { cAttemptStart := true } .execute
    [(.attemptStart { attempt := 1, elapsed := 0 }, .unit 0), (.op 1, .raise (.ordinary 1 .transient) 0),
     (.classify "o1", .klass ⟨.transient, none⟩ 0),
     (.strategy .default .ctx ⟨1, .transient, none, none, 60, .exception⟩, .delay (.fin 1) 0),
     (.sleeper .dflt 1, .unit 0),
     (.attemptStart { attempt := 2, elapsed := 1 }, .raise (.ordinary 2 .permanent) 0),
     (.classify "o2", .klass ⟨.permanent, none⟩ 0)]
    (.outcome { ok := false, value := none, stop := some .nonRetryableClass, attempts := 2,
                lastClass := some .permanent, lastExc := some "o2", lastResult := none, cause := some .exception,
                elapsed := 1, nextSleep := none } []) = false := by decide

/-- … and once an invocation follows it the run is out of scope (DESIGN §6.2): `attempts = 3` after two
    invocations is what `execute()` reports by design -/
example : Mon.C11H.ok { cAttemptStart := true } .execute
    [(.attemptStart { attempt := 1, elapsed := 0 }, .unit 0), (.op 1, .raise (.ordinary 1 .transient) 0),
     (.classify "o1", .klass ⟨.transient, none⟩ 0),
     (.strategy .default .ctx ⟨1, .transient, none, none, 60, .exception⟩, .delay (.fin 0) 0),
     (.sleeper .dflt 0, .unit 0),
     (.attemptStart { attempt := 2, elapsed := 0 }, .raise (.ordinary 2 .transient) 0),
     (.classify "o2", .klass ⟨.transient, none⟩ 0),
     (.strategy .default .ctx ⟨2, .transient, none, some 0, 60, .exception⟩, .delay (.fin 0) 0),
     (.sleeper .dflt 0, .unit 0),
     (.attemptStart { attempt := 3, elapsed := 0 }, .unit 0), (.op 2, .value 9 0)]
    (.outcome { ok := true, value := some 9, stop := none, attempts := 3, lastClass := none, lastExc := none,
                lastResult := none, cause := none, elapsed := 0, nextSleep := none } []) = true := by decide

end Redress.Props.C11H
