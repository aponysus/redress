/-
  Redress.Props.C07Breaker — breaker-level part of "Open breaker fails fast; recovery admits
  exactly one probe".  (The policy-level part — a rejected call invokes nothing — is elsewhere.)

  State-level theorems hold for EVERY model state with the stated shape (reachable or not), every
  configuration and every clock value; history-level theorems for every history (with a
  non-decreasing clock where `Mono` is assumed).

  The last part is about caller-labelled histories: at most one admitted probe is unrecorded as long as
  no stale completion occurs (`noStale`); without that restriction the statement is false (finding F7).
-/
import Redress.Props.C06

namespace Redress.Breaker
open List

/-! ## OPEN: fail fast until the recovery timeout -/

/-- **open_rejects_until_timeout** — in state OPEN with `opened_at = t0`:
`allow()` at `now` is rejected (event `circuit_rejected`) and the WHOLE state is unchanged when
`now − t0 < recovery`; at `now − t0 ≥ recovery` it is admitted, the state becomes HALF_OPEN with
the probe flag set (nothing else changes) and the event is `circuit_half_open`. -/
theorem open_rejects_until_timeout (c : Cfg) (s : St) (t0 now : Nat)
    (hopen : s.state = .opened) (hat : s.openedAt = some t0) :
    (now < t0 + c.recovery → allow c s now = ((false, .opened, some .circuitRejected), s)) ∧
    (t0 + c.recovery ≤ now →
      allow c s now = ((true, .halfOpen, some .circuitHalfOpen),
        { s with state := .halfOpen, probe := true })) := by
  rw [allow_opened c hopen hat]
  exact ⟨fun h => if_neg (Nat.not_le.mpr h), fun h => if_pos h⟩

theorem open_rejects_iff (c : Cfg) (s : St) (t0 now : Nat)
    (hopen : s.state = .opened) (hat : s.openedAt = some t0) :
    ((allow c s now).1.1 = false ↔ now < t0 + c.recovery) ∧
    ((allow c s now).2 = s ↔ now < t0 + c.recovery) := by
  rw [allow_opened c hopen hat]
  by_cases h : t0 + c.recovery ≤ now
  · have hne : ({ s with state := .halfOpen, probe := true } : St) ≠ s :=
      fun e => by simpa [hopen] using congrArg St.state e
    simp [if_pos h, Nat.not_lt.mpr h, hne]
  · simp [if_neg h, Nat.lt_of_not_le h]

/-- **rejections_count_nothing** — a rejected `allow()` (in ANY state) records nothing: failure
history, class buckets, state and probe flag are untouched; and on a breaker whose `opened_at`
is set while OPEN (every reachable one) the whole state is untouched. -/
theorem rejections_count_nothing (c : Cfg) (s : St) (now : Nat)
    (hrej : (allow c s now).1.1 = false) :
    (allow c s now).2.failures = s.failures ∧
    (allow c s now).2.classFailures = s.classFailures ∧
    (allow c s now).2.state = s.state ∧
    (allow c s now).2.probe = s.probe ∧
    (allow c s now).1.2.2 = some .circuitRejected ∧
    ((s.state = .opened → s.openedAt ≠ none) → (allow c s now).2 = s) := by
  cases hs : s.state with
  | closed => simp [allow_closed c hs] at hrej
  | opened =>
    simp only [allow, hs] at hrej ⊢
    by_cases h : s.openedAt.getD now + c.recovery ≤ now
    · rw [if_pos h] at hrej; cases hrej
    · rw [if_neg h]
      refine ⟨rfl, rfl, rfl, rfl, rfl, fun hoa => ?_⟩
      obtain ⟨t0, hat⟩ := Option.ne_none_iff_exists'.mp (hoa trivial)
      cases s
      simp_all
  | halfOpen =>
    rw [allow_halfOpen c hs] at hrej ⊢
    by_cases h : s.probe = true
    · rw [if_pos h]; exact ⟨rfl, rfl, hs, rfl, rfl, fun _ => rfl⟩
    · rw [if_neg h] at hrej; cases hrej

/-- while OPEN every `record_*` returns no event and changes nothing -/
theorem open_ignores_records (c : Cfg) (s : St) (hopen : s.state = .opened) :
    recordSuccess s = (none, s) ∧ (∀ k now, recordFailure c s k now = (none, s)) ∧
    recordCancel s = s := by
  have hne : s.state ≠ .halfOpen := by simp [hopen]
  exact ⟨recordSuccess_of_ne hne, recordFailure_opened c hopen, recordCancel_of_ne hne⟩

/-- what a rejected / ignored operation returns while OPEN -/
def openOut : Op → Out
  | .allow _ => .decision false .opened (some .circuitRejected)
  | _ => .event none

/-- **open_fails_fast** — from the moment a breaker opens (`opened_at = t0`) and for ANY sequence
of operations (any number, any interleaving of allow / record_*), as long as every `allow` reads a
clock value `< t0 + recovery`: every `allow` is rejected, every `record_*` is ignored, and the
whole state is still the one at opening — in particular nothing is counted. -/
theorem open_fails_fast (c : Cfg) (s : St) (t0 : Nat) (hopen : s.state = .opened)
    (hat : s.openedAt = some t0) (L : List Op)
    (hearly : ∀ now, Op.allow now ∈ L → now < t0 + c.recovery) :
    mrun c s L = (L.map openOut, s) := by
  induction L with
  | nil => rfl
  | cons op r ih =>
    obtain ⟨hsu, hfa, hca⟩ := open_ignores_records c s hopen
    have hstep : mstep c s op = (openOut op, s) := by
      cases op with
      | allow now =>
        rw [mstep, (open_rejects_until_timeout c s t0 now hopen hat).1 (hearly now (by simp))]; rfl
      | success => rw [mstep, hsu]; rfl
      | cancel => rw [mstep, hca]; rfl
      | failure k now => rw [mstep, hfa]; rfl
    have := ih (fun now h => hearly now (by simp [h]))
    simp [mrun, hstep, this]

example : (St.openedAtTime 7).state = .opened ∧ (St.openedAtTime 7).openedAt = some 7 ∧
    (∀ now, Op.allow now ∈ [Op.allow 8, .failure .transient 100, .success, .allow 11] →
      now < 7 + exCfg.recovery) := by
  refine ⟨rfl, rfl, ?_⟩
  intro now h; simp at h; rcases h with rfl | rfl <;> decide

/-- the same, anchored at the operation that opened the circuit, in any reachable state: after
an operation that returned `circuit_opened` at `now0`, every continuation whose `allow`s come
before `now0 + recovery` is rejected / ignored throughout and leaves `St.openedAtTime now0`. -/
theorem opened_then_fails_fast (c : Cfg) (hw : 0 < c.window) (H1 : List Op) (op : Op)
    (L : List Op) (hm : Mono (H1 ++ [op]))
    (hopened : (mstep c (mrun c .init H1).2 op).1 = .event (some .circuitOpened)) :
    ∃ k now0, op = .failure k now0 ∧
      ((∀ now, Op.allow now ∈ L → now < now0 + c.recovery) →
        mrun c .init (H1 ++ op :: L) =
          ((mrun c .init (H1 ++ [op])).1 ++ L.map openOut, St.openedAtTime now0)) := by
  obtain ⟨k, now0, hop, hrun⟩ :=
    (pre_transition_failures_do_not_count c hw H1 op L hm).2 hopened
  refine ⟨k, now0, hop, fun hearly => ?_⟩
  rw [hrun, open_fails_fast c (St.openedAtTime now0) now0 rfl rfl L hearly]

/-- every reachable OPEN state has its opening instant recorded, so the biconditional applies
to it: after ANY monotone history that leaves the breaker OPEN, `allow` at `now` is rejected iff
`now <` (the history's opening instant) `+ recovery`. -/
theorem reachable_open_fails_fast (c : Cfg) (hw : 0 < c.window) (H : List Op) (hm : Mono H)
    (hopen : (mrun c .init H).2.state = .opened) :
    ∃ t0, openedAtOf c H = some t0 ∧ (mrun c .init H).2 = St.openedAtTime t0 ∧
      ∀ now, ((allow c (mrun c .init H).2 now).1.1 = false ↔ now < t0 + c.recovery) ∧
             ((allow c (mrun c .init H).2 now).2 = (mrun c .init H).2 ↔ now < t0 + c.recovery) := by
  obtain ⟨t0, h1, h2, -, h4⟩ := (non_closed_state_matches_history c hw H hm).1 hopen
  exact ⟨t0, h2, h4, fun now => open_rejects_iff c _ t0 now hopen h1⟩

example : Mono [Op.failure .transient 1, .failure .transient 2, .failure .transient 3] ∧
    (mrun exCfg .init [.failure .transient 1, .failure .transient 2, .failure .transient 3]).2.state
      = .opened := by decide

/-! ## HALF_OPEN: exactly one probe -/

/-- **half_open_single_probe** — while HALF_OPEN with the probe flag set, every `allow()` is
rejected and leaves the state unchanged, for any number of calls at any clock values. -/
theorem half_open_single_probe (c : Cfg) (s : St) (hho : s.state = .halfOpen)
    (hprobe : s.probe = true) (ts : List Nat) :
    mrun c s (ts.map .allow) =
      (ts.map (fun _ => .decision false .halfOpen (some .circuitRejected)), s) := by
  induction ts with
  | nil => rfl
  | cons t r ih => simp [mrun, mstep, allow_halfOpen c hho, hprobe, ih]

/-- non-vacuity: a reachable state with `state = HALF_OPEN ∧ probe` -/
example : Mono [Op.failure .transient 1, .failure .transient 2, .failure .transient 3, .allow 8] ∧
    (mrun exCfg .init [.failure .transient 1, .failure .transient 2, .failure .transient 3,
      .allow 8]).2.state = .halfOpen ∧
    (mrun exCfg .init [.failure .transient 1, .failure .transient 2, .failure .transient 3,
      .allow 8]).2.probe = true := by decide

/-- after the timeout exactly one caller is admitted: the first `allow` at or after
`t0 + recovery` is the probe, and every further `allow` (any number, any time) is rejected until
a `record_*` arrives. -/
theorem after_timeout_exactly_one_probe (c : Cfg) (s : St) (t0 now : Nat)
    (hopen : s.state = .opened) (hat : s.openedAt = some t0) (hlate : t0 + c.recovery ≤ now)
    (ts : List Nat) :
    mrun c s (.allow now :: ts.map .allow) =
      (.decision true .halfOpen (some .circuitHalfOpen) ::
        ts.map (fun _ => .decision false .halfOpen (some .circuitRejected)),
       { s with state := .halfOpen, probe := true }) := by
  have h := (open_rejects_until_timeout c s t0 now hopen hat).2 hlate
  have h2 := half_open_single_probe c { s with state := .halfOpen, probe := true } rfl rfl ts
  simp [mrun, mstep, h, h2]

/-- **probe_success_closes_empty** — `record_success()` in HALF_OPEN returns `circuit_closed` and
leaves exactly the state of a freshly constructed breaker: CLOSED, no `opened_at`, no probe flag,
EMPTY failure history and class buckets. -/
theorem probe_success_closes_empty (s : St) (hho : s.state = .halfOpen) :
    recordSuccess s = (some .circuitClosed, St.init) :=
  recordSuccess_halfOpen hho

/-- … so a single later failure does not re-trip when both thresholds that apply to it are
at least 2. -/
theorem after_close_single_failure_does_not_trip (c : Cfg) (s : St) (hho : s.state = .halfOpen)
    (k : EClass) (now : Nat) (hft : 2 ≤ c.failureThreshold)
    (hct : ∀ th, c.classThreshold k = some th → 2 ≤ th) :
    (recordFailure c (recordSuccess s).2 k now).1 = none ∧
    (recordFailure c (recordSuccess s).2 k now).2.state = .closed := by
  have hn : (noteFailure c St.init k now).1 = false := by
    rw [noteFailure_eq]
    cases hth : c.classThreshold k with
    | none => simp [St.init, prune]; omega
    | some th => have := hct th hth; simp [St.init, prune]; omega
  rw [probe_success_closes_empty s hho, recordFailure_closed c rfl, hn]
  cases c.tripOn k
  · exact ⟨rfl, rfl⟩
  · exact ⟨rfl, noteFailure_state c St.init k now⟩

example : (2 : Nat) ≤ exCfg.failureThreshold ∧
    ∀ th, exCfg.classThreshold .rateLimit = some th → 2 ≤ th := by decide

/-- **probe_failure_reopens_fresh** — `record_failure(k)` in HALF_OPEN (ANY class `k`, counted or
not) returns `circuit_opened` and leaves exactly `St.openedAtTime now`: OPEN, `opened_at = now`,
no flag, empty history; hence the timeout restarts: the next `allow` is rejected iff it comes
before `now + recovery`. -/
theorem probe_failure_reopens_fresh (c : Cfg) (s : St) (hho : s.state = .halfOpen)
    (k : EClass) (now : Nat) :
    recordFailure c s k now = (some .circuitOpened, St.openedAtTime now) ∧
    ∀ now', ((allow c (recordFailure c s k now).2 now').1.1 = false ↔ now' < now + c.recovery) := by
  have h := recordFailure_halfOpen c hho k now
  refine ⟨h, fun now' => ?_⟩
  rw [h]
  exact (open_rejects_iff c (St.openedAtTime now) now now' rfl rfl).1

/-- **probe_cancel_frees_slot** — `record_cancel()` in HALF_OPEN only clears the probe flag, so
the NEXT `allow()` is admitted (no event, state stays HALF_OPEN, flag set again). -/
theorem probe_cancel_frees_slot (c : Cfg) (s : St) (hho : s.state = .halfOpen) (now : Nat) :
    recordCancel s = { s with probe := false } ∧
    allow c (recordCancel s) now = ((true, .halfOpen, none), { s with probe := true }) := by
  rw [recordCancel_halfOpen hho, allow_halfOpen c (s := { s with probe := false }) hho]
  exact ⟨rfl, rfl⟩

/-- in HALF_OPEN without an outstanding probe the next caller is admitted as the probe -/
theorem half_open_free_slot_allows (c : Cfg) (s : St) (hho : s.state = .halfOpen)
    (hfree : s.probe = false) (now : Nat) :
    allow c s now = ((true, .halfOpen, none), { s with probe := true }) := by
  rw [allow_halfOpen c hho, hfree]; rfl

/-! ## At most one admitted-and-unrecorded probe (caller-labelled histories)

`COp.call id now` = caller `id` calls `allow()` at `now`; `COp.settle id r` = caller `id` calls one
`record_*`.  `disciplined` = every caller asks once and every *admitted* caller records exactly
once (never a rejected one, never twice).  `G.outProbe` = callers admitted with decision state
HALF_OPEN that have not recorded yet.

FULL STATEMENT (false — see `single_outstanding_probe_false_F7`):
    ∀ c H, disciplined c .init H → (grun c .init H).outProbe.length ≤ 1

What is missing in the `_partial` version is precisely the exclusion of *stale completions*
(`noStale`): a caller admitted while CLOSED, before the circuit last opened, that records while
the breaker is HALF_OPEN.  The breaker API has no call tokens, so it cannot tell such a record
from the probe's (DESIGN §6 F7). -/

/-- the flag is set iff there is exactly one outstanding probe, else there is none -/
def ProbeInv (g : G) : Prop :=
  g.outProbe.length = if g.s.state = .halfOpen ∧ g.s.probe = true then 1 else 0

theorem probeInv_step (c : Cfg) (g : G) (op : COp) (hinv : ProbeInv g)
    (hn : noStale c g [op] = true) :
    ProbeInv (gstep c g op) := by
  unfold ProbeInv at hinv ⊢
  cases op with
  | call id now =>
    -- the caller is counted as a probe exactly when `allow` sets the flag
    cases hs : g.s.state with
    | closed =>
      rw [if_neg (by simp [hs])] at hinv
      simp [gstep, allow_closed c hs, hs, hinv]
    | opened =>
      rw [if_neg (by simp [hs])] at hinv
      simp only [gstep, allow, hs]
      by_cases h : g.s.openedAt.getD now + c.recovery ≤ now
      · simp [if_pos h, hinv]
      · simp [if_neg h, hinv]
    | halfOpen =>
      simp only [gstep, allow_halfOpen c hs]
      cases hp : g.s.probe
      · rw [if_neg (by simp [hp])] at hinv
        simp [hinv, hs]
      · simpa [hs, hp] using hinv
  | settle id r =>
    -- afterwards the flag is clear, and the one outstanding probe (if any) was this caller
    have hafter := record_not_probing c g.s r.op (by cases r <;> simp [Settle.op])
    show (g.outProbe.erase id).length =
      if (mstep c g.s r.op).2.state = .halfOpen ∧ (mstep c g.s r.op).2.probe = true then 1 else 0
    rw [if_neg hafter]
    by_cases hpr : g.s.state = .halfOpen ∧ g.s.probe = true
    · have hmem : id ∈ g.outProbe := by simpa [noStale, hpr.1] using hn
      rw [List.length_erase_of_mem hmem, hinv, if_pos hpr]
    · rw [if_neg hpr, List.length_eq_zero_iff] at hinv
      simp [hinv]

theorem disciplined_cons (c : Cfg) (g : G) (op : COp) (r : List COp) :
    disciplined c g (op :: r) = (disciplined c g [op] && disciplined c (gstep c g op) r) := by
  cases op <;> simp [disciplined]

theorem noStale_cons (c : Cfg) (g : G) (op : COp) (r : List COp) :
    noStale c g (op :: r) = (noStale c g [op] && noStale c (gstep c g op) r) := by
  cases op <;> simp [noStale]

theorem noStale_append (c : Cfg) (g : G) (A B : List COp) :
    noStale c g (A ++ B) = (noStale c g A && noStale c (grun c g A) B) := by
  induction A generalizing g with
  | nil => simp [noStale, grun]
  | cons op r ih => rw [List.cons_append, noStale_cons, ih, noStale_cons (r := r), grun, Bool.and_assoc]

theorem probeInv_run (c : Cfg) (H : List COp) (g : G) (hinv : ProbeInv g)
    (hn : noStale c g H = true) : ProbeInv (grun c g H) := by
  induction H generalizing g with
  | nil => exact hinv
  | cons op r ih =>
    rw [noStale_cons, Bool.and_eq_true] at hn
    exact ih _ (probeInv_step c g op hinv hn.1) hn.2

/-- Exactly one admitted probe is unrecorded while the breaker is HALF_OPEN with the flag set,
none otherwise.  Only stale completions have to be excluded; the caller discipline plays no part. -/
theorem outstanding_probes (c : Cfg) (H : List COp) (hn : noStale c .init H = true) :
    (grun c .init H).outProbe.length ≤ 1 ∧
    ((grun c .init H).outProbe.length = 1 ↔
      (grun c .init H).s.state = .halfOpen ∧ (grun c .init H).s.probe = true) := by
  have h := probeInv_run c H G.init (by simp [ProbeInv, G.init, St.init]) hn
  unfold ProbeInv at h
  split at h <;> simp_all

/-- **single_outstanding_probe_partial** — for every configuration and every caller-labelled
history (no clock assumption) that contains no stale completion (the hypothesis on the caller
discipline is not needed, see `outstanding_probes`): at
every moment at most one admitted probe is unrecorded; more precisely there is exactly one iff
the breaker is HALF_OPEN with the flag set, and none otherwise — so nobody else is admitted in
HALF_OPEN until that probe's `record_*` arrives (`half_open_single_probe`). -/
theorem single_outstanding_probe_partial (c : Cfg) (H : List COp)
    (hd : disciplined c .init H = true) (hn : noStale c .init H = true) :
    (grun c .init H).outProbe.length ≤ 1 ∧
    ((grun c .init H).outProbe.length = 1 ↔
      (grun c .init H).s.state = .halfOpen ∧ (grun c .init H).s.probe = true) := by
  exact outstanding_probes c H hn

/-- it holds at every prefix as well ("at any time") -/
theorem single_outstanding_probe_partial_prefix (c : Cfg) (H P : List COp) (hP : P <+: H)
    (hd : disciplined c .init H = true) (hn : noStale c .init H = true) :
    (grun c .init P).outProbe.length ≤ 1 := by
  obtain ⟨R, rfl⟩ := hP
  rw [noStale_append, Bool.and_eq_true] at hn
  exact (outstanding_probes c P hn.1).1

/-- a disciplined history without stale completions that goes through opening, probing, a
rejected second caller, a cancelled probe, a re-admitted probe, re-opening and closing -/
def exCalls : List COp :=
  [.call 0 0, .settle 0 (.failure .transient 1), .call 1 1, .settle 1 (.failure .transient 2),
   .call 2 2, .settle 2 (.failure .transient 3),          -- opens at 3
   .call 3 4,                                             -- rejected
   .call 4 8, .call 5 8,                                  -- 4 is the probe, 5 rejected
   .settle 4 .cancel, .call 6 9,                          -- slot freed, 6 is the probe
   .settle 6 (.failure .unknown 10),                      -- re-opens at 10
   .call 7 15, .settle 7 .success, .call 8 16]

example : disciplined exCfg .init exCalls = true ∧ noStale exCfg .init exCalls = true := by decide

def f7Cfg : Cfg :=
  { failureThreshold := 1, window := 10, recovery := 5,
    tripOn := fun k => k == .transient || k == .serverError, classThreshold := fun _ => none }

def f7Calls : List COp :=
  [.call 0 0, .call 1 0, .settle 1 (.failure .transient 1), .call 2 6, .settle 0 .cancel, .call 3 6]

/-- **F7 (stale completion), proved on a concrete history.**  Threshold 1.  Caller 0 is admitted
while CLOSED and is slow.  Caller 1's failure opens the circuit at 1; after the recovery timeout
caller 2 is admitted as the probe; caller 0 now records (a cancel) — which frees the probe slot —
and caller 3 is admitted as a second probe while caller 2 is still outstanding.  The history
obeys the caller discipline, so the unrestricted statement
`∀ c H, disciplined c .init H → (grun c .init H).outProbe.length ≤ 1` is false. -/
theorem single_outstanding_probe_false_F7 :
    disciplined f7Cfg .init f7Calls = true ∧
    (grun f7Cfg .init f7Calls).outProbe = [3, 2] ∧
    noStale f7Cfg .init f7Calls = false := by decide

theorem single_outstanding_probe_unrestricted_is_false :
    ¬ (∀ (c : Cfg) (H : List COp), disciplined c .init H = true →
        (grun c .init H).outProbe.length ≤ 1) := by
  intro h
  have := h f7Cfg f7Calls single_outstanding_probe_false_F7.1
  rw [single_outstanding_probe_false_F7.2.1] at this
  simp at this

/-- another face of F7, on a plain breaker history: a stale *success* closes the circuit while the
probe is outstanding, so callers are admitted freely before the probe's result. -/
theorem stale_success_closes_with_probe_outstanding :
    (mrun f7Cfg .init [.allow 0, .allow 0, .failure .transient 1, .allow 6, .success, .allow 6]).1 =
      [.decision true .closed none, .decision true .closed none, .event (some .circuitOpened),
       .decision true .halfOpen (some .circuitHalfOpen), .event (some .circuitClosed),
       .decision true .closed none] := by decide

end Redress.Breaker
