/-
  C04 for a `Policy` WITHOUT a retry component — `Policy.call` surfaces exactly the single attempt.

  `Mon.C04NR.ok` (Redress/MonitorsNR.lean) is true of EVERY run of the model: every configuration, every
  entry point, every world (answer stream, clock, breaker state).  `Mon.C04` is guarded by `hasLoop`, i.e.
  silent when `retry is None`; this file closes that gap for `call()`, `Props/C11NR.lean` for `execute()`.

  The programs have no loop.  The monitor's fold state `cur w.trace` only moves at the (one) `op` exchange
  and at the abort poll; every other procedure of the policy layer is *inert*: it only appends exchanges the
  fold ignores, and when it fails it says where the exception came from (`HSrc`: an attempt hook;
  `OSrc`: a metric / log hook, and then the exception is not an `Exception` — those are swallowed).

  The first half (everything up to `### C04NR`) is shared with `Props/C11NR.lean`.
-/
import Redress.Lemmas.PolicyFrame
import Redress.Lemmas.MonitorFacts
import Redress.MonitorsNR

open Std.Do

namespace Redress.Props.C04NR
open Redress Redress.Retry Redress.Policy Redress.Mon Redress.Mon.C04NR

def cur (tr : List (Req × Ans)) : St := tr.foldr (fun x s => step s x) {}

@[simp] theorem cur_nil : cur [] = {} := rfl
@[simp] theorem cur_cons (x : Req × Ans) (t : List (Req × Ans)) : cur (x :: t) = step (cur t) x := rfl

theorem run_reverse (t : List (Req × Ans)) : run t.reverse = cur t := by
  simp [run, cur, List.foldl_reverse]

def inertR : Req → Bool
  | .op _ | .abortIf => false
  | _ => true

theorem step_inert (s : St) (x : Req × Ans) (h : inertR x.1 = true) : step s x = s := by
  obtain ⟨r, a⟩ := x
  cases r <;> simp_all [inertR, step]

def Stable (P : List (Req × Ans) → Prop) : Prop := ∀ x t, inertR x.1 = true → P t → P (x :: t)

def Mono (P : List (Req × Ans) → Prop) : Prop := ∀ x t, P t → P (x :: t)

theorem Mono.stable {P : List (Req × Ans) → Prop} (h : Mono P) : Stable P := fun x t _ hp => h x t hp

theorem stable_cur (S : St → Prop) : Stable (fun t => S (cur t)) := by
  intro x t hx hp
  simpa [step_inert _ x hx] using hp

theorem Stable.and {P Q : List (Req × Ans) → Prop} (hp : Stable P) (hq : Stable Q) :
    Stable (fun t => P t ∧ Q t) := fun x t hx h => ⟨hp x t hx h.1, hq x t hx h.2⟩

theorem Stable.or {P Q : List (Req × Ans) → Prop} (hp : Stable P) (hq : Stable Q) :
    Stable (fun t => P t ∨ Q t) := fun x t hx h => h.imp (hp x t hx) (hq x t hx)

theorem Mono.or {P Q : List (Req × Ans) → Prop} (hp : Mono P) (hq : Mono Q) :
    Mono (fun t => P t ∨ Q t) := fun x t h => h.imp (hp x t) (hq x t)

theorem Mono.and {P Q : List (Req × Ans) → Prop} (hp : Mono P) (hq : Mono Q) :
    Mono (fun t => P t ∧ Q t) := fun x t h => ⟨hp x t h.1, hq x t h.2⟩

theorem Mono.const (p : Prop) : Mono (fun _ => p) := fun _ _ h => h

theorem mono_any (f : Req × Ans → Bool) : Mono (fun t => t.any f = true) := by
  intro x t h
  simp only [List.any_cons, h, Bool.or_true]

theorem mono_raisedBy (p : Req → Bool) (e : Exn) : Mono (fun t => Mon.raisedBy p t e = true) :=
  mono_any _

theorem mono_rejected : Mono (fun t => Mon.rejected t = true) := mono_any _

theorem mono_hookFault : Mono (fun t => Mon.attemptHookFault t = true) := mono_any _

theorem raisedBy_head (p : Req → Bool) (r : Req) (e : Exn) (d : Nat) (t : List (Req × Ans))
    (hp : p r = true) : Mon.raisedBy p ((r, .raise e d) :: t) e = true := by
  simp [Mon.raisedBy, hp]

theorem raisedBy_mono_pred {p q : Req → Bool} (h : ∀ r, p r = true → q r = true)
    {t : List (Req × Ans)} {e : Exn} (hr : Mon.raisedBy p t e = true) : Mon.raisedBy q t e = true := by
  simp only [Mon.raisedBy, List.any_eq_true, Bool.and_eq_true] at hr ⊢
  obtain ⟨x, hx, hpx, ha⟩ := hr
  exact ⟨x, hx, h _ hpx, ha⟩

def HSrc (e : Exn) (t : List (Req × Ans)) : Prop := e = .stuck ∨ Mon.raisedBy Mon.isAttemptHook t e = true

structure OSrc (e : Exn) (t : List (Req × Ans)) : Prop where
  nonExc : e.isException = false
  src : e = .stuck ∨ Mon.raisedBy C11NR.isObsHook t e = true

theorem mono_HSrc (e : Exn) : Mono (HSrc e) := (Mono.const _).or (mono_raisedBy _ _)
theorem mono_OSrc (e : Exn) : Mono (OSrc e) := fun x t h =>
  ⟨h.1, h.2.imp id (mono_raisedBy _ _ x t)⟩

theorem HSrc.hookFault {e : Exn} {t : List (Req × Ans)} (h : HSrc e t) :
    e = .stuck ∨ Mon.attemptHookFault t = true := by
  rcases h with h | h
  · exact Or.inl h
  · right
    simp only [Mon.raisedBy, Mon.attemptHookFault, List.any_eq_true, Bool.and_eq_true] at h ⊢
    obtain ⟨x, hx, hpx, ha⟩ := h
    refine ⟨x, hx, hpx, ?_⟩
    split at ha <;> simp_all

section leaves
variable (P : List (Req × Ans) → Prop) (hP : Stable P)
include hP

/-- one exchange with a callback the fold ignores; `p` is any set of requests containing it -/
theorem ask_st (r : Req) (hr : inertR r = true) (p : Req → Bool) (hp : p r = true) :
    ⦃fun w => ⌜P w.trace⌝⦄ ask r
    ⦃post⟨fun _ w => ⌜P w.trace⌝,
          fun e w => ⌜P w.trace ∧ (e = .stuck ∨ Mon.raisedBy p w.trace e = true)⌝⟩⦄ :=
  ask_triple r (fun _ a h _ => hP (r, a) _ hr h)
    (fun _ e d h => ⟨hP (r, _) _ hr h, Or.inr (raisedBy_head p r e d _ hp)⟩)

theorem askHook_st (r : Req) (hr : inertR r = true) (p : Req → Bool) (hp : p r = true) :
    ⦃fun w => ⌜P w.trace⌝⦄ askHook r
    ⦃post⟨fun _ w => ⌜P w.trace⌝,
          fun e w => ⌜P w.trace ∧ (e = .stuck ∨ Mon.raisedBy p w.trace e = true)⌝⟩⦄ :=
  askHook_triple r (ask_st P hP r hr p hp) (fun w h => presil_cases (fun w => P w.trace) w (fun _ => h))

end leaves

section policyLeaves
variable (cfg : Cfg) (P : List (Req × Ans) → Prop) (hP : Stable P)
include hP

/-- `except Exception: pass` around a metric / log hook: only a BaseException-only kind gets out -/
theorem swallow_st (e : Exn) :
    ⦃fun w => ⌜P w.trace ∧ (e = .stuck ∨ Mon.raisedBy C11NR.isObsHook w.trace e = true)⌝⦄ swallowException e
    ⦃post⟨fun _ w => ⌜P w.trace⌝, fun e' w => ⌜P w.trace ∧ OSrc e' w.trace⌝⟩⦄ := by
  mvcgen [swallowException]
  · rename_i h
    exact h.1
  · rename_i hx _ h
    exact ⟨h.1, Bool.eq_false_iff.mpr hx, h.2⟩

/-- `_emit_breaker_event` -/
theorem emitBreakerEvent_st (ev : Option Event) (st : CState) (k : Option EClass) :
    ⦃fun w => ⌜P w.trace⌝⦄ emitBreakerEvent cfg ev st k
    ⦃post⟨fun _ w => ⌜P w.trace⌝, fun e w => ⌜P w.trace ∧ OSrc e w.trace⌝⟩⦄ := by
  have h := fun r hr hp => askHook_st P hP r hr C11NR.isObsHook hp
  have hs := swallow_st P hP
  mvcgen [emitBreakerEvent, askMetric, askLog, h, hs]

theorem noRetryStartHook_st :
    ⦃fun w => ⌜P w.trace⌝⦄ noRetryStartHook cfg
    ⦃post⟨fun _ w => ⌜P w.trace⌝, fun e w => ⌜P w.trace ∧ HSrc e w.trace⌝⟩⦄ := by
  have h := fun r hr hp => ask_st P hP r hr Mon.isAttemptHook hp
  mvcgen [noRetryStartHook, xElapsed, h]

theorem noRetryEndHook_st (exc : Option Exn) (r : Option Nat) (d : AttemptDecision)
    (stop : Option StopReason) (cause : Option Cause) :
    ⦃fun w => ⌜P w.trace⌝⦄ noRetryEndHook cfg exc r d stop cause
    ⦃post⟨fun _ w => ⌜P w.trace⌝, fun e w => ⌜P w.trace ∧ HSrc e w.trace⌝⟩⦄ := by
  have h := fun r hr hp => ask_st P hP r hr Mon.isAttemptHook hp
  mvcgen [noRetryEndHook, xElapsed, h]

omit hP in
/-- `_build_policy_outcome`: the fields, as given -/
theorem policyOutcome_st (ok : Bool) (value : Option Nat) (stop : Option StopReason) (attempts : Nat)
    (lc : Option EClass) (le : Option String) (cause : Option Cause) :
    ⦃fun w => ⌜P w.trace⌝⦄ policyOutcome ok value stop attempts lc le cause
    ⦃post⟨fun o w => ⌜P w.trace ∧ o.ok = ok ∧ o.value = (if ok then value else none) ∧ o.stop = stop ∧
            o.attempts = attempts ∧ o.lastClass = lc ∧ o.lastExc = le ∧ o.lastResult = none ∧
            o.cause = cause ∧ o.nextSleep = none⌝,
          fun _ _ => ⌜False⌝⟩⦄ := by
  mvcgen [policyOutcome, xElapsed]

/-- `breaker.allow()`: a refusal is visible in the log -/
theorem breakerAllow_st (bc : Breaker.Cfg) :
    ⦃fun w => ⌜P w.trace⌝⦄ breakerAllow bc
    ⦃post⟨fun d w => ⌜P w.trace ∧ (d.1 = false → Mon.rejected w.trace = true)⌝, fun _ _ => ⌜False⌝⟩⦄ := by
  mvcgen [breakerAllow]
  all_goals (try subst_vars) <;> (try intros)
  refine ⟨hP (_, _) _ rfl (by assumption), fun hd => ?_⟩
  simp [Mon.rejected, hd]

theorem recordCancel_st :
    ⦃fun w => ⌜P w.trace⌝⦄ Policy.recordCancel cfg ⦃post⟨fun _ w => ⌜P w.trace⌝, fun _ _ => ⌜False⌝⟩⦄ := by
  mvcgen [Policy.recordCancel]
  all_goals (try subst_vars) <;> (try intros)
  all_goals first
    | assumption
    | exact hP (_, _) _ rfl (by assumption)

theorem recordSuccess_st :
    ⦃fun w => ⌜P w.trace⌝⦄ Policy.recordSuccess cfg
    ⦃post⟨fun _ w => ⌜P w.trace⌝, fun e w => ⌜P w.trace ∧ OSrc e w.trace⌝⟩⦄ := by
  have h := emitBreakerEvent_st cfg P hP
  mvcgen [Policy.recordSuccess, h]
  all_goals (try subst_vars) <;> (try intros)
  all_goals first
    | assumption
    | exact hP (_, _) _ rfl (by assumption)

theorem recordFailure_st (k : EClass) :
    ⦃fun w => ⌜P w.trace⌝⦄ Policy.recordFailure cfg k
    ⦃post⟨fun _ w => ⌜P w.trace⌝, fun e w => ⌜P w.trace ∧ OSrc e w.trace⌝⟩⦄ := by
  have h := emitBreakerEvent_st cfg P hP
  mvcgen [Policy.recordFailure, h]
  all_goals (try subst_vars) <;> (try intros)
  all_goals first
    | assumption
    | exact hP (_, _) _ rfl (by assumption)

end policyLeaves

def Is (s : St) (t : List (Req × Ans)) : Prop := cur t = s

theorem stable_Is (s : St) : Stable (Is s) := stable_cur (fun s' => s' = s)

def stAbort : St := { preAbort := true }

def stVal (v : Nat) : St := { ops := 1, opVal := some v }

/-- after the invocation raised `e` (`stuck` without a raise in the log: an ill-shaped answer) -/
structure ExcSt (e : Exn) (s : St) : Prop where
  ops : s.ops = 1
  opVal : s.opVal = none
  preAbort : s.preAbort = false
  opExc : s.opExc = some e ∨ (e = .stuck ∧ s.opExc = none)

theorem ExcSt_iff (e : Exn) (s : St) :
    ExcSt e s ↔ (s.ops = 1 ∧ s.opVal = none ∧ s.preAbort = false ∧
      (s.opExc = some e ∨ (e = .stuck ∧ s.opExc = none))) :=
  ⟨fun h => ⟨h.1, h.2, h.3, h.4⟩, fun h => ⟨h.1, h.2.1, h.2.2.1, h.2.2.2⟩⟩

theorem invokeOp_st (n : Nat) :
    ⦃fun w => ⌜Is {} w.trace⌝⦄ invokeOp n
    ⦃post⟨fun v w => ⌜Is (stVal v) w.trace⌝, fun e w => ⌜ExcSt e (cur w.trace)⌝⟩⦄ := by
  mvcgen [invokeOp, ask_trace]
  all_goals (try subst_vars) <;> (try rintro ⟨d, ht⟩)
  all_goals simp_all +zetaDelta [Is, step, stVal, ExcSt_iff]

theorem step_abortIf_init (a : Ans) :
    step {} (.abortIf, a) = (match a with | .bool true _ => stAbort | _ => {}) := by
  cases a with
  | bool b d => cases b <;> rfl
  | _ => rfl

theorem askAbortIf_st :
    ⦃fun w => ⌜Is {} w.trace⌝⦄ ask .abortIf
    ⦃post⟨fun a w => ⌜Is (match a with | .bool true _ => stAbort | _ => {}) w.trace⌝,
          fun e w => ⌜Is {} w.trace ∧ HSrc e w.trace⌝⟩⦄ := by
  mvcgen [ask_trace]
  all_goals (try subst_vars) <;> (try rintro ⟨d, ht⟩) <;> (try intros)
  all_goals simp_all +zetaDelta [Is, step_abortIf_init, HSrc, Mon.raisedBy, Mon.isAttemptHook]

/-- `check_abort_no_retry` -/
theorem checkAbortNoRetry_st (cfg : Cfg) :
    ⦃fun w => ⌜Is {} w.trace⌝⦄ checkAbortNoRetry cfg
    ⦃post⟨fun b w => ⌜Is (if b then stAbort else {}) w.trace⌝,
          fun e w => ⌜Is {} w.trace ∧ HSrc e w.trace⌝⟩⦄ := by
  have h1 := askAbortIf_st
  have h2 := recordCancel_st cfg (Is stAbort) (stable_Is _)
  mvcgen [checkAbortNoRetry, h1, h2]
  all_goals (try subst_vars) <;> (try intros)
  all_goals simp_all +zetaDelta [HSrc]

/-! ### C04NR — `Policy.call` without a retry component -/

def RetV (v : Nat) (t : List (Req × Ans)) : Prop := (cur t).ops = 1 ∧ (cur t).opVal = some v

/-- `call()` raised `e`: at most one invocation; `e` is the invocation's own exception, or was raised by an
    attempt hook / the abort predicate / a metric or log hook, or is the library's `AbortRetryError` for a
    pre-flight abort -/
def RaiseV (e : Exn) (t : List (Req × Ans)) : Prop :=
  (cur t).ops ≤ 1 ∧
    (((cur t).ops = 1 ∧ (cur t).opExc = some e) ∨ HSrc e t ∨ OSrc e t ∨
      (e = .libAbort ∧ (cur t).preAbort = true ∧ (cur t).ops = 0))

def G (r : Res) (t : List (Req × Ans)) : Prop :=
  Mon.rejected t = true ∨
    (match r with
     | .ret v => RetV v t
     | .raised e => RaiseV e t
     | .outcome .. => False)

theorem stable_RaiseV (e : Exn) : Stable (RaiseV e) :=
  (stable_cur (fun s => s.ops ≤ 1)).and
    ((stable_cur (fun s => s.ops = 1 ∧ s.opExc = some e)).or
      ((mono_HSrc e).stable.or ((mono_OSrc e).stable.or
        (stable_cur (fun s => e = .libAbort ∧ s.preAbort = true ∧ s.ops = 0)))))

theorem stable_G (r : Res) : Stable (G r) := by
  refine mono_rejected.stable.or ?_
  cases r with
  | ret v => exact stable_cur (fun s => s.ops = 1 ∧ s.opVal = some v)
  | raised e => exact stable_RaiseV e
  | outcome o tl => exact fun _ _ _ h => h

/-- an error of a hook replaces whatever was about to be raised -/
theorem G.src {e e' : Exn} {t : List (Req × Ans)} (h : G (.raised e) t) (hs : HSrc e' t ∨ OSrc e' t) :
    G (.raised e') t := by
  rcases h with h | h
  · exact Or.inl h
  · exact Or.inr ⟨h.1, Or.inr (by rcases hs with hs | hs; exact Or.inl hs; exact Or.inr (Or.inl hs))⟩

theorem G.hsrc {e e' : Exn} {t : List (Req × Ans)} (h : G (.raised e) t) (hs : HSrc e' t) : G (.raised e') t :=
  G.src h (Or.inl hs)

theorem G.osrc {e e' : Exn} {t : List (Req × Ans)} (h : G (.raised e) t) (hs : OSrc e' t) : G (.raised e') t :=
  G.src h (Or.inr hs)

theorem G.of_is {s : St} {e : Exn} {t : List (Req × Ans)} (hs : s.ops ≤ 1)
    (h : Is s t) (hsrc : HSrc e t ∨ OSrc e t) : G (.raised e) t := by
  refine Or.inr ⟨by rw [h]; exact hs, Or.inr ?_⟩
  rcases hsrc with hs | hs
  · exact Or.inl hs
  · exact Or.inr (Or.inl hs)

theorem G.init_hsrc {e : Exn} {t : List (Req × Ans)} (h : Is {} t) (hs : HSrc e t) : G (.raised e) t :=
  G.of_is (s := {}) (by decide) h (Or.inl hs)

theorem G.init_osrc {e : Exn} {t : List (Req × Ans)} (h : Is {} t) (hs : OSrc e t) : G (.raised e) t :=
  G.of_is (s := {}) (by decide) h (Or.inr hs)

theorem G.val_hsrc {v : Nat} {e : Exn} {t : List (Req × Ans)} (h : Is (stVal v) t) (hs : HSrc e t) :
    G (.raised e) t :=
  G.of_is (s := stVal v) (by simp [stVal]) h (Or.inl hs)

theorem G.val_osrc {v : Nat} {e : Exn} {t : List (Req × Ans)} (h : Is (stVal v) t) (hs : OSrc e t) :
    G (.raised e) t :=
  G.of_is (s := stVal v) (by simp [stVal]) h (Or.inr hs)

theorem G.of_exc {e : Exn} {t : List (Req × Ans)} (h : ExcSt e (cur t)) : G (.raised e) t := by
  obtain ⟨h1, _, _, h4⟩ := h
  refine Or.inr ⟨by omega, ?_⟩
  rcases h4 with h4 | ⟨h4, _⟩
  · exact Or.inl ⟨h1, h4⟩
  · exact Or.inr (Or.inl (Or.inl h4))

theorem G.of_val {v : Nat} {t : List (Req × Ans)} (h : Is (stVal v) t) : G (.ret v) t := by
  refine Or.inr ?_
  simp only [RetV]
  rw [h]
  simp [stVal]

theorem G.of_abort {t : List (Req × Ans)} (h : Is stAbort t) : G (.raised .libAbort) t := by
  refine Or.inr ⟨by rw [h]; simp [stAbort], Or.inr (Or.inr (Or.inr ⟨rfl, ?_, ?_⟩))⟩ <;> rw [h] <;> rfl

section call
variable (cfg : Cfg)

/-- `_handle_abort_call` -/
theorem handleAbortCall_st (e : Exn) :
    ⦃fun w => ⌜G (.raised e) w.trace⌝⦄ handleAbortCall cfg e
    ⦃post⟨fun _ w => ⌜G (.raised e) w.trace⌝, fun e' w => ⌜G (.raised e') w.trace⌝⟩⦄ := by
  have h1 := noRetryEndHook_st cfg (G (.raised e)) (stable_G _)
  have h2 := recordCancel_st cfg (G (.raised e)) (stable_G _)
  mvcgen [handleAbortCall, h1, h2]
  · exact id
  · exact G.hsrc
  · exact id

/-- `_handle_exhausted_call` -/
theorem handleExhaustedCall_st (e : Exn) :
    ⦃fun w => ⌜G (.raised e) w.trace⌝⦄ handleExhaustedCall cfg e
    ⦃post⟨fun _ w => ⌜G (.raised e) w.trace⌝, fun e' w => ⌜G (.raised e') w.trace⌝⟩⦄ := by
  have h1 := recordFailure_st cfg (G (.raised e)) (stable_G _)
  mvcgen [handleExhaustedCall, h1]
  · exact id
  · exact G.osrc

/-- `_handle_exception_call` without a retry component: `default_classifier`, no callback -/
theorem handleExceptionCall_st (hret : cfg.hasRetry = false) (e : Exn) (b : Bool) :
    ⦃fun w => ⌜G (.raised e) w.trace⌝⦄ handleExceptionCall cfg e b
    ⦃post⟨fun _ w => ⌜G (.raised e) w.trace⌝, fun e' w => ⌜G (.raised e') w.trace⌝⟩⦄ := by
  have h1 := noRetryEndHook_st cfg (G (.raised e)) (stable_G _)
  have h2 := recordFailure_st cfg (G (.raised e)) (stable_G _)
  unfold handleExceptionCall classifyForBreaker
  simp only [hret, Bool.not_false, Bool.true_and, Bool.false_eq_true, if_false]
  mvcgen [h1, h2]
  · exact id
  · exact G.osrc
  · exact G.hsrc
  · exact id
  · exact G.osrc

/-- the `except` ladder of `Policy.call`: what it re-raises is what it caught, unless a hook it runs on
    the way raises something else -/
theorem callLadder_st (hret : cfg.hasRetry = false) (e : Exn) :
    ⦃fun w => ⌜G (.raised e) w.trace⌝⦄ callLadder cfg e
    ⦃post⟨fun v w => ⌜Is (stVal v) w.trace⌝, fun e' w => ⌜G (.raised e') w.trace⌝⟩⦄ :=
  callLadder_rule (E := fun e w => G (.raised e) w.trace) e
    (fun _ => triple_raise (recordCancel_st cfg (G (.raised e)) (stable_G _)) fun _ _ => False.elim)
    (fun _ => handleAbortCall_st cfg e) (fun _ => handleExhaustedCall_st cfg e)
    (fun _ _ _ => handleExceptionCall_st cfg hret e true) (fun _ _ h => h)

structure IsB (b : Bool) (t : List (Req × Ans)) : Prop where
  is : Is {} t
  rej : b = false → Mon.rejected t = true

theorem stable_IsB (b : Bool) : Stable (IsB b) := fun x t hx h =>
  ⟨stable_Is _ x t hx h.is, fun hb => mono_rejected x t (h.rej hb)⟩

theorem breakerAllow_b (bc : Breaker.Cfg) :
    ⦃fun w => ⌜Is {} w.trace⌝⦄ breakerAllow bc
    ⦃post⟨fun d w => ⌜IsB d.1 w.trace⌝, fun _ _ => ⌜False⌝⟩⦄ := by
  mvcgen [breakerAllow]
  all_goals (try subst_vars) <;> (try intros)
  refine ⟨stable_Is _ (_, _) _ rfl (by assumption), fun hd => ?_⟩
  simp [Mon.rejected, hd]

/-- `check_breaker` -/
theorem checkBreaker_st :
    ⦃fun w => ⌜Is {} w.trace⌝⦄ checkBreaker cfg
    ⦃post⟨fun _ w => ⌜Is {} w.trace⌝, fun e w => ⌜G (.raised e) w.trace⌝⟩⦄ := by
  have h1 := breakerAllow_b
  have h2 := fun b => emitBreakerEvent_st cfg (IsB b) (stable_IsB b)
  mvcgen [checkBreaker, h1, h2]
  · rename_i h
    exact h.is
  · rename_i hd _ h
    exact Or.inl (h.rej (Bool.eq_false_iff.mpr hd))
  · exact fun h hs => G.init_osrc h.is hs

/-- `Policy.call` / `AsyncPolicy.call` without a retry component -/
theorem call_st (hret : cfg.hasRetry = false) :
    ⦃fun w => ⌜Is {} w.trace⌝⦄ Policy.call cfg
    ⦃post⟨fun v w => ⌜G (.ret v) w.trace⌝, fun e w => ⌜G (.raised e) w.trace⌝⟩⦄ :=
  triple_mono (ha := fun _ _ h => G.of_val h) (hp := fun _ h => h) (he := fun _ _ h => h) <|
  settled_rule (P := fun w => Is {} w.trace) (E := fun e w => G (.raised e) w.trace) (fun _ h => h)
    (callAdmitted_nr_rule hret (P1 := fun w => Is {} w.trace) (checkBreaker_st cfg)
      (triple_mono (checkAbortNoRetry_st cfg) (fun _ h => h)
        (fun b _ h => by
          cases b
          · exact h
          · exact G.of_abort h)
        (fun _ _ h => G.init_hsrc h.1 h.2))
      (triple_raise (noRetryStartHook_st cfg (Is {}) (stable_Is _)) fun _ _ h => G.init_hsrc h.1 h.2)
      (triple_raise (invokeOp_st 1) fun _ _ => G.of_exc)
      (fun v => triple_raise (noRetryEndHook_st cfg (Is (stVal v)) (stable_Is _) none (some v) .success none none) fun _ _ h => G.val_hsrc h.1 h.2)
      (fun v => triple_raise (recordSuccess_st cfg (Is (stVal v)) (stable_Is _)) fun _ _ h => G.val_osrc h.1 h.2)
      (callLadder_st cfg hret))
    (fun v => triple_raise (recordCancel_st cfg (Is (stVal v)) (stable_Is _)) fun _ _ => False.elim)
    (fun e => triple_raise (recordCancel_st cfg (G (.raised e)) (stable_G _)) fun _ _ => False.elim)

end call

theorem HSrc.callback {e : Exn} {t : List (Req × Ans)} (h : HSrc e t) :
    e = .stuck ∨ raisedByCallback t.reverse e = true := by
  refine h.imp id fun h => ?_
  rw [raisedByCallback, raisedBy_reverse]
  exact raisedBy_mono_pred (fun r hr => by cases r <;> simp_all [Mon.isAttemptHook, Mon.isOp]) h

theorem OSrc.callback {e : Exn} {t : List (Req × Ans)} (h : OSrc e t) :
    e = .stuck ∨ raisedByCallback t.reverse e = true := by
  refine h.2.imp id fun h => ?_
  rw [raisedByCallback, raisedBy_reverse]
  exact raisedBy_mono_pred (fun r hr => by cases r <;> simp_all [C11NR.isObsHook, Mon.isOp]) h

theorem ok_of_G (cfg : Cfg) (e : Entry) (t : List (Req × Ans)) (r : Res) (h : G r t) :
    Mon.C04NR.ok cfg e t.reverse r = true := by
  unfold Mon.C04NR.ok onceOk returnOk raiseOk
  cases happ : applies cfg e t.reverse with
  | false => simp
  | true =>
    have hrej : Mon.rejected t = false := by
      simp only [applies, rejected_reverse, Bool.and_eq_true, Bool.not_eq_true'] at happ
      exact happ.2
    rcases h with h | h
    · rw [hrej] at h; cases h
    · simp only [run_reverse, if_true]
      cases r with
      | ret v =>
        obtain ⟨h1, h2⟩ := h
        simp [h1, h2]
      | outcome o tl => exact h.elim
      | raised x =>
        obtain ⟨h1, h2⟩ := h
        simp only [h1, decide_true, Bool.true_and, Bool.or_eq_true, ownException, preflightAbort,
          Bool.and_eq_true, beq_iff_eq]
        rcases h2 with h2 | h2 | h2 | h2
        · exact Or.inl (Or.inl (Or.inl h2))
        · rcases h2.callback with h3 | h3
          · exact Or.inr h3
          · exact Or.inl (Or.inl (Or.inr h3))
        · rcases h2.callback with h3 | h3
          · exact Or.inr h3
          · exact Or.inl (Or.inl (Or.inr h3))
        · exact Or.inl (Or.inr ⟨⟨h2.1, h2.2.1⟩, h2.2.2⟩)

/--
**C04, no retry component.**  For every configuration, every entry point and every world (answer stream,
clock, breaker state), the run satisfies `Mon.C04NR.ok`: in a `Policy.call` of a policy whose `retry` is
`None` that the breaker did not refuse, the operation is invoked at most once; a returned value is the very
object that invocation returned; a raised exception is that invocation's own exception object, or an error
of another of the caller's callbacks (attempt hook, abort predicate, metric / log hook of a breaker event),
or the library's `AbortRetryError` for an abort poll that answered True before the operation was invoked —
never a substitute or a wrapper.
-/
theorem no_retry_call_faithful (cfg : Cfg) (e : Entry) (w : World) :
    Mon.C04NR.ok cfg e (runEntry cfg e w).2.trace.reverse (runEntry cfg e w).1 = true := by
  cases e with
  | call => simp [Mon.C04NR.ok, onceOk, returnOk, raiseOk, applies, Entry.isPolicy]
  | execute => simp [Mon.C04NR.ok, onceOk, returnOk, raiseOk, applies, Entry.isPolicy]
  | pexecute => simp [Mon.C04NR.ok, onceOk, returnOk, raiseOk, applies, Entry.isExecute]
  | pcall =>
    cases hret : cfg.hasRetry with
    | true => simp [Mon.C04NR.ok, onceOk, returnOk, raiseOk, applies, hret]
    | false =>
      exact toRes_of_triple (Q := fun r w => Mon.C04NR.ok cfg .pcall w.trace.reverse r = true)
        (triple_mono (call_st cfg hret) (fun _ h => h) (fun _ _ => ok_of_G _ _ _ _) (fun _ _ => ok_of_G _ _ _ _))
        (startWorld w) rfl

/-- …and therefore of every call in every script of calls and clock advances on one policy object. -/
theorem no_retry_call_faithful_script (cfg : Cfg) : ∀ (steps : List Step) (w : World),
    ∀ l ∈ (runScript cfg steps w).1, Mon.C04NR.ok cfg l.entry l.trace l.res = true :=
  forall_script (P := fun e t r => Mon.C04NR.ok cfg e t r = true) cfg (no_retry_call_faithful cfg)

section conjuncts
variable (cfg : Cfg) (e : Entry) (w : World)

theorem conjuncts_nr :
    onceOk cfg e (runEntry cfg e w).2.trace.reverse (runEntry cfg e w).1 = true ∧
    returnOk cfg e (runEntry cfg e w).2.trace.reverse (runEntry cfg e w).1 = true ∧
    raiseOk cfg e (runEntry cfg e w).2.trace.reverse (runEntry cfg e w).1 = true := by
  have h := no_retry_call_faithful cfg e w
  simp only [Mon.C04NR.ok, Bool.and_eq_true] at h
  exact ⟨h.1.1, h.1.2, h.2⟩

/-- **invoked_at_most_once_nr.**  The operation is invoked at most once. -/
theorem invoked_at_most_once_nr
    (happ : applies cfg e (runEntry cfg e w).2.trace.reverse = true) :
    (run (runEntry cfg e w).2.trace.reverse).ops ≤ 1 := by
  have h := (conjuncts_nr cfg e w).1
  simpa [onceOk, happ] using h

/-- **returns_the_value_nr.**  A value returned by `call()` is the very object the (one) invocation of the
    operation returned. -/
theorem returns_the_value_nr (v : Nat)
    (happ : applies cfg e (runEntry cfg e w).2.trace.reverse = true)
    (hr : (runEntry cfg e w).1 = .ret v) :
    (run (runEntry cfg e w).2.trace.reverse).ops = 1 ∧
    (run (runEntry cfg e w).2.trace.reverse).opVal = some v := by
  have h := (conjuncts_nr cfg e w).2.1
  rw [hr] at h
  simpa [returnOk, happ] using h

/-- `call()` never returns an outcome -/
theorem never_outcome_nr (o : Outcome) (tl : List TimelineEv)
    (happ : applies cfg e (runEntry cfg e w).2.trace.reverse = true) :
    (runEntry cfg e w).1 ≠ .outcome o tl := by
  intro hr
  have h := (conjuncts_nr cfg e w).2.1
  rw [hr] at h
  simp [returnOk, happ] at h

/-- **raises_own_exception_nr.**  An exception raised by `call()` is the very exception object the (one)
    invocation raised, or was raised by another callback in the log, or is the library's `AbortRetryError`
    after an abort poll that answered True before any invocation (and then there was none), or the model's
    `stuck`. -/
theorem raises_own_exception_nr (x : Exn)
    (happ : applies cfg e (runEntry cfg e w).2.trace.reverse = true)
    (hr : (runEntry cfg e w).1 = .raised x) :
    let t := (runEntry cfg e w).2.trace.reverse
    ((run t).ops = 1 ∧ (run t).opExc = some x) ∨ raisedByCallback t x = true ∨
    (x = .libAbort ∧ (run t).preAbort = true ∧ (run t).ops = 0) ∨ x = .stuck := by
  have h := (conjuncts_nr cfg e w).2.2
  rw [hr] at h
  simp only [raiseOk, happ, if_true, Bool.or_eq_true, ownException, preflightAbort, Bool.and_eq_true,
    beq_iff_eq] at h
  rcases h with ((h | h) | h) | h
  · exact Or.inl h
  · exact Or.inr (Or.inl h)
  · exact Or.inr (Or.inr (Or.inl ⟨h.1.1, h.1.2, h.2⟩))
  · exact Or.inr (Or.inr (Or.inr h))

end conjuncts

/-! Non-vacuity and teeth, at the level of the monitor alone (runs of the model are exercised through the
    compiled driver, never by kernel reduction). -/

/-- the operation's own exception is accepted … -/
example : Mon.C04NR.ok { hasRetry := false } .pcall
    [(.op 1, .raise (.ordinary 1 .transient) 0)] (.raised (.ordinary 1 .transient)) = true := by decide

/-- … a substitute is not … -/
example : Mon.C04NR.ok { hasRetry := false } .pcall
    [(.op 1, .raise (.ordinary 1 .transient) 0)] (.raised (.ordinary 2 .transient)) = false := by decide

/-- … nor a wrapper made by the library … -/
example : Mon.C04NR.ok { hasRetry := false } .pcall
    [(.op 1, .raise (.ordinary 1 .transient) 0)]
    (.raised (.libExhausted ⟨.maxAttemptsGlobal, 1, some .transient, some "o1", none, none⟩)) = false := by decide

/-- … nor a second invocation … -/
example : Mon.C04NR.ok { hasRetry := false } .pcall
    [(.op 1, .raise (.ordinary 1 .transient) 0), (.op 2, .value 5 0)] (.ret 5) = false := by decide

/-- … nor another value … -/
example : Mon.C04NR.ok { hasRetry := false } .pcall [(.op 1, .value 5 0)] (.ret 6) = false := by decide

/-- … nor the library's `AbortRetryError` without a pre-flight abort … -/
example : Mon.C04NR.ok { hasRetry := false, abortIf := true } .pcall
    [(.abortIf, .bool false 0), (.op 1, .value 5 0)] (.raised .libAbort) = false := by decide

/-- … while a pre-flight abort is accepted exactly when the operation was not invoked. -/
example : Mon.C04NR.ok { hasRetry := false, abortIf := true } .pcall
    [(.abortIf, .bool true 0)] (.raised .libAbort) = true := by decide

end Redress.Props.C04NR
