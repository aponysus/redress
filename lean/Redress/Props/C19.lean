/-
  Redress.Props.C19 — "Built-in classifiers are total and follow the documented table and
  precedence".

  Model: `Redress/Model/Classify.lean` (read its header for what is and is not represented).
  Every theorem below quantifies over ALL exception records `e : PyExc` (all marker combinations,
  all type names, all `PyVal`s in the four attributes, all `args` lists), ALL integers `z : Int`
  and ALL strings; nothing is bounded.

  Totality.  Every model function is a total Lean function into `EClass`, so "returns an ErrorClass
  and never raises" holds of the *model* by construction (`total`); that the *Python* never raises
  is what the correspondence family `classifiers` checks.  One raising step is modelled explicitly:
  `str()` of a `sqlstate` attribute holding an int of more than 4300 digits, or a too deeply nested
  list, raises (`pyStr … = none`), and the tree as it is (/repo commits 12f78ca, fec6c4b, finding
  F9) answers UNKNOWN under `try … except Exception` — `str_failure_is_unknown`.

  The judge of C19 is `Spec.ok` (Model/Classify.lean): the answer equals `Spec.expected` wherever
  the documented table promises a class; `model_meets_spec` proves the model passes it.

  What "marker types win over numeric status/code" means per classifier (all proved below):
    * default / strict (`_classify`): markers first, then the int code, then (default only) names.
    * http: `_coerce_status` FIRST — an int status/status_code/code (or arg in 100..599) decides by
      the http table alone, markers and names are not consulted (`http_of_status`,
      `http_status_beats_marker`); only without any int status does it defer to default_classifier.
    * sqlstate: a found SQLSTATE decides before markers (`sqlstate_of_code`), else default.
    * pyodbc: never looks at markers, status or names (`sqlstate_vs_pyodbc_fallback`).
-/
import Redress.Lemmas.ClassifyLemmas

namespace Redress.C19

open Redress Redress.Classify

/-! ## totality (free in Lean) and the `str()` step -/

/-- Every classifier of the model returns one of the eight `ErrorClass` members for every
exception record.  (Trivial: the functions are total and `EClass` has eight constructors.) -/
theorem total (cl : Classifier) (e : PyExc) : run cl e ∈ EClass.all := by
  cases run cl e <;> decide

/-- When `str(sqlstate)` raises, both SQLSTATE classifiers answer UNKNOWN (`except Exception`)
(whatever markers, status, name or args the exception has). -/
theorem str_failure_is_unknown (e : PyExc) (ht : e.sqlstate.truthy = true)
    (hs : pyStr e.sqlstate = none) : sqlstate e = .unknown ∧ pyodbc e = .unknown := by
  simp [sqlstate, pyodbc, findSqlstate, ht, hs]

/-- …in particular for every int beyond CPython's int→str digit limit. -/
theorem huge_int_sqlstate_is_unknown (e : PyExc) (z : Int) (hz : e.sqlstate = .int z)
    (hbig : intStrLimit ≤ z.natAbs) : sqlstate e = .unknown ∧ pyodbc e = .unknown := by
  apply str_failure_is_unknown
  · have : z ≠ 0 := by
      intro h; subst h
      have : 0 < intStrLimit := Nat.pow_pos (by decide)
      simp at hbig; omega
    simp [hz, PyVal.truthy, this]
  · simp [hz, pyStr, Nat.not_lt.mpr hbig]

/-- non-vacuity: `10 ** 4300` is such an int -/
example : intStrLimit ≤ ((10 : Int) ^ 4300).natAbs := by
  simp [intStrLimit, Int.natAbs_pow]

theorem markerClass_eq_none (e : PyExc) : markerClass e = none ↔ e.noMarker = true := by
  simp [markerClass, PyExc.noMarker, ite_some_eq_none, and_assoc]

/-- The order among markers: TimeoutError, PermanentError, RateLimitError, ConcurrencyError,
ServerError — the first base class present decides. -/
theorem marker_order (e : PyExc) :
    (e.isTimeout = true → markerClass e = some .transient) ∧
    (e.isTimeout = false → e.isPermanent = true → markerClass e = some .permanent) ∧
    (e.isTimeout = false → e.isPermanent = false → e.isRateLimit = true →
      markerClass e = some .rateLimit) ∧
    (e.isTimeout = false → e.isPermanent = false → e.isRateLimit = false →
      e.isConcurrency = true → markerClass e = some .concurrency) ∧
    (e.isTimeout = false → e.isPermanent = false → e.isRateLimit = false →
      e.isConcurrency = false → e.isServer = true → markerClass e = some .serverError) := by
  unfold markerClass
  refine ⟨?_, ?_, ?_, ?_, ?_⟩ <;> intros <;> simp [*]

/-- the general fact; `marker_wins` below is its instance at a record with fields replaced -/
theorem marker_wins' (u : Bool) (e : PyExc) (k : EClass) (h : markerClass e = some k) :
    classify u e = k := by
  simp [classify, h]

/-- `marker_wins`: if a marker base class is present, `_classify` returns its class whatever the
type name, the four attributes and the args are replaced by (with or without name heuristics). -/
theorem marker_wins (u : Bool) (e : PyExc) (k : EClass) (h : markerClass e = some k)
    (tname : String) (status statusCode code sqlstate : PyVal) (args : List PyVal) :
    classify u { e with tname, status, statusCode, code, sqlstate, args } = k :=
  marker_wins' u _ k h

theorem marker_rows (u : Bool) (e : PyExc) :
    (e.isTimeout = true → classify u e = .transient) ∧
    (e.isTimeout = false → e.isPermanent = true → classify u e = .permanent) ∧
    (e.isTimeout = false → e.isPermanent = false → e.isRateLimit = true →
      classify u e = .rateLimit) ∧
    (e.isTimeout = false → e.isPermanent = false → e.isRateLimit = false →
      e.isConcurrency = true → classify u e = .concurrency) ∧
    (e.isTimeout = false → e.isPermanent = false → e.isRateLimit = false →
      e.isConcurrency = false → e.isServer = true → classify u e = .serverError) := by
  obtain ⟨h1, h2, h3, h4, h5⟩ := marker_order e
  exact ⟨fun a => marker_wins' u e _ (h1 a), fun a b => marker_wins' u e _ (h2 a b),
    fun a b c => marker_wins' u e _ (h3 a b c), fun a b c d => marker_wins' u e _ (h4 a b c d),
    fun a b c d f => marker_wins' u e _ (h5 a b c d f)⟩

/-- non-vacuity / precedence among markers: a class deriving from all five is TRANSIENT; a
`PermanentError` with status 429 and an "Auth…" name is PERMANENT. -/
example : Classify.default { isTimeout := true, isPermanent := true, isRateLimit := true, isConcurrency := true, isServer := true, status := .int 429 } = .transient := by decide +kernel
example : Classify.default { isPermanent := true, isServer := true, tname := "AuthError", status := .int 429 } = .permanent := by
  apply marker_wins'; decide +kernel

/-! ## numeric code: `status or code`, ints only, bools are ints -/

theorem classify_of_code (u : Bool) (e : PyExc) (z : Int) (k : EClass)
    (hm : markerClass e = none) (hz : (codeOf e).asInt = some z) (hk : codeTable z = some k) :
    classify u e = k := by
  simp [classify, hm, hz, hk]

theorem code_wins_over_name (u : Bool) (e : PyExc) (z : Int) (k : EClass)
    (hm : markerClass e = none) (hz : (codeOf e).asInt = some z) (hk : codeTable z = some k)
    (tname : String) : classify u { e with tname } = k :=
  classify_of_code u _ z k hm hz hk

/-- what `_classify` does when the markers and the numeric code do not decide -/
def afterCode (u : Bool) (e : PyExc) : EClass :=
  if u then (nameClass e.tname).getD .unknown else .unknown

theorem classify_of_no_code (u : Bool) (e : PyExc) (hm : markerClass e = none)
    (hz : (codeOf e).asInt.bind codeTable = none) : classify u e = afterCode u e := by
  unfold classify afterCode
  simp only [hm, hz]
  cases u <;> simp <;> cases nameClass e.tname <;> rfl

-- each documented row is `classify_of_code` at that code
section rows
variable (u : Bool) (e : PyExc) (hm : markerClass e = none)
include hm

theorem row_401 (hz : (codeOf e).asInt = some 401) : classify u e = .auth :=
  classify_of_code u e 401 _ hm hz codeTable_401
theorem row_403 (hz : (codeOf e).asInt = some 403) : classify u e = .permission :=
  classify_of_code u e 403 _ hm hz codeTable_403
theorem row_400 (hz : (codeOf e).asInt = some 400) : classify u e = .permanent :=
  classify_of_code u e 400 _ hm hz codeTable_400
theorem row_404 (hz : (codeOf e).asInt = some 404) : classify u e = .permanent :=
  classify_of_code u e 404 _ hm hz codeTable_404
theorem row_422 (hz : (codeOf e).asInt = some 422) : classify u e = .permanent :=
  classify_of_code u e 422 _ hm hz codeTable_422
theorem row_409 (hz : (codeOf e).asInt = some 409) : classify u e = .concurrency :=
  classify_of_code u e 409 _ hm hz codeTable_409
theorem row_408 (hz : (codeOf e).asInt = some 408) : classify u e = .transient :=
  classify_of_code u e 408 _ hm hz codeTable_408
theorem row_429 (hz : (codeOf e).asInt = some 429) : classify u e = .rateLimit :=
  classify_of_code u e 429 _ hm hz codeTable_429

theorem row_5xx (z : Int) (hz : (codeOf e).asInt = some z) (h : 500 ≤ z ∧ z < 600) :
    classify u e = .serverError :=
  classify_of_code u e z _ hm hz (codeTable_5xx z h)

/-- …and nothing outside: an int code outside the table falls through to the name heuristics
(default) or straight to UNKNOWN (strict). -/
theorem row_outside (z : Int) (hz : (codeOf e).asInt = some z) (h : ¬ InCodeTable z) :
    classify u e = afterCode u e :=
  classify_of_no_code u e hm (by simp [hz, (codeTable_eq_none z).mpr h])

/-- a code that is not an int at all (None, float — even 500.0 —, str "500", bytes, container,
object) is ignored -/
theorem row_not_int (hz : (codeOf e).asInt = none) : classify u e = afterCode u e :=
  classify_of_no_code u e hm (by simp [hz])

end rows

/-- non-vacuity of the row hypotheses, and the boundaries 499 / 500 / 599 / 600 -/
example : markerClass { status := .int 503 } = none ∧
    (codeOf { status := .int 503 }).asInt = some 503 ∧ (500 ≤ (503 : Int) ∧ (503 : Int) < 600) := by
  decide +kernel
example : strict { status := .int 499 } = .unknown ∧ strict { status := .int 500 } = .serverError ∧
    strict { status := .int 599 } = .serverError ∧ strict { status := .int 600 } = .unknown ∧
    strict { status := .int (-500) } = .unknown ∧ strict { code := .int 422 } = .permanent := by
  decide +kernel
example : ¬ InCodeTable 600 ∧ ¬ InCodeTable 499 ∧ ¬ InCodeTable 0 ∧ ¬ InCodeTable 1 := by
  unfold InCodeTable; omega
example : (codeOf { status := .float (.fin "500.0") }).asInt = none := by decide +kernel

/-- `_classify` depends on the exception only through its markers, the integer value of
`status or code`, and the type name. -/
theorem classify_congr (u : Bool) (e e' : PyExc) (h1 : markerClass e = markerClass e')
    (h2 : (codeOf e).asInt = (codeOf e').asInt) (h3 : e.tname = e'.tname) :
    classify u e = classify u e' := by
  unfold classify; rw [h1, h2, h3]

/-- `http_classifier` depends on the exception only through `_coerce_status` and, when that is
None, through what default_classifier says. -/
theorem http_congr (e e' : PyExc) (h1 : coerceStatus e = coerceStatus e')
    (h2 : Classify.default e = Classify.default e') : http e = http e' := by
  unfold http; rw [h1, h2]

/-- `isinstance(True, int)`: a bool status / status_code / code behaves as the int 1 / 0, in
`_classify` and in `http_classifier`. -/
theorem bool_is_int (u : Bool) (e : PyExc) (b : Bool) :
    classify u { e with status := .bool b } = classify u { e with status := .int (if b then 1 else 0) }
    ∧ classify u { e with code := .bool b } = classify u { e with code := .int (if b then 1 else 0) }
    ∧ http { e with status := .bool b } = http { e with status := .int (if b then 1 else 0) }
    ∧ http { e with statusCode := .bool b } = http { e with statusCode := .int (if b then 1 else 0) }
    ∧ http { e with code := .bool b } = http { e with code := .int (if b then 1 else 0) } := by
  -- `asInt` of a bool is by definition that of the int, so `_coerce_status` cannot tell them apart
  have c1 : ∀ u, classify u { e with status := .bool b }
      = classify u { e with status := .int (if b then 1 else 0) } := fun u =>
    classify_congr u _ _ rfl (by cases b <;> rfl) rfl
  have c2 : ∀ u, classify u { e with code := .bool b }
      = classify u { e with code := .int (if b then 1 else 0) } := fun u =>
    classify_congr u _ _ rfl (by simp only [codeOf, PyVal.or]; split <;> rfl) rfl
  exact ⟨c1 u, c2 u, http_congr _ _ rfl (c1 true),
    http_congr _ _ rfl (classify_congr true _ _ rfl rfl rfl), http_congr _ _ rfl (c2 true)⟩

/-- so `status = True` is the code 1, which is in no row -/
example : strict { status := .bool true, code := .int 500 } = .unknown := by decide +kernel
example : http { status := .bool true, code := .int 500 } = .unknown := by decide +kernel

/-- Python truthiness on the values a `status` can hold, as `status or code` tests it (that a falsy
`status` hands over to `code` is `falsy_status_consults_code`). -/
theorem falsy_values :
    PyVal.none.truthy = false ∧ (PyVal.bool false).truthy = false ∧ (PyVal.int 0).truthy = false ∧
    (PyVal.float (.fin "0.0")).truthy = false ∧ (PyVal.float (.fin "-0.0")).truthy = false ∧
    (PyVal.str "").truthy = false ∧ (PyVal.bytes 0).truthy = false ∧
    (∀ ok, (PyVal.container 0 ok).truthy = false) ∧ (PyVal.obj false).truthy = false ∧
    -- and some truthy ones: NaN, ±inf, -1, a huge int, "0", b"\0", [0], object()
    (PyVal.float .nan).truthy = true ∧ (PyVal.float .inf).truthy = true ∧
    (PyVal.float .negInf).truthy = true ∧ (PyVal.int (-1)).truthy = true ∧
    (PyVal.str "0").truthy = true ∧ (PyVal.bytes 1).truthy = true ∧
    (∀ ok, (PyVal.container 1 ok).truthy = true) ∧ (PyVal.obj true).truthy = true := by
  decide +kernel

theorem int_truthy (z : Int) : (PyVal.int z).truthy = true ↔ z ≠ 0 := by simp [PyVal.truthy]

/-- `status or code`: a falsy `status` (None, False, 0, 0.0, "", b"", empty container) makes the
`code` attribute the code — the status is as good as absent. -/
theorem falsy_status_consults_code (u : Bool) (e : PyExc) (h : e.status.truthy = false) :
    codeOf e = e.code ∧ classify u e = classify u { e with status := .none } := by
  have h1 : codeOf e = e.code := by simp [codeOf, PyVal.or, h]
  exact ⟨h1, classify_congr u _ _ rfl (by rw [h1]; rfl) rfl⟩

/-- …and a truthy `status` hides `code` completely, even when the status is not an int -/
theorem truthy_status_shadows_code (u : Bool) (e : PyExc) (c' : PyVal)
    (h : e.status.truthy = true) : classify u { e with code := c' } = classify u e :=
  classify_congr u _ _ rfl (by simp [codeOf, PyVal.or, h]) rfl

example : strict { status := .int 0, code := .int 429 } = .rateLimit ∧
    strict { status := .str "", code := .int 429 } = .rateLimit ∧
    strict { status := .float (.fin "-0.0"), code := .int 429 } = .rateLimit ∧
    strict { status := .str "x", code := .int 429 } = .unknown ∧
    strict { status := .float .nan, code := .int 429 } = .unknown := by decide +kernel

/-! ## strict never looks at names -/

theorem strict_ignores_name (e : PyExc) (tname' : String) :
    strict { e with tname := tname' } = strict e := rfl

/-- the general form, for two records that differ at most in their type name;
`strict_ignores_name` is its instance `e' := { e with tname := tname' }` -/
theorem strict_ignores_name' (e e' : PyExc)
    (h : { e with tname := e'.tname } = e') : strict e = strict e' := by
  rw [← h]; rfl

example : strict { tname := "AuthTimeoutForbiddenConnection" } = .unknown := by decide +kernel

def lname (e : PyExc) : List Char := asciiLower e.tname.toList

def NameAuth (n : List Char) : Prop :=
  "auth".toList <:+: n ∨ "unauthoriz".toList <:+: n ∨ "credential".toList <:+: n
def NamePermission (n : List Char) : Prop :=
  "forbid".toList <:+: n ∨ "permission".toList <:+: n
def NameTransient (n : List Char) : Prop :=
  "timeout".toList <:+: n ∨ "connection".toList <:+: n

theorem nameClass_spec (t : String) :
    let n := asciiLower t.toList
    (NameAuth n → nameClass t = some .auth) ∧
    (¬ NameAuth n → NamePermission n → nameClass t = some .permission) ∧
    (¬ NameAuth n → ¬ NamePermission n → NameTransient n → nameClass t = some .transient) ∧
    (¬ NameAuth n → ¬ NamePermission n → ¬ NameTransient n → nameClass t = none) := by
  intro n
  -- the three predicates are the three conditions of the ladder, read as propositions
  simp only [nameClass, NameAuth, NamePermission, NameTransient, ← hasInfix_iff, ← Bool.or_eq_true,
    Bool.or_assoc]
  exact ⟨fun h => if_pos h, fun h1 h2 => by rw [if_neg h1, if_pos h2],
    fun h1 h2 h3 => by rw [if_neg h1, if_neg h2, if_pos h3],
    fun h1 h2 h3 => by rw [if_neg h1, if_neg h2, if_neg h3]⟩

/-- `default_name_heuristics`: with no marker and no deciding int code, the (ASCII-)lower-cased
type name decides: auth/unauthoriz/credential → AUTH; else forbid/permission → PERMISSION; else
timeout/connection → TRANSIENT; else UNKNOWN.  Precedence AUTH > PERMISSION > TRANSIENT is the
absence of negative hypotheses in the earlier rows. -/
theorem default_name_heuristics (e : PyExc) (hm : markerClass e = none)
    (hc : (codeOf e).asInt.bind codeTable = none) :
    (NameAuth (lname e) → Classify.default e = .auth) ∧
    (¬ NameAuth (lname e) → NamePermission (lname e) → Classify.default e = .permission) ∧
    (¬ NameAuth (lname e) → ¬ NamePermission (lname e) → NameTransient (lname e) →
      Classify.default e = .transient) ∧
    (¬ NameAuth (lname e) → ¬ NamePermission (lname e) → ¬ NameTransient (lname e) →
      Classify.default e = .unknown) := by
  obtain ⟨h1, h2, h3, h4⟩ := nameClass_spec e.tname
  rw [show Classify.default e = (nameClass e.tname).getD .unknown from
    classify_of_no_code true e hm hc]
  exact ⟨fun a => by rw [h1 a]; rfl, fun a b => by rw [h2 a b]; rfl,
    fun a b c => by rw [h3 a b c]; rfl, fun a b c => by rw [h4 a b c]; rfl⟩

/-- case-insensitivity: only the lower-cased name matters … -/
theorem default_case_insensitive (e : PyExc) (t t' : String)
    (h : asciiLower t.toList = asciiLower t'.toList) :
    Classify.default { e with tname := t } = Classify.default { e with tname := t' } := by
  have hn : nameClass t = nameClass t' := by unfold nameClass; rw [h]
  simp only [Classify.default, classify, hn]
  rfl

example : NameAuth (lname { tname := "MyAUTHError" }) := Or.inl (by decide +kernel)
example : Classify.default { tname := "UnAuthorized" } = .auth ∧ Classify.default { tname := "CREDENTIALS" } = .auth ∧
    Classify.default { tname := "Forbidden" } = .permission ∧
    Classify.default { tname := "PermissionDenied" } = .permission ∧
    Classify.default { tname := "ReadTimeout" } = .transient ∧
    Classify.default { tname := "ConnectionResetError" } = .transient ∧
    -- several match: AUTH > PERMISSION > TRANSIENT
    Classify.default { tname := "TimeoutForbiddenAuth" } = .auth ∧
    Classify.default { tname := "ConnectionPermission" } = .permission ∧
    -- near misses
    Classify.default { tname := "Timeou" } = .unknown ∧ Classify.default { tname := "Time_out" } = .unknown ∧
    -- code beats name, marker beats code
    Classify.default { tname := "AuthError", status := .int 503 } = .serverError ∧
    Classify.default { tname := "AuthError", status := .int 503, isRateLimit := true } = .rateLimit ∧
    -- a code outside the table lets the name decide
    Classify.default { tname := "AuthError", status := .int 418 } = .auth := by decide +kernel

/-- `http_coerce_precedence`: `status`, then `status_code`, then `code` — the first that is an int
(a bool or 0 included) wins; then the first int arg in 100..599. -/
theorem http_coerce_precedence (e : PyExc) :
    (∀ z, e.status.asInt = some z → coerceStatus e = some z) ∧
    (∀ z, e.status.asInt = none → e.statusCode.asInt = some z → coerceStatus e = some z) ∧
    (∀ z, e.status.asInt = none → e.statusCode.asInt = none → e.code.asInt = some z →
      coerceStatus e = some z) ∧
    (e.status.asInt = none → e.statusCode.asInt = none → e.code.asInt = none →
      coerceStatus e = firstStatusArg e.args) := by
  unfold coerceStatus
  refine ⟨fun z h => ?_, fun z h1 h2 => ?_, fun z h1 h2 h3 => ?_, fun h1 h2 h3 => ?_⟩
  · simp [h]
  · simp [h1, h2]
  · simp [h1, h2, h3]
  · simp [h1, h2, h3]

/-- the args scan: the first int (bools count) in 100..599; ints outside the range are skipped -/
theorem http_first_arg {args : List PyVal} {z : Int} :
    firstStatusArg args = some z ↔
      ∃ pre a post, args = pre ++ a :: post ∧ a.asInt = some z ∧ (100 ≤ z ∧ z ≤ 599) ∧
        ∀ b ∈ pre, ∀ w, b.asInt = some w → ¬ (100 ≤ w ∧ w ≤ 599) := by
  simp only [firstStatusArg_eq, List.findSome?_eq_some_iff, Option.filter_eq_some_iff,
    Option.filter_eq_none_iff, decide_eq_true_eq, and_assoc]

theorem http_no_arg {args : List PyVal} :
    firstStatusArg args = none ↔ ∀ a ∈ args, ∀ w, a.asInt = some w → ¬ (100 ≤ w ∧ w ≤ 599) := by
  simp only [firstStatusArg_eq, List.findSome?_eq_none_iff, Option.filter_eq_none_iff,
    decide_eq_true_eq]

/-- once an int status is found, the http table alone decides: markers, names and the other
attributes are not consulted -/
theorem http_of_status (e : PyExc) (z : Int) (h : coerceStatus e = some z) :
    http e = httpTable z := by
  simp [http, h]

theorem http_no_status (e : PyExc) (h : coerceStatus e = none) : http e = Classify.default e := by
  simp [http, h]

theorem http_401 (e : PyExc) (h : coerceStatus e = some 401) : http e = .auth :=
  http_of_status e 401 h
theorem http_403 (e : PyExc) (h : coerceStatus e = some 403) : http e = .permission :=
  http_of_status e 403 h
theorem http_400 (e : PyExc) (h : coerceStatus e = some 400) : http e = .permanent :=
  http_of_status e 400 h
theorem http_404 (e : PyExc) (h : coerceStatus e = some 404) : http e = .permanent :=
  http_of_status e 404 h
theorem http_409 (e : PyExc) (h : coerceStatus e = some 409) : http e = .concurrency :=
  http_of_status e 409 h
theorem http_408 (e : PyExc) (h : coerceStatus e = some 408) : http e = .transient :=
  http_of_status e 408 h
theorem http_429 (e : PyExc) (h : coerceStatus e = some 429) : http e = .rateLimit :=
  http_of_status e 429 h
theorem http_5xx (e : PyExc) (z : Int) (h : coerceStatus e = some z) (hz : 500 ≤ z ∧ z < 600) :
    http e = .serverError :=
  (http_of_status e z h).trans (httpTable_5xx z hz)

/-- an int status outside every row gives UNKNOWN *without* consulting default_classifier —
whatever markers and name the exception has -/
theorem http_outside_unknown (e : PyExc) (z : Int) (h : coerceStatus e = some z)
    (hz : ¬ InHttpTable z) : http e = .unknown :=
  (http_of_status e z h).trans (httpTable_outside z hz)

theorem http_table (e : PyExc) (z : Int) (h : coerceStatus e = some z) :
    (z = 401 → http e = .auth) ∧ (z = 403 → http e = .permission) ∧
    (z = 400 ∨ z = 404 → http e = .permanent) ∧ (z = 409 → http e = .concurrency) ∧
    (z = 408 → http e = .transient) ∧ (z = 429 → http e = .rateLimit) ∧
    (500 ≤ z ∧ z < 600 → http e = .serverError) ∧
    (¬ InHttpTable z → http e = .unknown) :=
  ⟨fun hz => http_401 e (hz ▸ h), fun hz => http_403 e (hz ▸ h),
    fun hz => hz.elim (fun hz => http_400 e (hz ▸ h)) fun hz => http_404 e (hz ▸ h),
    fun hz => http_409 e (hz ▸ h), fun hz => http_408 e (hz ▸ h), fun hz => http_429 e (hz ▸ h),
    http_5xx e z h, http_outside_unknown e z h⟩

/-- 422 is PERMANENT for default_classifier but not a row of http_classifier -/
theorem http_422 (e : PyExc) (h : coerceStatus e = some 422) : http e = .unknown :=
  http_of_status e 422 h

/-- on its own rows http_classifier agrees with the table of `_classify` -/
theorem http_agrees_with_default_table (e : PyExc) (z : Int) (h : coerceStatus e = some z)
    (hz : InHttpTable z) : some (http e) = codeTable z := by
  rw [http_of_status e z h]; exact httpTable_eq_codeTable z hz

/-- `status = 0` / `status = False` is an int status: UNKNOWN, `code` is never looked at
(contrast `falsy_status_consults_code` for default_classifier) -/
theorem http_falsy_int_status_decides (e : PyExc)
    (h : e.status = .int 0 ∨ e.status = .bool false) : http e = .unknown := by
  have : coerceStatus e = some 0 := by
    rcases h with h | h <;> simp [coerceStatus, h, PyVal.asInt]
  exact http_of_status e 0 this

-- instances: precedence among the attributes and args; the marker does NOT win in http_classifier
example : coerceStatus { status := .str "x", statusCode := .int 404, code := .int 500 } = some 404 := by
  decide +kernel
example : http { status := .none, statusCode := .float .nan, code := .bool true, args := [.int 500] } = .unknown := by decide +kernel
example : http { args := [.bool true, .int 99, .int 600, .float (.fin "100.0"), .str "500", .int 599, .int 100] } = .serverError := by decide +kernel
example : http { tname := "AuthError", isPermanent := true, status := .int 422 } = .unknown ∧
    Classify.default { tname := "AuthError", isPermanent := true, status := .int 422 } = .permanent ∧
    Classify.default { tname := "AuthError", status := .int 422 } = .permanent := by decide +kernel
theorem http_status_beats_marker :
    http { isPermanent := true, status := .int 500 } = .serverError ∧
    Classify.default { isPermanent := true, status := .int 500 } = .permanent := by decide +kernel
example : http { status := .int 0, code := .int 500 } = .unknown ∧
    Classify.default { status := .int 0, code := .int 500 } = .serverError := by decide +kernel

/-! ## SQLSTATE: the table, for ALL strings -/

/-- `sqlstate_rows`: 40001, 40P01 → CONCURRENCY; HYT00, HYT01, 08S01 and every code starting with
"08" → TRANSIENT; every code starting with "28" → AUTH; 42000, 42P01 → PERMANENT; every other
string (of any length) → UNKNOWN. -/
theorem sqlstate_rows :
    sqlTable "40001".toList = .concurrency ∧ sqlTable "40P01".toList = .concurrency ∧
    sqlTable "HYT00".toList = .transient ∧ sqlTable "HYT01".toList = .transient ∧
    sqlTable "08S01".toList = .transient ∧
    (∀ rest, sqlTable ('0' :: '8' :: rest) = .transient) ∧
    (∀ rest, sqlTable ('2' :: '8' :: rest) = .auth) ∧
    sqlTable "42000".toList = .permanent ∧ sqlTable "42P01".toList = .permanent ∧
    (∀ code, code ≠ "40001".toList → code ≠ "40P01".toList → code ≠ "HYT00".toList →
      code ≠ "HYT01".toList → code ≠ "08S01".toList → code ≠ "42000".toList →
      code ≠ "42P01".toList → ¬ "08".toList <+: code → ¬ "28".toList <+: code →
      sqlTable code = .unknown) := by
  simp only [String.reduceToList]
  refine ⟨sqlTable_40001, sqlTable_40P01, sqlTable_HYT00, sqlTable_HYT01, sqlTable_08S01,
    fun rest => by simp [sqlTable, c40001, c40P01],
    fun rest => by simp [sqlTable, c40001, c40P01, cHYT00, cHYT01, c08S01],
    sqlTable_42000, sqlTable_42P01, ?_⟩
  intro code h1 h2 h3 h4 h5 h6 h7 h8 h9
  simp [sqlTable, c40001, c40P01, cHYT00, cHYT01, c08S01, c42000, c42P01, h1, h2, h3, h4, h5, h6, h7,
    h8, h9]

/-- non-vacuity of the last row -/
example : sqlTable "40002".toList = .unknown ∧ sqlTable "HYT02".toList = .unknown ∧
    sqlTable "80001".toList = .unknown ∧ sqlTable "hyt00".toList = .unknown ∧
    sqlTable "0".toList = .unknown ∧ sqlTable "None".toList = .unknown := by decide +kernel

/-- a found SQLSTATE decides before anything else (markers included) -/
theorem sqlstate_of_code (e : PyExc) (c : List Char) (h : findSqlstate findWord e = .code c) :
    sqlstate e = sqlTable c := by
  simp [sqlstate, h]

theorem pyodbc_of_code (e : PyExc) (c : List Char) (h : findSqlstate findBracket e = .code c) :
    pyodbc e = sqlTable c := by
  simp [pyodbc, h]

/-- a truthy `sqlstate` attribute is used (through `str()`) by both, the args are not searched -/
theorem sqlstate_attr_wins (find : List Char → Option (List Char)) (e : PyExc) (c : List Char)
    (ht : e.sqlstate.truthy = true) (hs : pyStr e.sqlstate = some c) :
    findSqlstate find e = .code c := by
  simp [findSqlstate, ht, hs]

/-- a falsy `sqlstate` attribute (None, "", 0, …) makes both search the args -/
theorem sqlstate_falsy_attr_searches_args (find : List Char → Option (List Char)) (e : PyExc)
    (ht : e.sqlstate.truthy = false) :
    findSqlstate find e = (match extract find e.args with | some c => .code c | none => .none) := by
  unfold findSqlstate; rw [if_neg (by simp [ht])]
  cases extract find e.args <;> rfl

/-- `_extract_sqlstate`: non-strings are skipped, strings without a match are skipped, the first
string with a match decides -/
theorem extract_spec (find : List Char → Option (List Char)) (v : PyVal) (rest : List PyVal) :
    (∀ s m, v = .str s → find s.toList = some m → extract find (v :: rest) = some m) ∧
    (∀ s, v = .str s → find s.toList = none → extract find (v :: rest) = extract find rest) ∧
    ((∀ s, v ≠ .str s) → extract find (v :: rest) = extract find rest) := by
  refine ⟨fun s m hv hf => ?_, fun s hv hf => ?_, fun hv => ?_⟩
  · subst hv; simp [extract, hf]
  · subst hv; simp [extract, hf]
  · cases v <;> simp_all [extract]

/-- `sqlstate_vs_pyodbc_fallback`: the two classifiers agree whenever they look at the same
SQLSTATE — always when the attribute is truthy — and differ exactly in the fallback: no SQLSTATE
→ `default_classifier` for sqlstate_classifier, UNKNOWN for pyodbc_classifier. -/
theorem sqlstate_vs_pyodbc_fallback (e : PyExc) :
    (e.sqlstate.truthy = true → sqlstate e = pyodbc e) ∧
    (∀ c, findSqlstate findWord e = .code c → findSqlstate findBracket e = .code c →
      sqlstate e = pyodbc e) ∧
    (findSqlstate findWord e = .none → sqlstate e = Classify.default e) ∧
    (findSqlstate findBracket e = .none → pyodbc e = .unknown) ∧
    (findSqlstate findWord e = .none → findSqlstate findBracket e = .none →
      (sqlstate e = pyodbc e ↔ Classify.default e = .unknown)) := by
  refine ⟨fun ht => ?_, fun c h1 h2 => ?_, fun h => ?_, fun h => ?_, fun h1 h2 => ?_⟩
  · cases hs : pyStr e.sqlstate <;> simp [sqlstate, pyodbc, findSqlstate, ht, hs]
  · simp [sqlstate, pyodbc, h1, h2]
  · simp [sqlstate, h]
  · simp [pyodbc, h]
  · simp [sqlstate, pyodbc, h1, h2]

/-- non-vacuity: they do differ in the fallback, and the two regexes can pick different codes -/
example : sqlstate { tname := "ConnectionError" } = .transient ∧
    pyodbc { tname := "ConnectionError" } = .unknown := by decide +kernel
example : sqlstate { isTimeout := true, args := [.str "nothing"] } = .transient ∧
    pyodbc { isTimeout := true, args := [.str "nothing"] } = .unknown := by decide +kernel
example : sqlstate { args := [.str "ERROR [40001] serialization failure"] } = .unknown ∧
    pyodbc { args := [.str "ERROR [40001] serialization failure"] } = .concurrency := by decide +kernel
example : sqlstate { isPermanent := true, sqlstate := .str "08001" } = .transient := by decide +kernel
example : sqlstate { sqlstate := .int 40001 } = .concurrency ∧
    sqlstate { sqlstate := .int 28 } = .auth ∧
    sqlstate { sqlstate := .float (.fin "28.5") } = .auth ∧
    sqlstate { sqlstate := .bool true, args := [.str "40001"] } = .unknown ∧
    sqlstate { sqlstate := .bytes 5, args := [.str "40001"] } = .unknown ∧
    sqlstate { sqlstate := .int 0, args := [.str "40001"] } = .concurrency := by decide +kernel

/-- a bare 5-character code is found by the `\b…\b` regex -/
theorem bare_code_found (m : List Char) (hl : m.length = 5) (hc : m.all isCode = true) :
    findWord m = some m := by
  have := searchWord_at_start (post := []) hl hc (by simp [RightB])
  simpa [findWord] using this

/-- when a bracketed code comes first, both regexes return *that* code -/
theorem bracketed_code_first (m post : List Char) (hl : m.length = 5) (hc : m.all isCode = true) :
    findBracket ('[' :: m ++ ']' :: post) = some m ∧
    findWord ('[' :: m ++ ']' :: post) = some m := by
  refine ⟨searchBracket_at_start hl hc, ?_⟩
  -- no match starts at `[`, which is neither a code nor a word character
  have h0 : wordMatchHere ('[' :: (m ++ ']' :: post)) = none := by
    simp [wordMatchHere, show isCode '[' = false by decide]
  rw [findWord, List.cons_append, searchWord]
  simp only [h0, Bool.false_eq_true, if_false]
  exact searchWord_at_start hl hc (by simp [RightB]; decide)

theorem bracketed_code_found_by_both (m post : List Char) (hl : m.length = 5)
    (hc : m.all isCode = true) :
    findBracket ('[' :: m ++ ']' :: post) = some m ∧
    (∃ m', findWord ('[' :: m ++ ']' :: post) = some m') :=
  have h := bracketed_code_first m post hl hc
  ⟨h.1, m, h.2⟩

/-- soundness of the `\[([0-9A-Z]{5})\]` search: what is returned is a 5-character `[0-9A-Z]` word
that occurs in the string between brackets (the induction of `searchWord_sound` without the
boundary state) -/
theorem bracket_regex_sound (s m : List Char) (h : findBracket s = some m) :
    ∃ pre post, s = pre ++ '[' :: m ++ ']' :: post ∧ m.length = 5 ∧ m.all isCode = true := by
  unfold findBracket at h
  induction s with
  | nil => simp [searchBracket] at h
  | cons c cs ih =>
    unfold searchBracket at h
    split at h
    · rename_i m' hm'
      cases h
      obtain ⟨post, hs, hl, hc⟩ := bracketMatchHere_eq_some.mp hm'
      exact ⟨[], post, by simpa using hs, hl, hc⟩
    · obtain ⟨pre, post, hs, hl, hc⟩ := ih h
      exact ⟨c :: pre, post, by simp [hs], hl, hc⟩

/-- whatever the pyodbc regex finds, the sqlstate regex finds something too (`[` and `]` are word
boundaries) — possibly an earlier, different 5-character word -/
theorem bracket_found_implies_word_found (s : List Char) (h : (findBracket s).isSome = true) :
    (findWord s).isSome = true := by
  obtain ⟨m, hm⟩ := Option.isSome_iff_exists.mp h
  obtain ⟨pre, post, hs, hl, hc⟩ := bracket_regex_sound s m hm
  have := searchWord_complete (p := false) (pre := pre ++ ['[']) (post := ']' :: post) hl hc
    (Or.inr ⟨pre, '[', rfl, by decide⟩) (by simp [RightB]; decide)
  rw [hs]
  simpa [findWord] using this

/-- soundness of the `\b…\b` search: what is returned is a 5-character `[0-9A-Z]` word that occurs
in the string between word boundaries -/
theorem word_regex_sound (s m : List Char) (h : findWord s = some m) :
    ∃ pre post, s = pre ++ m ++ post ∧ m.length = 5 ∧ m.all isCode = true ∧
      LeftB false pre ∧ RightB post :=
  searchWord_sound h

/-- completeness of the `\b…\b` search: a properly delimited code anywhere in the string is enough
for a match to be reported -/
theorem word_regex_complete (pre m post : List Char) (hl : m.length = 5)
    (hc : m.all isCode = true) (hL : LeftB false pre) (hr : RightB post) :
    (findWord (pre ++ m ++ post)).isSome = true :=
  searchWord_complete hl hc hL hr

/-- the same for the bracket search (the induction of `searchWord_complete` without the boundary state) -/
theorem bracket_regex_complete (pre m post : List Char) (hl : m.length = 5)
    (hc : m.all isCode = true) : (findBracket (pre ++ '[' :: m ++ ']' :: post)).isSome = true := by
  unfold findBracket
  induction pre with
  | nil => rw [List.nil_append, searchBracket_at_start hl hc]; rfl
  | cons x pre' ih =>
    simp only [List.cons_append] at ih ⊢
    unfold searchBracket
    split
    · simp
    · exact ih

example : findWord "[HYT00] [Microsoft][ODBC] Login timeout".toList = some "HYT00".toList ∧
    findBracket "[HYT00] [Microsoft][ODBC] Login timeout".toList = some "HYT00".toList ∧
    findWord "xHYT00".toList = none ∧ findWord "HYT00_".toList = none ∧
    findWord "HYT000".toList = none ∧ findWord "(HYT00)".toList = some "HYT00".toList ∧
    findWord "hyt00".toList = none ∧ findBracket "[HYT0]".toList = none ∧
    findBracket "[[40001]]".toList = some "40001".toList ∧
    findWord "ab 12345 cd".toList = some "12345".toList := by decide +kernel
example : "HYT00".toList.length = 5 ∧ "HYT00".toList.all isCode = true := by decide +kernel

/-- `absent_lib_is_default`: definitional in the model (`optionalAbsent` *is* `default`, because
each of the five modules begins `try: import_module(…) except Exception: return
default_classifier(exc)`); the content is in the correspondence, which calls the five real
functions with the libraries absent (and with `import_module` forced to raise). -/
theorem absent_lib_is_default (lib : Lib) (e : PyExc) :
    run (.optional lib) e = run .default e := rfl

/-! ## the model delivers everything the documented table promises -/

/-- For every classifier and every exception record the model's answer passes the judge `Spec.ok`:
it is the class `Spec.expected` promises (documented markers, status rows, name rows, SQLSTATE
rows) wherever one is promised.  The driver prints `Spec.expected` for the harness to hold the
implementation's answers against. -/
theorem model_meets_spec (cl : Classifier) (e : PyExc) : Spec.ok cl e (run cl e) = true := by
  -- the judge accepts as soon as every promise is kept
  suffices h : ∀ k, Spec.expected cl e = some k → run cl e = k by
    unfold Spec.ok
    split
    · simp [h _ ‹_›]
    · rfl
  intro k hk
  cases cl with
  | default => exact (Spec.dflt_eq e).symm.trans (Option.some.inj hk)
  | strict => exact (Spec.strict_eq e).symm.trans (Option.some.inj hk)
  | optional lib => exact (Spec.dflt_eq e).symm.trans (Option.some.inj hk)
  | http =>
    obtain ⟨z, hz, hr⟩ := Option.bind_eq_some_iff.mp hk
    exact (http_of_status e z hz).trans (Spec.statusRow_http z k hr)
  | sqlstate =>
    obtain ⟨c, hc, hr⟩ := Option.bind_eq_some_iff.mp hk
    exact (sqlstate_of_code e c (Spec.sqlCode_found _ e c hc)).trans (Spec.sqlRow_sound c k hr)
  | pyodbc =>
    obtain ⟨c, hc, hr⟩ := Option.bind_eq_some_iff.mp hk
    exact (pyodbc_of_code e c (Spec.sqlCode_found _ e c hc)).trans (Spec.sqlRow_sound c k hr)

end Redress.C19
