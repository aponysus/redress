/-
  C15 — Observability hooks can never alter control flow.

  The twin semantics: `World.silent := true` makes `askHook` (the `ask` used at the three
  observability call sites — `on_metric`, `on_log`, `before_sleep`, incl. the breaker events) treat an
  `Exception` raised by the hook as a normal return of the same duration.  That *is* "the same run
  with silent hooks": same operation, clock and callbacks, except that no observability hook ever
  raises an ordinary exception.  `σ w` puts the world `w` into that semantics and rewrites its log
  accordingly.

  Theorem: every entry point is **equivariant** under σ — for every configuration, entry point and
  world (every answer stream: any hook may raise any `Exception` at any invocation, always or once),
  the silent-hook run returns/raises the same thing and ends in the σ-image of the faulty-hook run's
  final world: the same answers consumed, the same clock, the same `_RetryState`, the same budget
  and breaker state, and a log that differs only in the answers of the faulty hooks.  In particular the
  two runs make the same requests in the same order — the same operation invocations, strategy calls,
  sleeps, breaker and budget interactions, AND the same metric/log/timeline emissions (a failing hook
  does not prevent the other sinks from receiving the event).

  Proof: `Lemmas/Eqv.lean` (commuting with a change of world is closed under bind / tryCatch / if / match;
  `ask` for non-hook requests and every state access commute with σ; a hook call *inside* its
  `try … except Exception: pass` does — `EqvS.askHook`) and `Lemmas/EqvProcs.lean` (one lemma per
  procedure of the model, ≈100, each `unfold; comm […]`).

  BaseException-only kinds (KeyboardInterrupt, …) raised by a hook are NOT silenced by σ: they
  propagate in both runs (the property speaks of "ordinary exceptions").
-/
import Redress.Lemmas.EqvProcs

namespace Redress.Props.C15

open Redress Twin

/-- **C15.**  Running any entry point in the silent-hook twin semantics gives the same result and the
    σ-image of the final world. -/
theorem hooks_cannot_alter_control_flow (cfg : Cfg) (e : Entry) (w : World) :
    runEntry cfg e (σ w) = ((runEntry cfg e w).1, σ (runEntry cfg e w).2) := by
  have hs : ({ σ w with trace := [], timeline := [], opCalls := 0 } : World)
      = σ { w with trace := [], timeline := [], opCalls := 0 } := rfl
  cases e <;> simp only [runEntry, hs, EStateM.run]
  · rw [(runCall_eqv cfg).eq]; exact toRes_mapRes _ _
  · rw [(runExecute_eqv cfg).eq]; exact toResO_mapRes σ (fun _ => rfl) _ _
  · rw [(call_eqv cfg).eq]; exact toRes_mapRes _ _
  · rw [(execute_eqv cfg).eq]; exact toResO_mapRes σ (fun _ => rfl) _ _

/-- the result is the same -/
theorem same_result (cfg : Cfg) (e : Entry) (w : World) :
    (runEntry cfg e (σ w)).1 = (runEntry cfg e w).1 := by
  rw [hooks_cannot_alter_control_flow]

/-- the two logs make the same requests in the same order (operation invocations, strategy calls,
    sleeps, events to every sink, breaker and budget interactions); only answers of faulty hooks differ -/
theorem same_requests (cfg : Cfg) (e : Entry) (w : World) :
    (runEntry cfg e (σ w)).2.trace.map (·.1) = (runEntry cfg e w).2.trace.map (·.1) := by
  rw [hooks_cannot_alter_control_flow]
  simp only [σ, List.map_map]
  congr 1
  funext x
  simp only [Function.comp, silenceX]
  split <;> rfl

/-- every non-hook exchange is identical, answer included -/
theorem same_exchanges (cfg : Cfg) (e : Entry) (w : World) :
    (runEntry cfg e (σ w)).2.trace = (runEntry cfg e w).2.trace.map silenceX := by
  rw [hooks_cannot_alter_control_flow]
  rfl

/-- same clock, same retry state, same shared components, same unconsumed answers -/
theorem same_state (cfg : Cfg) (e : Entry) (w : World) :
    let a := (runEntry cfg e (σ w)).2
    let b := (runEntry cfg e w).2
    a.now = b.now ∧ a.answers = b.answers ∧ a.budget = b.budget ∧ a.breaker = b.breaker ∧ a.xc = b.xc
      ∧ a.rs = b.rs ∧ a.timeline = b.timeline := by
  simp only [hooks_cannot_alter_control_flow]
  exact ⟨rfl, rfl, rfl, rfl, rfl, rfl, rfl⟩

/-- …and for whole scripts of calls and clock advances on one policy object. -/
theorem script_equivariant (cfg : Cfg) : ∀ (steps : List Step) (w : World),
    (runScript cfg steps (σ w)).2 = σ (runScript cfg steps w).2 ∧
    (runScript cfg steps (σ w)).1.map (·.res) = (runScript cfg steps w).1.map (·.res) := by
  intro steps
  induction steps with
  | nil => intro w; exact ⟨rfl, rfl⟩
  | cons st rest ih =>
    intro w
    cases st with
    | advance d =>
      have : ({ σ w with now := (σ w).now + d } : World) = σ { w with now := w.now + d } := rfl
      simp only [runScript, this]
      exact ih _
    | run e =>
      simp only [runScript, hooks_cannot_alter_control_flow]
      have := ih (runEntry cfg e w).2
      exact ⟨this.1, by simp [this.2]⟩

end Redress.Props.C15
