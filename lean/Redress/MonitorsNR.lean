/-
  Redress.MonitorsNR — C04 and C11 for a `Policy` WITHOUT a retry component (one attempt, no loop).

  `Mon.C04` / `Mon.C11` are guarded by `hasLoop cfg e`: they say nothing about `Policy.call` /
  `Policy.execute` when `retry is None`.  The two monitors below close that gap.  Same shape as
  `Monitors.lean`: a left fold over the exchange log (oldest first) and a verdict on the result; one
  `def …Ok : Monitor` per conjunct and `ok` their conjunction.  `Props/C04NR.lean`, `Props/C11NR.lean`
  prove them true of every run of the model.

  Also here (no Mathlib, iterated by the driver through `MonitorsNR.all`): `Mon.C11H`, the one clause of C11
  — `attempts` = number of invocations — for the runs `Mon.C11` does not judge because an attempt hook or
  the abort predicate RAISED (e.g. a start hook that aborts the run with `AbortRetryError`).
  `Props/C11H.lean` proves it true of every run of the model.
-/
import Redress.Monitors

namespace Redress
namespace Mon

/-! ### C04NR — `Policy.call` without a retry component surfaces the single attempt -/

namespace C04NR

/-- Fold state shared by C04NR and C11NR: what the log says about the (single) invocation. -/
structure St where
  ops : Nat := 0                    -- invocations of the operation so far
  opVal : Option Nat := none        -- the object the last invocation returned
  opExc : Option Exn := none        -- the exception the last invocation raised
  preAbort : Bool := false          -- the abort predicate answered True before any invocation
deriving DecidableEq, Repr, Inhabited

def step (s : St) (x : Req × Ans) : St :=
  match x.1, x.2 with
  | .op _, a =>
    { s with ops := s.ops + 1,
             opVal := (match a with | .value v _ => some v | _ => none),
             opExc := (match a with | .raise e _ => some e | _ => none) }
  | .abortIf, .bool true _ => { s with preAbort := s.preAbort || s.ops == 0 }
  | _, _ => s

def run (t : Trace) : St := t.foldl step {}

/--
Guards (the monitor is `true` without looking otherwise):
* `e.isPolicy && !cfg.hasRetry` — a `Policy` whose `retry` is `None` (with a retry component: `Mon.C04`);
* `!e.isExecute` — `call()` (C11NR's otherwise);
* `!Mon.rejected t` — the breaker refused the call (`CircuitOpenError`: C07's).

No guard for raising attempt hooks / `abort_if`: in `call()` their errors simply propagate (or are
replaced by a later hook's error), which `raiseOk` allows as "raised by another callback in the log".
-/
def applies (cfg : Cfg) (e : Entry) (t : Trace) : Bool :=
  e.isPolicy && !cfg.hasRetry && !e.isExecute && !Mon.rejected t

/-- the exception is the very one the (single) invocation of the operation raised -/
def ownException (s : St) (x : Exn) : Bool := s.ops == 1 && s.opExc == some x

/-- some callback other than the operation raised `x` (attempt hook, abort predicate, metric / log hook
    of a breaker event) -/
def raisedByCallback (t : Trace) (x : Exn) : Bool := Mon.raisedBy (fun r => !Mon.isOp r) t x

/-- the library's own `AbortRetryError()`: the abort predicate answered True before the operation was
    invoked, and then it never was -/
def preflightAbort (s : St) (x : Exn) : Bool := x == .libAbort && s.preAbort && s.ops == 0

/-- the operation is invoked at most once -/
def onceOk : Monitor := fun cfg e t _ =>
  if applies cfg e t then decide ((run t).ops ≤ 1) else true

/-- `call()` returns the very object the (one) invocation returned; it never returns an outcome -/
def returnOk : Monitor := fun cfg e t r =>
  if applies cfg e t then
    (match r with
     | .ret v => (run t).ops == 1 && (run t).opVal == some v
     | .outcome .. => false
     | .raised _ => true)
  else true

/-- what `call()` raises is the operation's own exception object, or an error of another of the caller's
    callbacks, or the library's `AbortRetryError` for a pre-flight abort (`stuck`: model only) — never a
    substitute or a wrapper -/
def raiseOk : Monitor := fun cfg e t r =>
  if applies cfg e t then
    (match r with
     | .raised x =>
       ownException (run t) x || raisedByCallback t x || preflightAbort (run t) x
       || x == .stuck                                       -- model only: the oracle ran dry
     | _ => true)
  else true

def ok : Monitor := fun cfg e t r => onceOk cfg e t r && returnOk cfg e t r && raiseOk cfg e t r

end C04NR

/-! ### C11NR — `Policy.execute` without a retry component returns a faithful outcome -/

namespace C11NR

open C04NR (St run)

/--
Guards:
* `e.isPolicy && !cfg.hasRetry` — a `Policy` whose `retry` is `None` (with a retry component: `Mon.C11`);
* `e.isExecute` — `execute()` (C04NR's otherwise);
* `!Mon.rejected t` — the breaker refused the call (a not-ok outcome carrying `CircuitOpenError`: C07's);
* `!Mon.attemptHookFault t` — an attempt hook or `abort_if` itself RAISED: DESIGN §6.2 (`execute()` treats
  an error of `on_attempt_start` as the failure of an attempt in which the operation was never invoked,
  and an error of `on_attempt_end` / `abort_if` propagates), as in `Mon.C11`.
-/
def applies (cfg : Cfg) (e : Entry) (t : Trace) : Bool :=
  e.isPolicy && !cfg.hasRetry && e.isExecute && !Mon.rejected t && !Mon.attemptHookFault t

/-- the metric / log hooks (here: of the breaker's events) -/
def isObsHook : Req → Bool
  | .metric .. | .log .. => true
  | _ => false

/-- an ABORTED outcome carries no failure information -/
def abortedForm (o : Outcome) : Bool :=
  o.stop == some .aborted && o.cause.isNone && o.lastClass.isNone && o.lastExc.isNone

/-- a failure outcome describes the exception `x` the operation raised -/
def exceptionForm (o : Outcome) (x : Exn) : Bool :=
  o.stop.isNone && o.cause == some .exception && o.lastExc == some x.ref
  && o.lastClass == some (Policy.defaultClass x)

/-- `attempts` is the number of times the operation was invoked -/
def attemptsV (s : St) (o : Outcome) : Bool := o.attempts == s.ops

/-- `ok` exactly when the invocation answered a value; `value` is then that very object and no stop reason
    or failure field is set -/
def okV (s : St) (o : Outcome) : Bool :=
  (o.ok == s.opVal.isSome)
  && (!o.ok || (o.value == s.opVal && o.stop.isNone && o.cause.isNone && o.lastClass.isNone
                && o.lastExc.isNone))

/-- a not-ok outcome: no value; if the operation raised `x` (then `x` is an `Exception`) it is ABORTED
    without failure fields when `x` is an abort kind and otherwise has no stop reason and describes `x`
    (`cause = "exception"`, `last_exception` is `x`, `last_class = default_classifier(x)`); if the operation
    raised nothing it was never invoked: the pre-flight abort poll answered True, and the outcome is
    ABORTED without failure fields -/
def failureV (s : St) (o : Outcome) : Bool :=
  o.ok ||
    (o.value.isNone
     && (match s.opExc with
         | some x => x.isException && (if x.isAbort then abortedForm o else exceptionForm o x)
         | none => s.ops == 0 && s.preAbort && abortedForm o))

/-- `next_sleep_s` and `last_result` are never set -/
def constV (o : Outcome) : Bool := o.nextSleep.isNone && o.lastResult.isNone

/-- what comes out of `execute()` as an exception is never an `Exception`: it is a BaseException-only kind
    (CancelledError, KeyboardInterrupt, SystemExit, GeneratorExit) that the operation itself raised, or
    that a metric / log hook raised (`stuck`: model only) -/
def propagationV (s : St) (t : Trace) (x : Exn) : Bool :=
  !x.isException
  && (s.opExc == some x || Mon.raisedBy isObsHook t x
      || x == .stuck)                                       -- model only: the oracle ran dry

/-- `execute()` never returns like `call()` -/
def neverRetOk : Monitor := fun cfg e t r =>
  if applies cfg e t then
    (match r with
     | .ret _ => false
     | _ => true)
  else true

/-- the operation is invoked at most once, and `attempts` is the number of times it was invoked -/
def attemptsOk : Monitor := fun cfg e t r =>
  if applies cfg e t then
    decide ((run t).ops ≤ 1)
    && (match r with
        | .outcome o _ => attemptsV (run t) o
        | _ => true)
  else true

/-- `ok` ⇔ the invocation answered a value (`okV`) -/
def okOk : Monitor := fun cfg e t r =>
  if applies cfg e t then
    (match r with
     | .outcome o _ => okV (run t) o
     | _ => true)
  else true

/-- a not-ok outcome describes the single attempt's failure, or the pre-flight abort (`failureV`) -/
def failureOk : Monitor := fun cfg e t r =>
  if applies cfg e t then
    (match r with
     | .outcome o _ => failureV (run t) o
     | _ => true)
  else true

/-- `next_sleep_s` and `last_result` are never set (`constV`) -/
def constOk : Monitor := fun cfg e t r =>
  if applies cfg e t then
    (match r with
     | .outcome o _ => constV o
     | _ => true)
  else true

/-- only BaseException-only kinds propagate (`propagationV`) -/
def propagationOk : Monitor := fun cfg e t r =>
  if applies cfg e t then
    (match r with
     | .raised x => propagationV (run t) t x
     | _ => true)
  else true

def ok : Monitor := fun cfg e t r =>
  neverRetOk cfg e t r && attemptsOk cfg e t r && okOk cfg e t r && failureOk cfg e t r
  && constOk cfg e t r && propagationOk cfg e t r

end C11NR

/-! ### C11H — `attempts` = number of invocations, also when an attempt hook ABORTS the run -/

namespace C11H

/-- An error that `execute()`'s `except` ladder hands to its `except Exception` arm, i.e. treats as the
    FAILURE of the current attempt: an `Exception` that is neither an `AbortRetryError` (ends the run as
    ABORTED) nor a `RetryExhaustedError` (re-raised).  `CancelledError`, `KeyboardInterrupt`, `SystemExit`,
    `GeneratorExit` are not `Exception`s (re-raised). -/
def isFault (x : Exn) : Bool := x.isException && !x.isAbort && !x.isExhausted

/-- `on_attempt_start` or `abort_if` — the two callbacks `execute()` runs in an attempt BEFORE it
    invokes the operation — answered by raising such an error -/
def isPreOpFault (x : Req × Ans) : Bool :=
  (match x.1 with
   | .attemptStart _ | .abortIf => true
   | _ => false)
  && (match x.2 with
      | .raise e _ => isFault e
      | _ => false)

/-- Some such error is FOLLOWED, later in the log, by an invocation of the operation.  (`execute()` counts
    the attempt whose start hook / abort poll failed as a failed attempt in which the operation was never
    invoked — DESIGN §6.2 — so once the loop goes on and invokes the operation again, `attempts`, which is
    the attempt NUMBER of the last invocation, is ahead of the number of invocations by design.  As long as
    no invocation follows, the two still agree and the monitor judges the run.) -/
def preOpFault : Trace → Bool
  | [] => false
  | x :: rest => (isPreOpFault x && rest.any (fun y => isOp y.1)) || preOpFault rest

/--
`execute()`'s outcome reports `attempts` = the number of times the operation was invoked.

Guards (the monitor is `true` without looking otherwise):
* `e.isExecute` — `execute()` (`call()` has no outcome);
* `hasLoop cfg e` — there is a retry loop (a `Policy` without a retry component: `Mon.C11NR`);
* `!preOpFault t` — no invocation follows a start hook / abort predicate that raised a plain `Exception`.

NOT guarded (unlike `Mon.C11`): an attempt hook or `abort_if` raising `AbortRetryError`, a cancellation
kind or `RetryExhaustedError`; an end hook raising anything; a start hook / `abort_if` raising a plain
`Exception` after which the operation is not invoked again; a call rejected by the breaker (`attempts = 0`,
no invocation).
-/
def ok : Monitor := fun cfg e t r =>
  if e.isExecute && hasLoop cfg e && !preOpFault t then
    (match r with
     | .outcome o _ => o.attempts == opCount t
     | _ => true)
  else true

end C11H

/-! ### C04S — `RetryExhaustedError.stop_reason` / `last_class` are the ones the hooks were told -/

namespace C04S

/--
C04: "… it raises RetryExhaustedError whose stop_reason, attempts, last_class, … describe that final attempt".
`Mon.C04.fieldsOk` pins `stop_reason` only as far as "SCHEDULED iff deferred".  Which rule stopped the final
attempt is visible in the log whenever a metric / log hook is configured: it is the `stop_reason` tag of
the terminal event (the event is emitted by the rule that stops the run).  This monitor says that the error
`call()` raises carries THAT stop reason and class — `Mon.C14.lastOk` on each configured sink, restricted to
results that are a library-made `RetryExhaustedError`.  Guards: `Mon.C14.guard` (normal end, no attempt hook /
abort predicate raised) and not rejected by the breaker.  `Props/C04Stop.lean` derives it from C14's
`terminal_tags`.
-/
def ok : Monitor := fun cfg e t r =>
  match r with
  | .raised (.libExhausted _) =>
    if C14.guard cfg e t r && !Mon.rejected t then
      (!cfg.metric || C14.lastOk true (C14.run cfg t).ms r)
      && (!cfg.log || C14.lastOk true (C14.run cfg t).ls r)
    else true
  | _ => true

end C04S

/-! ### C09 — exactly one record in EVERY run (no environment guard); proofs in `Props/C09Once.lean` -/

namespace C09

/-- in EVERY run (no environment guard): no record before / without admission, and an admitted call
    makes exactly one.  NOT true of every run of the model: see `Props.C09Once.once_refuted`. -/
def once : Monitor := fun cfg e t _ =>
  if e.isPolicy && cfg.breaker.isSome then
    let s := run t
    s.preRecords == 0
    && (match s.admitted with
        | some true => s.records.length == 1
        | _ => s.records.isEmpty)
  else true

/-- the exceptions that `call()`'s `except` ladder answers with an unconditional `record_cancel`:
    `except (KeyboardInterrupt, SystemExit)`, and `except asyncio.CancelledError` in `AsyncPolicy` -/
def cancelArm (cfg : Cfg) (e : Exn) : Bool := (cfg.isAsync && e == .cancelled) || e.isKiSe

/-- has a `record_success` been seen; did a metric / log hook AFTER it raise a `cancelArm` kind -/
structure DSt where
  seen : Bool := false
  bad : Bool := false

def dstep (cfg : Cfg) (s : DSt) (x : Req × Ans) : DSt :=
  match x.1, x.2 with
  | .breakerSuccess, _ => { s with seen := true }
  | .metric .., .raise e _ => { s with bad := s.bad || (s.seen && cancelArm cfg e) }
  | .log .., .raise e _ => { s with bad := s.bad || (s.seen && cancelArm cfg e) }
  | _, _ => s

/-- The one situation in which a call makes a second record: in `call()` (not `execute()`), after the
    `record_success`, the metric / log hook (reporting the breaker's `circuit_closed` event) raised
    KeyboardInterrupt / SystemExit — or CancelledError, `AsyncPolicy` — which `call()`'s own `except`
    arm for that kind answers with `record_cancel`. -/
def successEventFault (cfg : Cfg) (e : Entry) (t : Trace) : Bool :=
  !e.isExecute && (t.foldl (dstep cfg) {}).bad

/-- `once` under the narrowest guard: unless `successEventFault` -/
def onceGuarded : Monitor := fun cfg e t r =>
  if successEventFault cfg e t then true else once cfg e t r

/-- in EVERY run (no guard at all): no record before / without admission; an admitted call makes
    exactly one record — or exactly `[record_success, record_cancel]`, and that precisely when
    `successEventFault` -/
def onceExact : Monitor := fun cfg e t _ =>
  if e.isPolicy && cfg.breaker.isSome then
    let s := run t
    s.preRecords == 0
    && (match s.admitted with
        | some true =>
          if successEventFault cfg e t then s.records == [.breakerSuccess, .breakerCancel]
          else s.records.length == 1
        | _ => s.records.isEmpty)
  else true

end C09

/-! ### C16 — what may cut a due sleep short; proofs in `Props/C16Cut.lean` -/

namespace C16

/-- errors the log shows being raised by a callback whose errors PROPAGATE (i.e. not an `Exception`
    raised by a metric / log / before_sleep hook, which the library swallows) -/
def props (t : Trace) : List Exn := t.filterMap raisedOf

/-- the run ended with an error that can legitimately end it while a granted retry's sleep is due: one
    that a callback raised and that propagates, or the `AbortRetryError` the library makes when
    `abort_if` answers true, or the model's `stuck`; or it ended as ABORTED -/
def cutBy (t : Trace) : Res → Bool
  | .raised e => (props t).contains e || e == .libAbort || e == .stuck
  | .outcome o _ => o.stop == some .aborted
  | .ret _ => false

/-- a run in which a granted retry's sleep is still due at the end (and no stop decision was taken) was
    cut short by an error that propagates, by `abort_if`, or ended as ABORTED -/
def cutOk : Monitor := fun cfg e t r =>
  !hasLoop cfg e || !((run cfg t).pending && (run cfg t).stopped.isNone) || cutBy t r

end C16

/-! ### C02 — the deadline envelope under the weaker guard `quietTail`; proofs in `Props/C02Tail.lean` -/

namespace C02

/-- requests during which time may pass: attempts, sleeps, and the callbacks that run BEFORE the
    library measures the remaining time -/
def free : Req → Bool
  | .op _ | .sleeper .. | .classify _ | .resultClassify _ | .stratRecordFailure .. => true
  | _ => false

/-- time passes only in `free` requests -/
def quietTail (t : Trace) : Bool := t.all fun x => free x.1 || x.2.dur == 0

/-- `Mon.C02.ok` with the weaker guard -/
def okTail : Monitor := fun cfg e t _ =>
  if hasLoop cfg e && quietTail t then
    let s := run cfg (retryTrace t)
    !s.bad && (!honestSleeper t || decide (s.slept ≤ cfg.deadline))
  else true

end C02

/-! ### C13 — the abort poll that guards a backoff sleep is made after the retry was decided; proofs in `Props/C13Poll.lean` -/

namespace C13

/-- has `abort_if` been polled since the strategy last computed a delay? -/
structure PSt where
  fresh : Bool := false
  bad : Bool := false
deriving DecidableEq, Repr

def pstep (cfg : Cfg) (s : PSt) (x : Req × Ans) : PSt :=
  match x.1 with
  | .strategy .. => { s with fresh := false }
  | .abortIf => { s with fresh := true }
  | .sleeper .. => { s with bad := s.bad || (cfg.abortIf && !s.fresh) }
  | _ => s

/-- every backoff sleep is preceded by an abort poll made AFTER the delay of that retry was computed -/
def pollFresh : Monitor := fun cfg e t _ => !hasLoop cfg e || !(t.foldl (pstep cfg) {}).bad

/-- the same fold with the set of requests that reset `fresh` as a parameter (the `.sleeper` is judged
    first, then resets like any other request) -/
def pstepR (rst : Req → Bool) (cfg : Cfg) (s : PSt) (x : Req × Ans) : PSt :=
  match x.1 with
  | .abortIf => { s with fresh := true }
  | .sleeper l d =>
    { fresh := s.fresh && !rst (.sleeper l d), bad := s.bad || (cfg.abortIf && !s.fresh) }
  | r => if rst r then { s with fresh := false } else s

def pollFreshR (rst : Req → Bool) : Monitor :=
  fun cfg e t _ => !hasLoop cfg e || !(t.foldl (pstepR rst cfg) {}).bad

/-- `pollFresh`'s reset set -/
def stratReq : Req → Bool
  | .strategy .. => true
  | _ => false

/-- what `_handle_failure` does when it grants a retry: the strategy, the budget, the `retry` event -/
def grantReq : Req → Bool
  | .strategy .. | .budgetConsume | .metric .. | .log .. => true
  | _ => false

/-- everything but the two callbacks that lie between the abort poll and the sleep it guards -/
def tightReq : Req → Bool
  | .sleepHandler .. | .beforeSleep .. => false
  | _ => true

/-- every backoff sleep is preceded by an abort poll made after the strategy computed the delay, the
    budget was consulted and the `retry` event was reported -/
def pollFreshLate : Monitor := pollFreshR grantReq

/-- between a backoff sleep and the last abort poll before it, nothing happens but the sleep handler
    and the before-sleep hook -/
def pollFreshTight : Monitor := pollFreshR tightReq

theorem pstep_eq (cfg : Cfg) (s : PSt) (x : Req × Ans) : pstep cfg s x = pstepR stratReq cfg s x := by
  obtain ⟨r, a⟩ := x
  cases r <;> simp [pstep, pstepR, stratReq]

theorem pollFresh_eq : pollFresh = pollFreshR stratReq := by
  funext cfg e t r
  have : pstep cfg = pstepR stratReq cfg := by funext s x; exact pstep_eq cfg s x
  simp [pollFresh, pollFreshR, this]

/-- `s₂` is at least as suspicious as `s₁` -/
def PSt.le (s₁ s₂ : PSt) : Prop := (s₂.fresh = true → s₁.fresh = true) ∧ (s₁.bad = true → s₂.bad = true)

theorem pstepR_mono {rst₁ rst₂ : Req → Bool} (h : ∀ r, rst₁ r = true → rst₂ r = true) (cfg : Cfg)
    (s₁ s₂ : PSt) (x : Req × Ans) (hs : s₁.le s₂) : (pstepR rst₁ cfg s₁ x).le (pstepR rst₂ cfg s₂ x) := by
  obtain ⟨h1, h2⟩ := hs
  unfold pstepR
  split
  · exact ⟨fun _ => rfl, h2⟩
  · rename_i l d _
    refine ⟨fun hf => ?_, fun hb => ?_⟩
    · simp only [Bool.and_eq_true, Bool.not_eq_true'] at hf ⊢
      refine ⟨h1 hf.1, ?_⟩
      cases e : rst₁ (.sleeper l d)
      · rfl
      · rw [h _ e] at hf; cases hf.2
    · simp only [Bool.or_eq_true, Bool.and_eq_true, Bool.not_eq_true'] at hb ⊢
      rcases hb with hb | ⟨hc, hf⟩
      · exact Or.inl (h2 hb)
      · refine Or.inr ⟨hc, ?_⟩
        cases e : s₂.fresh
        · rfl
        · rw [h1 e] at hf; cases hf
  · cases e₁ : rst₁ x.1
    · cases e₂ : rst₂ x.1
      · exact ⟨h1, h2⟩
      · exact ⟨fun hf => (nomatch hf), h2⟩
    · rw [h _ e₁]; exact ⟨fun hf => (nomatch hf), h2⟩

theorem foldl_mono {rst₁ rst₂ : Req → Bool} (h : ∀ r, rst₁ r = true → rst₂ r = true) (cfg : Cfg) :
    ∀ (t : Trace) (s₁ s₂ : PSt), s₁.le s₂ → (t.foldl (pstepR rst₁ cfg) s₁).le (t.foldl (pstepR rst₂ cfg) s₂) := by
  intro t
  induction t with
  | nil => intro s₁ s₂ hs; exact hs
  | cons x t ih => intro s₁ s₂ hs; exact ih _ _ (pstepR_mono h cfg s₁ s₂ x hs)

/-- resetting `fresh` less often makes the monitor weaker -/
theorem pollFreshR_mono {rst₁ rst₂ : Req → Bool} (h : ∀ r, rst₁ r = true → rst₂ r = true) (cfg : Cfg)
    (e : Entry) (t : Trace) (r : Res) (h2 : pollFreshR rst₂ cfg e t r = true) : pollFreshR rst₁ cfg e t r = true := by
  have := (foldl_mono h cfg t {} {} ⟨fun a => a, fun a => a⟩).2
  simp only [pollFreshR, Bool.or_eq_true, Bool.not_eq_true'] at h2 ⊢
  rcases h2 with h2 | h2
  · exact Or.inl h2
  · right
    cases hb : (List.foldl (pstepR rst₁ cfg) {} t).bad
    · rfl
    · rw [this hb] at h2; cases h2

theorem stratReq_grant : ∀ r, stratReq r = true → grantReq r = true := by
  intro r; cases r <;> simp [stratReq, grantReq]

theorem grantReq_tight : ∀ r, grantReq r = true → tightReq r = true := by
  intro r; cases r <;> simp [grantReq, tightReq]

end C13

end Mon

namespace MonitorsNR

open Mon

/-- registry in the shape of `Monitors.all`: (property id, monitor name, monitor) -/
def all : List (String × String × Monitor) :=
  [ ("C04", "no_retry_call", C04NR.ok), ("C11", "no_retry_execute", C11NR.ok),
    ("C11", "attempts_eq_invocations", C11H.ok), ("C04", "exhausted_stop_reason", C04S.ok),
    ("C09", "once_exact", C09.onceExact), ("C16", "cut_by_propagating_error", C16.cutOk),
    ("C02", "deadline_tail_quiet", C02.okTail),
    -- C05 "… and next_sleep_s report": the conjunct of C16 that a deferred run REPORTS the delay (Props/C05Defer.lean)
    ("C05", "deferred_delay_reported", C16.deferOk),
    ("C13", "poll_after_delay_computed", C13.pollFresh) ]

end MonitorsNR
end Redress
